import SaVerif.Props.C19
import SaVerif.Gen.DepTuples
/-!
# C31 — flush emits statements in an order that satisfies every constraint

`Gen/DepTuples.lean` is regenerated on every run from the `uow.dependencies.update([...])`
calls of orm/dependency.py (per relationship direction, per-mapper and per-state form).
The unit of work executes its actions in the order `topological.sort(dependencies,
actions)` (M-TOPO, Props/C19).  The theorems below combine the two: for ANY set of
dependency tuples that contains the tuples a relationship registers, ANY set of actions
containing the relevant ones, and ANY output of the sort, the row that is referenced is
written before the row that references it, and removed after it.

`σ` instantiates the symbolic names of dependency.py with the concrete actions of a
flush (SaveUpdateAll(mapper) …, or SaveUpdateState(state) … in the per-state form).
That the real flush registers exactly these tuples, with these actions present, is
checked on every real flush by harness/props/c31.py.
-/
namespace SaVerif.Props.C31
open SaVerif.Topo SaVerif.Gen.DepTuples

def inst (σ : Sym → Node) (tab : List (Sym × Sym)) : List Edge := tab.map (fun p => (σ p.1, σ p.2))

theorem before_of_mem {ts : List Edge} {items out : List Node} {σ : Sym → Node} {tab : List (Sym × Sym)}
    {a b : Sym} (h : sort ts items = some out) (hsub : ∀ e ∈ inst σ tab, e ∈ ts)
    (hab : (a, b) ∈ tab) (ha : σ a ∈ items) (hb : σ b ∈ items) :
    out.idxOf (σ a) < out.idxOf (σ b) :=
  C19.sort_respects ts items out (σ a) (σ b) h (hsub _ (List.mem_map.2 ⟨(a, b), hab, rfl⟩)) ha hb

theorem before_via {ts : List Edge} {items out : List Node} {σ : Sym → Node} {tab : List (Sym × Sym)}
    {a m b : Sym} (h : sort ts items = some out) (hsub : ∀ e ∈ inst σ tab, e ∈ ts)
    (h1 : (a, m) ∈ tab) (h2 : (m, b) ∈ tab) (ha : σ a ∈ items) (hm : σ m ∈ items) (hb : σ b ∈ items) :
    out.idxOf (σ a) < out.idxOf (σ b) :=
  Nat.lt_trans (before_of_mem h hsub h1 ha hm) (before_of_mem h hsub h2 hm hb)

section
variable (ts : List Edge) (items out : List Node) (σ : Sym → Node) (h : sort ts items = some out)
include h

/-! One-to-many (the FK is on the child), no post_update. -/

/-- **INSERT of the parent row precedes INSERT/UPDATE of its children** -/
theorem o2m_parent_saved_first (hsub : ∀ e ∈ inst σ (o2m_prop false), e ∈ ts)
    (hp : σ .parent_saves ∈ items) (hm : σ .after_save ∈ items) (hc : σ .child_saves ∈ items) :
    out.idxOf (σ .parent_saves) < out.idxOf (σ .child_saves) :=
  before_via h hsub (by decide) (by decide) hp hm hc

/-- **DELETE of the children precedes DELETE of the parent row** -/
theorem o2m_children_deleted_first (hsub : ∀ e ∈ inst σ (o2m_prop false), e ∈ ts)
    (hc : σ .child_deletes ∈ items) (hp : σ .parent_deletes ∈ items) :
    out.idxOf (σ .child_deletes) < out.idxOf (σ .parent_deletes) :=
  before_of_mem h hsub (by decide) hc hp

/-- children that stay get their FK rewritten (their UPDATE is part of `child_saves`, decided
    by `before_delete`) before the parent row is deleted -/
theorem o2m_fk_cleared_before_parent_delete (hsub : ∀ e ∈ inst σ (o2m_prop false), e ∈ ts)
    (hb : σ .before_delete ∈ items) (hc : σ .child_saves ∈ items) (hp : σ .parent_deletes ∈ items) :
    out.idxOf (σ .before_delete) < out.idxOf (σ .child_saves) ∧
    out.idxOf (σ .child_saves) < out.idxOf (σ .parent_deletes) :=
  ⟨before_of_mem h hsub (by decide) hb hc,
   before_of_mem h hsub (by decide) hc hp⟩

/-! Many-to-one (the FK is on the "parent" = the referencing side), no post_update. -/

/-- **the referenced row is inserted before the row that references it** -/
theorem m2o_referenced_saved_first (hsub : ∀ e ∈ inst σ (m2o_prop false), e ∈ ts)
    (hc : σ .child_saves ∈ items) (hm : σ .after_save ∈ items) (hp : σ .parent_saves ∈ items) :
    out.idxOf (σ .child_saves) < out.idxOf (σ .parent_saves) :=
  before_via h hsub (by decide) (by decide) hc hm hp

/-- **the referencing row is deleted (or re-pointed) before the referenced row is deleted** -/
theorem m2o_referencing_removed_first (hsub : ∀ e ∈ inst σ (m2o_prop false), e ∈ ts)
    (hp : σ .parent_deletes ∈ items) (hs : σ .parent_saves ∈ items) (hc : σ .child_deletes ∈ items) :
    out.idxOf (σ .parent_deletes) < out.idxOf (σ .child_deletes) ∧
    out.idxOf (σ .parent_saves) < out.idxOf (σ .child_deletes) :=
  ⟨before_of_mem h hsub (by decide) hp hc,
   before_of_mem h hsub (by decide) hs hc⟩

/-! Many-to-many (the association rows are written by `after_save` / `before_delete`). -/

/-- **both end rows exist before the association row is inserted** -/
theorem m2m_ends_saved_before_association (pu : Bool) (hsub : ∀ e ∈ inst σ (m2m_prop pu), e ∈ ts)
    (hp : σ .parent_saves ∈ items) (hc : σ .child_saves ∈ items) (hm : σ .after_save ∈ items) :
    out.idxOf (σ .parent_saves) < out.idxOf (σ .after_save) ∧
    out.idxOf (σ .child_saves) < out.idxOf (σ .after_save) :=
  ⟨before_of_mem h hsub (by unfold m2m_prop; decide) hp hm,
   before_of_mem h hsub (by unfold m2m_prop; decide) hc hm⟩

/-- **association rows are deleted before either end row is deleted** -/
theorem m2m_association_deleted_before_ends (pu : Bool) (hsub : ∀ e ∈ inst σ (m2m_prop pu), e ∈ ts)
    (hb : σ .before_delete ∈ items) (hp : σ .parent_deletes ∈ items) (hc : σ .child_deletes ∈ items) :
    out.idxOf (σ .before_delete) < out.idxOf (σ .parent_deletes) ∧
    out.idxOf (σ .before_delete) < out.idxOf (σ .child_deletes) :=
  ⟨before_of_mem h hsub (by unfold m2m_prop; decide) hb hp,
   before_of_mem h hsub (by unfold m2m_prop; decide) hb hc⟩

/-! post_update (mutually dependent rows): the FK is written by a separate UPDATE. -/

/-- many-to-one with post_update: both INSERTs precede the UPDATE that sets the FK -/
theorem m2o_post_update_breaks_cycle (hsub : ∀ e ∈ inst σ (m2o_prop true), e ∈ ts)
    (hp : σ .parent_saves ∈ items) (hc : σ .child_saves ∈ items) (hm : σ .after_save ∈ items)
    (hu : σ .parent_post_updates ∈ items) :
    out.idxOf (σ .parent_saves) < out.idxOf (σ .parent_post_updates) ∧
    out.idxOf (σ .child_saves) < out.idxOf (σ .parent_post_updates) :=
  ⟨before_via h hsub (by decide) (by decide) hp hm hu,
   before_via h hsub (by decide) (by decide) hc hm hu⟩

/-- on delete the FK is cleared by an UPDATE before either row is deleted -/
theorem m2o_post_update_clears_before_delete (hsub : ∀ e ∈ inst σ (m2o_prop true), e ∈ ts)
    (hu : σ .parent_pre_updates ∈ items) (hp : σ .parent_deletes ∈ items) (hc : σ .child_deletes ∈ items) :
    out.idxOf (σ .parent_pre_updates) < out.idxOf (σ .child_deletes) ∧
    out.idxOf (σ .parent_pre_updates) < out.idxOf (σ .parent_deletes) :=
  ⟨before_of_mem h hsub (by decide) hu hc,
   before_of_mem h hsub (by decide) hu hp⟩

omit h in
/-- the post_update table registers neither direction between the two INSERTs, nor the edge
    `after_save → parent_saves` that would order them through `child_saves → after_save` -/
theorem m2o_post_update_no_insert_order :
    (Sym.child_saves, Sym.parent_saves) ∉ m2o_prop true ∧ (Sym.parent_saves, Sym.child_saves) ∉ m2o_prop true ∧
    (Sym.after_save, Sym.parent_saves) ∉ m2o_prop true := by decide +kernel

theorem o2m_post_update_breaks_cycle (hsub : ∀ e ∈ inst σ (o2m_prop true), e ∈ ts)
    (hp : σ .parent_saves ∈ items) (hc : σ .child_saves ∈ items) (hm : σ .after_save ∈ items)
    (hu : σ .child_post_updates ∈ items) :
    out.idxOf (σ .parent_saves) < out.idxOf (σ .child_post_updates) ∧
    out.idxOf (σ .child_saves) < out.idxOf (σ .child_post_updates) :=
  ⟨before_via h hsub (by decide) (by decide) hp hm hu,
   before_via h hsub (by decide) (by decide) hc hm hu⟩

/-! Per-state form (self-referential relationships, mapper-level cycles). -/

/-- one-to-many, one (parent state, child state) pair: the parent row is saved before the
    child row -/
theorem o2m_state_parent_first (cd : Bool) (hsub : ∀ e ∈ inst σ (o2m_state false false cd), e ∈ ts)
    (hp : σ .save_parent ∈ items) (hc : σ .child_action ∈ items) :
    out.idxOf (σ .save_parent) < out.idxOf (σ .child_action) :=
  before_of_mem h hsub (by cases cd <;> decide) hp hc

/-- on delete the child is handled before the parent row is deleted -/
theorem o2m_state_child_before_parent_delete (cd : Bool) (hsub : ∀ e ∈ inst σ (o2m_state false true cd), e ∈ ts)
    (hc : σ .child_action ∈ items) (hp : σ .delete_parent ∈ items) :
    out.idxOf (σ .child_action) < out.idxOf (σ .delete_parent) :=
  before_of_mem h hsub (by cases cd <;> decide) hc hp

/-- many-to-one, per state: the referenced row is saved first -/
theorem m2o_state_referenced_first (hsub : ∀ e ∈ inst σ (m2o_state false false false), e ∈ ts)
    (hc : σ .child_action ∈ items) (hm : σ .after_save ∈ items) (hp : σ .save_parent ∈ items) :
    out.idxOf (σ .child_action) < out.idxOf (σ .save_parent) :=
  before_via h hsub (by decide) (by decide) hc hm hp

/-- a referenced row being deleted is deleted after the referencing row -/
theorem m2o_state_referencing_deleted_first (hsub : ∀ e ∈ inst σ (m2o_state false true true), e ∈ ts)
    (hp : σ .delete_parent ∈ items) (hc : σ .child_action ∈ items) :
    out.idxOf (σ .delete_parent) < out.idxOf (σ .child_action) :=
  before_of_mem h hsub (by decide) hp hc

end

/-! Non-vacuity: a concrete flush (Parent 0/3, Child 1/4 saves/deletes, ProcessAll 2/5). -/

def demoσ : Sym → Node
  | .parent_saves => 0 | .child_saves => 1 | .after_save => 2 | .parent_deletes => 3
  | .child_deletes => 4 | .before_delete => 5 | _ => 9

example : (sort (inst demoσ (o2m_prop false) ++ [(0, 3), (1, 4)]) [4, 3, 5, 1, 0, 2]).isSome = true := by
  decide +kernel

example : ∀ e ∈ inst demoσ (o2m_prop false), e ∈ inst demoσ (o2m_prop false) ++ [(0, 3), (1, 4)] := by
  intro e he; exact List.mem_append_left _ he

end SaVerif.Props.C31
