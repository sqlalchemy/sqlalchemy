import SaVerif.Lemmas.ExprSem
import SaVerif.Model.ExprGrammar
/-!
# C07 — IN / NOT IN with expanding parameters follows SQL semantics

Three-valued `IN` (`evalIn`, validated against the real SQLite by `corr/c07:evalIn`) is
characterised for every left value and every list.  What the compiler emits for `x.in_(list)` /
`x.not_in(list)` / their negations (`Model/Expr.lean`: `_in_impl`, `_negate_in_binary`,
`visit_not_in_op_binary`, `visit_empty_set_op_expr`, the dialects' `visit_empty_set_expr`)
evaluates, under the standard interpretation of the emitted tokens, to that three-valued `IN` —
for every list *including the empty one* on every dialect, every left value including NULL.
The emitted empty-set forms (`x IN (NULL) AND (1 != 1)` has an `AND` at a position SQLAlchemy
treats as precedence 5) are well bracketed in the parent contexts listed at `contextsOK`.
-/
namespace SaVerif.Props.C07
open SaVerif.Expr SaVerif.Pratt SaVerif.Expr.Gen

/-- **in_eq_or_chain**: `x IN (v₁,…,vₙ)` is the OR of the equalities; the empty list gives FALSE -/
theorem in_eq_or_chain (x : Val) (vs : List Val) :
    evalIn x vs = (vs.map (evalCmp .eq x)).foldr or3 (some false) := by
  induction vs with
  | nil => rfl
  | cons v vs ih => simp [evalIn, ih]

theorem notin_eq_not_or_chain (x : Val) (vs : List Val) :
    evalNotIn x vs = not3 ((vs.map (evalCmp .eq x)).foldr or3 (some false)) := by
  simp [evalNotIn, in_eq_or_chain]

theorem in_empty (x : Val) : evalIn x [] = some false ∧ evalNotIn x [] = some true := ⟨rfl, rfl⟩

theorem in_true_iff (x : Val) (vs : List Val) :
    evalIn x vs = some true ↔ ∃ v ∈ vs, evalCmp .eq x v = some true := by
  induction vs with
  | nil => simp [evalIn]
  | cons v vs ih => simp [evalIn, or3_eq_true, ih]

theorem in_false_iff (x : Val) (vs : List Val) :
    evalIn x vs = some false ↔ ∀ v ∈ vs, evalCmp .eq x v = some false := by
  induction vs with
  | nil => simp [evalIn]
  | cons v vs ih => simp [evalIn, or3_eq_false, ih]

theorem eq_null_left (v : Val) : evalCmp .eq .null v = none := by
  cases v <;> rfl

theorem eq_null_right (x : Val) : evalCmp .eq x .null = none := by
  cases x <;> rfl

theorem in_null_left (vs : List Val) :
    evalIn .null vs = if vs = [] then some false else none := by
  induction vs with
  | nil => rfl
  | cons v vs ih =>
    simp only [evalIn, eq_null_left, ih]
    cases vs with
    | nil => rfl
    | cons w ws => simp [or3]

theorem in_null_member (x : Val) (vs : List Val) :
    evalIn x (.null :: vs) = if evalIn x vs = some true then some true else none := by
  simp only [evalIn, eq_null_right]
  cases h : evalIn x vs with
  | none => rfl
  | some b => cases b <;> rfl

theorem in_append (x : Val) (as bs : List Val) :
    evalIn x (as ++ bs) = or3 (evalIn x as) (evalIn x bs) := by
  induction as with
  | nil => simp [evalIn, or3_false_left]
  | cons a as ih => simp [evalIn, ih, or3_assoc]

theorem in_duplicate (x v : Val) (vs : List Val) :
    evalIn x (v :: v :: vs) = evalIn x (v :: vs) := by
  simp [evalIn, ← or3_assoc, or3_idem]

theorem in_perm (x : Val) {as bs : List Val} (h : as.Perm bs) : evalIn x as = evalIn x bs := by
  induction h with
  | nil => rfl
  | cons v _ ih => simp [evalIn, ih]
  | swap a b l => simp only [evalIn]; rw [← or3_assoc, ← or3_assoc, or3_comm (evalCmp .eq x b)]
  | trans _ _ ih1 ih2 => exact ih1.trans ih2

theorem notin_true_iff (x : Val) (vs : List Val) :
    evalNotIn x vs = some true ↔ ∀ v ∈ vs, evalCmp .eq x v = some false := by
  rw [← in_false_iff]
  simp only [evalNotIn]
  cases evalIn x vs with
  | none => simp [not3]
  | some b => cases b <;> simp [not3]

/-- non-vacuity: the three outcomes all occur -/
example : evalIn (.int 1) [.int 2, .null, .int 1] = some true := by decide
example : evalIn (.int 3) [.int 2, .null, .int 1] = none := by decide
example : evalIn (.int 3) [.int 2, .int 1] = some false := by decide
example : evalNotIn (.int 3) [.int 2, .null] = none := by decide

section Sem
variable [Abs]

/-- the element `_in_impl` builds for `x.in_(vals)` (left operand already built) -/
def inExpr (x : SaExpr) (vals : List Lit) (ty : Ty) : SaExpr :=
  mkBinary x (.inlist vals ty .in_op) .in_op .bool (some .not_in_op) none

def notInExpr (x : SaExpr) (vals : List Lit) (ty : Ty) : SaExpr :=
  mkBinary x (.inlist vals ty .not_in_op) .not_in_op .bool (some .in_op) none

/-- the two have the same precedence and neither is naturally self-precedent -/
theorem isPrecedent_in_notin (op : Op) :
    isPrecedent op (some .in_op) = isPrecedent op (some .not_in_op) := by
  revert op
  apply Op.forall_of_all
  decide +kernel

/-- negation rewrites `x IN list` into `x NOT IN list` *and* switches the parameter's
    `expand_op` (`BindParameter._negate_in_binary`), and back; the operands are re-grouped
    against the new operator by the `BinaryExpression` constructor -/
theorem negate_in (x : SaExpr) (vals : List Lit) (ty : Ty) :
    negate (inExpr x vals ty) =
      .binary .not_in_op (selfGroup (some .not_in_op) (selfGroup (some .in_op) x))
        (.inlist vals ty .not_in_op) (some .in_op) none .bool ∧
    negate (notInExpr x vals ty) =
      .binary .in_op (selfGroup (some .in_op) (selfGroup (some .not_in_op) x))
        (.inlist vals ty .in_op) (some .not_in_op) none .bool :=
  ⟨rfl, rfl⟩

/-- For every dialect, every list *including the empty one* and every left operand, the emitted
    tokens of `x.in_(vals)` evaluate to the three-valued IN of the left operand's value and the
    list's values. -/
theorem in_render_sound (env : String → Val) (d : Dialect) (x : SaExpr) (vals : List Lit) (ty : Ty) :
    evalG (stdI env) (render d true (inExpr x vals ty)) =
      .s (ofTV (evalIn (evalG (stdI env) (render d true (selfGroup (some .in_op) x))).scalar
        (vals.map litVal))) :=
  evalG_render_in env d (op := .in_op) rfl _ vals ty _ _ _

/-- same for `x.not_in(vals)`: the emitted `(x NOT IN (…))` — for the empty list
    `(x NOT IN (NULL) OR (1 = 1))` resp. SQLite's empty sub-select — is the negation -/
theorem notin_render_sound (env : String → Val) (d : Dialect) (x : SaExpr) (vals : List Lit) (ty : Ty) :
    evalG (stdI env) (render d true (notInExpr x vals ty)) =
      .s (ofTV (evalNotIn (evalG (stdI env) (render d true (selfGroup (some .not_in_op) x))).scalar
        (vals.map litVal))) :=
  evalG_render_in env d (op := .not_in_op) rfl _ vals ty _ _ _

/-- **empty_in_render_sound**: corollary for the empty list — FALSE / TRUE whatever the left
    operand evaluates to, NULL included, on every dialect -/
theorem empty_in_render_sound (env : String → Val) (d : Dialect) (x : SaExpr) (ty : Ty) :
    evalG (stdI env) (render d true (inExpr x [] ty)) = .s (.int 0) ∧
    evalG (stdI env) (render d true (notInExpr x [] ty)) = .s (.int 1) := by
  constructor
  · rw [in_render_sound]; rfl
  · rw [notin_render_sound]; rfl

/-- **rebind_length_independent**: for non-empty lists the emitted tree is one fixed context
    around the parenthesised literal list — the left operand's rendering and every grouping
    decision are independent of the list and its length (what re-expanding a cached statement
    relies on) -/
theorem rebind_length_independent (d : Dialect) (x : SaExpr) (ty : Ty) :
    ∃ ctx : G → G, ∀ vals : List Lit, vals ≠ [] →
      render d true (inExpr x vals ty) = ctx (G.br .paren (litListG d true vals)) := by
  exact ⟨fun rhs => G.inf .in_ (opText .in_op) (render d true (selfGroup (some .in_op) x)) rhs,
    fun vals h => render_inNode d true .in_op _ vals ty _ _ _ rfl h⟩

theorem grouping_independent_of_list (a : Option Op) (x : SaExpr) (vs ws : List Lit) (ty : Ty) :
    wouldGroup a (inExpr x vs ty) = wouldGroup a (inExpr x ws ty) ∧
    wouldGroup a (notInExpr x vs ty) = wouldGroup a (notInExpr x ws ty) := by
  constructor <;> rfl

end Sem

def colA : SaExpr := .col "a" .int
def colB : SaExpr := .col "b" .bool
def colC : SaExpr := .col "c" .int

def parents : List Op :=
  [.add, .sub, .mul, .concat_op, .eq, .ne, .lt, .le, .gt, .ge, .is_, .is_not,
   .is_distinct_from, .is_not_distinct_from, .like_op, .not_like_op, .and_, .or_]

/-- the two empty-set forms and their negations, with an ordinary IN and NOT IN beside them -/
def subjects : List SaExpr :=
  [inExpr colA [] .int, notInExpr colA [] .int, inExpr colA [.int 1, .null] .int,
   notInExpr colA [.int 1] .int, negate (inExpr colA [] .int), negate (notInExpr colA [] .int)]

/-- every subject, as either operand of every parent operator, as member of `and_` / `or_`,
    under NOT, and as CASE condition, renders to a tree the backend grammar reads back -/
def contextsOK (d : Dialect) (g : Grammar) : Bool :=
  subjects.all fun s =>
    (parents.all fun p =>
      wb g (render d true (mkBinary s colC p .bool none none)).norm &&
      wb g (render d true (mkBinary colC s p .bool none none)).norm) &&
    wb g (render d true (boolConstruct .and_ [s, colB, s])).norm &&
    wb g (render d true (boolConstruct .or_ [colB, s])).norm &&
    wb g (render d true (boolConstruct .and_ [boolConstruct .or_ [s, colB], s])).norm &&
    wb g (render d true (negate (boolConstruct .and_ [s, colB]))).norm &&
    wb g (render d true (mkCase .absent [s, colC] colA)).norm

/-- one kernel evaluation for the three dialects: the elements are the same on each -/
theorem empty_in_contexts :
    contextsOK .sqlite sqlite = true ∧ contextsOK .postgresql postgresql = true ∧
      contextsOK .mysql mysql = true := by
  decide +kernel

theorem empty_in_contexts_sqlite : contextsOK .sqlite sqlite = true := empty_in_contexts.1
theorem empty_in_contexts_postgresql : contextsOK .postgresql postgresql = true := empty_in_contexts.2.1
theorem empty_in_contexts_mysql : contextsOK .mysql mysql = true := empty_in_contexts.2.2

/-- and the emitted text is read back exactly (instance of C01's round trip) -/
theorem empty_in_text_roundtrip :
    parse postgresql (render .postgresql true (boolConstruct .or_ [inExpr colA [] .int, colB])).print
      = some (render .postgresql true (boolConstruct .or_ [inExpr colA [] .int, colB])).norm := by
  have h : wb postgresql
      (render .postgresql true (boolConstruct .or_ [inExpr colA [] .int, colB])).norm = true := by
    decide +kernel
  rw [← print_norm]
  exact parse_print postgresql _ h

end SaVerif.Props.C07
