import SaVerif.Model.Shard
import SaVerif.Lemmas.Lookup
/-!
# C53 — Horizontal sharding routes reads and writes per the shard choosers

Theorems about M-ORM/shard (`SaVerif/Model/Shard.lean`), for every chooser function,
number of shards, data set and pending list.
-/
namespace SaVerif.Props.C53
open SaVerif.Shard

def pendingFor (c : Cfg) (l : List (Nat × Row)) (k s : Nat) : Option (Nat × Row) :=
  l.find? (fun e => e.1 == k && c.chooser e.2.region == s)

theorem pendingFor_cons (c : Cfg) (x : Nat × Row) (l : List (Nat × Row)) (k s : Nat) :
    pendingFor c (x :: l) k s =
      if x.1 = k ∧ c.chooser x.2.region = s then some x else pendingFor c l k s := by
  by_cases h : x.1 = k ∧ c.chooser x.2.region = s <;> simp [pendingFor, h]

theorem pendingFor_eq_none {c : Cfg} {l : List (Nat × Row)} {k : Nat} (h : ∀ e ∈ l, e.1 ≠ k)
    (s : Nat) : pendingFor c l k s = none :=
  List.find?_eq_none.2 fun e he hc => h e he (eq_of_beq (Bool.and_eq_true_iff.1 hc).1)

theorem pendingFor_of_mem (c : Cfg) {pk : Nat} {r : Row} (s : Nat) {l : List (Nat × Row)}
    (hnd : (l.map (·.1)).Nodup) (hin : (pk, r) ∈ l) :
    pendingFor c l pk s = if c.chooser r.region = s then some (pk, r) else none := by
  rw [pendingFor, Lookup.find?_only hin fun e he hp =>
    Lookup.eq_of_key_eq hnd hin he (eq_of_beq (Bool.and_eq_true_iff.1 hp).1)]
  simp

theorem pendingFor_append (c : Cfg) (l₁ l₂ : List (Nat × Row)) (k s : Nat) :
    pendingFor c (l₁ ++ l₂) k s = (pendingFor c l₁ k s).or (pendingFor c l₂ k s) :=
  List.find?_append

theorem pendingFor_reverse_eq_none {c : Cfg} {l : List (Nat × Row)} {k s : Nat} :
    pendingFor c l.reverse k s = none ↔ pendingFor c l k s = none := by
  simp only [pendingFor, List.find?_eq_none, List.mem_reverse]

/-- The INSERTs of a flush: the last pending entry routed to `(s, k)` decides the row. -/
theorem flushNew_spec (c : Cfg) (objs : Nat → Nat → Option Obj) (l : List (Nat × Row)) :
    ∀ (sh sh' : Nat → DB), flushNew c objs l sh = some sh' →
      ∀ s k, sh' s k = (match pendingFor c l.reverse k s with
                        | some e => some e.2
                        | none => sh s k) := by
  induction l with
  | nil => intro _ _ h _ _; cases h; rfl
  | cons x rest ih =>
    intro sh sh' h s k
    simp only [flushNew] at h
    split at h
    · cases h
    · rw [ih _ _ h, List.reverse_cons, pendingFor_append]
      cases pendingFor c rest.reverse k s with
      | some e => rfl
      | none =>
        -- no later entry is routed to `(s, k)`: `x` decides, by the two `if`s of the updated shards
        rw [Option.none_or, pendingFor_cons]
        by_cases hs : s = c.chooser x.2.region
        · subst hs
          by_cases hk : k = x.1 <;> simp [hk, eq_comm, pendingFor]
        · simp [hs, Ne.symm hs, pendingFor]

theorem newAt_eq (c : Cfg) (l : List (Nat × Row)) (k s : Nat) :
    newAt c l k s = (pendingFor c l k s).map (·.2) := rfl

theorem doFlush_spec (c : Cfg) (st st1 : St) (h : doFlush c st = some st1) (s k : Nat) :
    st1.shards s k = (match pendingFor c st.new.reverse k s with
                      | some e => some e.2
                      | none => applyObj (st.objs k s) (st.shards s k)) := by
  unfold doFlush at h
  split at h
  · cases h
  next sh1 hf =>
    cases h
    have spec := flushNew_spec c st.objs st.new st.shards sh1 hf s k
    simp only [newAt_eq]
    -- `doFlush` searches `st.new`, `spec` its reverse: both find an entry or neither does
    cases hr : pendingFor c st.new.reverse k s with
    | none => rw [pendingFor_reverse_eq_none.1 hr, spec, hr]; rfl
    | some e =>
      cases hp : pendingFor c st.new k s with
      | none => rw [pendingFor_reverse_eq_none.2 hp] at hr; cases hr
      | some _ => rw [spec, hr]; rfl

/-- **flush_routes_to_chosen_shard**: after a successful flush a pending object is in
    the shard its chooser names, with its values; in every other shard the row for that
    primary key is whatever the object holding *that* shard's token dictates (no insert
    went there). -/
theorem flush_routes_to_chosen_shard (c : Cfg) (st st1 : St) (pk : Nat) (r : Row)
    (hnd : (st.new.map (·.1)).Nodup) (hin : (pk, r) ∈ st.new) (h : doFlush c st = some st1) :
    st1.shards (c.chooser r.region) pk = some r ∧
    ∀ s, s ≠ c.chooser r.region →
      st1.shards s pk = applyObj (st.objs pk s) (st.shards s pk) := by
  have hp := fun s => pendingFor_of_mem c s (((List.reverse_perm _).map _).nodup_iff.2 hnd)
    (List.mem_reverse.2 hin)
  refine ⟨?_, fun s hs => ?_⟩
  · rw [doFlush_spec c st st1 h, hp, if_pos rfl]
  · rw [doFlush_spec c st st1 h, hp, if_neg (Ne.symm hs)]

theorem flush_row_of_not_pending (c : Cfg) (st st1 : St) (pk s : Nat)
    (hno : ∀ e ∈ st.new, e.1 ≠ pk) (h : doFlush c st = some st1) :
    st1.shards s pk = applyObj (st.objs pk s) (st.shards s pk) := by
  rw [doFlush_spec c st st1 h, pendingFor_eq_none fun e he => hno e (List.mem_reverse.1 he)]

/-- **update_routes_by_token**: with nothing pending for `pk`, the row `(s, pk)` after
    the flush is decided by the object whose token is `s` alone: updated if that object
    is dirty, deleted if it is marked deleted, untouched otherwise — whatever the objects
    with the same primary key in other shards do. -/
theorem update_routes_by_token (c : Cfg) (st st1 : St) (pk s : Nat)
    (hnd : (st.new.map (·.1)).Nodup) (hno : ∀ e ∈ st.new, e.1 ≠ pk) (h : doFlush c st = some st1) :
    st1.shards s pk = applyObj (st.objs pk s) (st.shards s pk) :=
  flush_row_of_not_pending c st st1 pk s hno h

theorem loadInto_shards (st : St) (s : Nat) (ids : List Nat) : (loadInto st s ids).shards = st.shards := rfl

theorem queryShards_frame (c : Cfg) (f : Filt) : ∀ (l : List Nat) (st : St),
    (queryShards c f l st).1.shards = st.shards ∧ (queryShards c f l st).1.new = st.new
  | [], _ => ⟨rfl, rfl⟩
  | s :: rest, st => loadInto_shards st s _ ▸ queryShards_frame c f rest (loadInto st s _)

theorem query_keeps_databases (c : Cfg) (st : St) (f : Filt) (sh : Option (List Nat)) :
    (step c st (.query f sh)).1.shards = st.shards ∧ (step c st (.query f sh)).1.new = st.new :=
  queryShards_frame c f _ st

/-- **query_union_of_chosen_shards**: the identities a query returns are exactly, shard
    after shard in the order the chooser gave, the rows of that shard that satisfy the
    criterion. -/
theorem query_union_of_chosen_shards (c : Cfg) (f : Filt) : ∀ (l : List Nat) (st : St),
    (queryShards c f l st).2.map (fun x => (x.1, x.2.1)) =
      l.flatMap (fun s => (selectShard c (st.shards s) f).map (fun k => (k, s))) := by
  intro l
  induction l with
  | nil => intro st; rfl
  | cons s rest ih =>
    intro st
    simp only [queryShards, List.map_append, List.flatMap_cons, List.map_map]
    rw [ih]
    rfl

theorem query_mem_iff (c : Cfg) (f : Filt) (l : List Nat) (st : St) (k s : Nat) :
    (k, s) ∈ (queryShards c f l st).2.map (fun x => (x.1, x.2.1)) ↔
      s ∈ l ∧ k < c.n ∧ ∃ r, st.shards s k = some r ∧ f.ok r = true := by
  rw [query_union_of_chosen_shards]
  simp only [List.mem_flatMap, List.mem_map, Prod.mk.injEq, selectShard, List.mem_filter, List.mem_range]
  constructor
  · rintro ⟨s', hs', k', ⟨hk', hm⟩, rfl, rfl⟩
    refine ⟨hs', hk', ?_⟩
    cases hr : st.shards s' k' with
    | none => simp [hr] at hm
    | some r => exact ⟨r, rfl, by simpa [hr] using hm⟩
  · rintro ⟨hs, hk, r, hr, hok⟩
    exact ⟨s, hs, k, ⟨hk, by simp [hr, hok]⟩, rfl, rfl⟩

/-- **same_pk_distinct_across_shards**: modifying (or deleting) the object `(pk, s)`
    leaves the object `(pk, s')` of another shard untouched, and the modification writes to no
    database and leaves the pending list alone. -/
theorem same_pk_distinct_across_shards (c : Cfg) (st : St) (pk s s' : Nat) (v : Int) (hne : s' ≠ s) :
    (step c st (.set pk s v)).1.objs pk s' = st.objs pk s' ∧
    (step c st (.del pk s)).1.objs pk s' = st.objs pk s' ∧
    (step c st (.set pk s v)).1.shards = st.shards ∧
    (step c st (.set pk s v)).1.new = st.new := by
  have hif : ¬(pk = pk ∧ s' = s) := fun h => hne h.2
  dsimp only [step]
  rcases st.objs pk s with _ | ⟨row, dirty, _ | _⟩
  · exact ⟨rfl, rfl, rfl, rfl⟩
  · exact ⟨if_neg hif, if_neg hif, rfl, rfl⟩
  · exact ⟨rfl, rfl, rfl, rfl⟩

/-- second half of **same_pk_distinct_across_shards**: the flush that follows leaves shard `s'`'s
    row for `pk` as it would have been without the modification -/
theorem set_keeps_other_shard_row (c : Cfg) (st st1 st2 : St) (pk s s' : Nat) (v : Int) (hne : s' ≠ s)
    (hno : ∀ e ∈ st.new, e.1 ≠ pk)
    (h1 : doFlush c st = some st1) (h2 : doFlush c (step c st (.set pk s v)).1 = some st2) :
    st2.shards s' pk = st1.shards s' pk := by
  obtain ⟨ho, _, hsh, hnew⟩ := same_pk_distinct_across_shards c st pk s s' v hne
  rw [flush_row_of_not_pending c st st1 pk s' hno h1,
    flush_row_of_not_pending c _ st2 pk s' (hnew ▸ hno) h2, ho, hsh]

theorem other_shard_row_unaffected (c : Cfg) (st st1 st2 : St) (pk s s' : Nat) (v : Int) (hne : s' ≠ s)
    (hnd : (st.new.map (·.1)).Nodup) (hno : ∀ e ∈ st.new, e.1 ≠ pk)
    (h1 : doFlush c st = some st1) (h2 : doFlush c (step c st (.set pk s v)).1 = some st2) :
    st2.shards s' pk = st1.shards s' pk :=
  set_keeps_other_shard_row c st st1 st2 pk s s' v hne hno h1 h2

/-- **merge_routes_by_token**: merging a detached, modified object back (its key carries the
    token of the shard it was loaded from) touches the instance of that shard only — the
    instances of the same primary key in other shards are as they were, no database is written
    and the pending list stays. -/
theorem merge_routes_by_token (c : Cfg) (st : St) (pk s s' : Nat) (v : Int) (hne : s' ≠ s) :
    (step c st (.mergeDet pk s v)).1.objs pk s' = st.objs pk s' ∧
    (step c st (.mergeDet pk s v)).1.shards = st.shards ∧
    (step c st (.mergeDet pk s v)).1.new = st.new := by
  dsimp only [step]
  rcases st.objs pk s with _ | ⟨row, dirty, _ | _⟩
  · exact ⟨rfl, rfl, rfl⟩
  · cases st.shards s pk with
    | none => exact ⟨rfl, rfl, rfl⟩
    | some _ => exact ⟨if_neg fun h => hne h.2, rfl, rfl⟩
  · cases st.shards s pk <;> exact ⟨rfl, rfl, rfl⟩

/-- pk 0 lives in both shards; region 0 → shard 0, region 1 → shard 1 -/
example :
    let c : Cfg := ⟨2, 2, fun r => r, [1, 0]⟩
    outs c St.init [.add 0 ⟨0, 5⟩, .flush, .add 0 ⟨1, 7⟩, .flush, .query .all none, .query .all (some [1]),
                    .set 0 1 9, .flush, .query .all (some [1, 0]), .get 0 none] =
      [.done, .done, .done, .done, .rows [(0, 0, 5), (0, 1, 7)], .rows [(0, 1, 7)], .done, .done,
       .rows [(0, 1, 9), (0, 0, 5)], .found 0 1 9] := by decide +kernel

/-- hypotheses of `flush_routes_to_chosen_shard` are satisfiable -/
example :
    let c : Cfg := ⟨2, 2, fun r => r, [0, 1]⟩
    let st := run c St.init [.add 0 ⟨1, 5⟩, .add 1 ⟨0, 6⟩]
    (st.new.map (·.1)).Nodup ∧ (0, (⟨1, 5⟩ : Row)) ∈ st.new ∧ (doFlush c st).isSome = true := by decide +kernel

end SaVerif.Props.C53
