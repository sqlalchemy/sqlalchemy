import SaVerif.Model.MergeLists
/-!
# C54 (extension) — `util.merge_lists_w_ordering` is an order-respecting duplicate-free union

`merge_lists_w_ordering(a, b)` lives in util/_collections.py, the file of LRUCache, and is what
declarative uses to reconcile `vars(cls)` with `cls.__annotations__` (two duplicate-free key
lists).

The proofs are by induction along the two-iterator loop.  Membership needs only that every
element still in `overlap` is still ahead in BOTH iterators (`mem_merge`; `merge_mem` is the same
statement and does not use its two duplicate-free hypotheses); `merge_nodup` needs the invariant
`Inv`.  `merge_dup_counterexample` shows the duplicate-free hypothesis is needed there (the real
code has the same behaviour, checked by the correspondence run, which also feeds lists with
duplicates).
-/
namespace SaVerif.Props.C54Merge
open SaVerif.MergeLists

variable {α : Type} [DecidableEq α]

theorem mem_overlap {a b : List α} {x : α} : x ∈ overlap a b ↔ x ∈ a ∧ x ∈ b := by
  unfold overlap
  rw [List.mem_filter, List.contains_iff_mem]

/-- loop invariant of `go` for duplicate-free lists: what has been emitted is ahead in neither
    iterator, and what is still ahead in both is still in `ov` -/
structure Inv (cur oth ov res : List α) : Prop where
  curNodup : (res ++ cur).Nodup
  othNodup : (res ++ oth).Nodup
  ov : ∀ x, x ∈ cur → x ∈ oth → x ∈ ov

theorem inv_init (a b : List α) (ha : a.Nodup) (hb : b.Nodup) : Inv a b (overlap a b) [] :=
  ⟨ha, hb, fun _ h1 h2 => mem_overlap.2 ⟨h1, h2⟩⟩

theorem inv_swap {e : α} {rest oth ov res : List α} (h : Inv (e :: rest) oth ov res) :
    Inv oth rest (ov.filter (fun x => x != e)) res := by
  have hcn := List.nodup_cons.1 (List.perm_middle.nodup_iff.1 h.curNodup)
  exact ⟨h.othNodup, hcn.2, fun x h1 h2 => List.mem_filter.2 ⟨h.ov x (List.mem_cons_of_mem _ h2) h1,
    bne_iff_ne.2 fun e' => hcn.1 (List.mem_append_right _ (e' ▸ h2))⟩⟩

omit [DecidableEq α] in
theorem inv_emit {e : α} {rest oth ov res : List α} (h : Inv (e :: rest) oth ov res)
    (he : e ∉ ov) : Inv rest oth ov (res ++ [e]) := by
  have heo : e ∉ oth := fun hh => he (h.ov e List.mem_cons_self hh)
  have hcn := List.nodup_cons.1 (List.perm_middle.nodup_iff.1 h.curNodup)
  refine ⟨by rw [List.append_assoc]; exact h.curNodup, ?_, fun x h1 => h.ov x (List.mem_cons_of_mem _ h1)⟩
  rw [List.append_assoc]
  show (res ++ e :: oth).Nodup
  rw [List.perm_middle.nodup_iff, List.nodup_cons, List.mem_append]
  exact ⟨fun hm => hm.elim (fun h1 => hcn.1 (List.mem_append_left _ h1)) heo, h.othNodup⟩

omit [DecidableEq α] in
theorem go_nil [BEq α] (oth ov res : List α) : go [] oth ov res = res ++ oth := by
  rw [go]

theorem go_cons_mem {e : α} {ov : List α} (h : e ∈ ov) (rest oth res : List α) :
    go (e :: rest) oth ov res = go oth rest (ov.filter (fun x => x != e)) res := by
  rw [go, if_pos (List.contains_iff_mem.2 h)]

theorem go_cons_not_mem {e : α} {ov : List α} (h : e ∉ ov) (rest oth res : List α) :
    go (e :: rest) oth ov res = go rest oth ov (res ++ [e]) := by
  rw [go, if_neg (mt List.contains_iff_mem.1 h)]

/-- the generated `go.induct` states the swap case through `(ov.attach.filter …).unattach` and
    `ov.contains e = true`; this is the same principle in the terms of `go_cons_mem` /
    `go_cons_not_mem` -/
theorem go_induction {motive : List α → List α → List α → List α → Prop}
    (nil : ∀ oth ov res, motive [] oth ov res)
    (swap : ∀ e rest oth ov res, e ∈ ov → motive oth rest (ov.filter (fun x => x != e)) res →
      motive (e :: rest) oth ov res)
    (emit : ∀ e rest oth ov res, e ∉ ov → motive rest oth ov (res ++ [e]) →
      motive (e :: rest) oth ov res)
    (cur oth ov res : List α) : motive cur oth ov res := by
  generalize hn : cur.length + oth.length = n
  induction n using Nat.strongRecOn generalizing cur oth ov res with
  | _ n ih =>
    cases cur with
    | nil => exact nil oth ov res
    | cons e rest =>
      subst hn
      by_cases he : e ∈ ov
      · exact swap e rest oth ov res he
          (ih _ (by rw [List.length_cons]; omega) oth rest _ res rfl)
      · exact emit e rest oth ov res he
          (ih _ (by rw [List.length_cons]; omega) rest oth ov _ rfl)

theorem go_mem (cur oth ov res : List α) (h : ∀ x ∈ ov, x ∈ cur ∧ x ∈ oth) (x : α) :
    x ∈ go cur oth ov res ↔ x ∈ res ∨ x ∈ cur ∨ x ∈ oth := by
  induction cur, oth, ov, res using go_induction with
  | nil oth ov res => rw [go_nil, List.mem_append, List.mem_nil_iff, false_or]
  | swap e rest oth ov res he ih =>
    rw [go_cons_mem he, ih fun y hy =>
      have hm := List.mem_filter.1 hy
      ⟨(h y hm.1).2, (List.mem_cons.1 (h y hm.1).1).resolve_left (bne_iff_ne.1 hm.2)⟩]
    refine or_congr_right ⟨fun h1 => h1.symm.imp_left (List.mem_cons_of_mem e), ?_⟩
    rintro (h1 | h1)
    · rcases List.mem_cons.1 h1 with rfl | h2
      · exact Or.inl (h x he).2
      · exact Or.inr h2
    · exact Or.inl h1
  | emit e rest oth ov res he ih =>
    rw [go_cons_not_mem he, ih fun y hy =>
      ⟨(List.mem_cons.1 (h y hy).1).resolve_left fun e' => he (e' ▸ hy), (h y hy).2⟩]
    simp only [List.mem_append, List.mem_cons, List.not_mem_nil, or_false, or_assoc]

theorem go_nodup (cur oth ov res : List α) (h : Inv cur oth ov res) : (go cur oth ov res).Nodup := by
  induction cur, oth, ov, res using go_induction with
  | nil oth ov res => rw [go_nil]; exact h.othNodup
  | swap e rest oth ov res he ih => rw [go_cons_mem he]; exact ih (inv_swap h)
  | emit e rest oth ov res he ih => rw [go_cons_not_mem he]; exact ih (inv_emit h he)

theorem mem_merge (a b : List α) (x : α) : x ∈ mergeListsWOrdering a b ↔ x ∈ a ∨ x ∈ b := by
  have := go_mem a b (overlap a b) [] (fun _ => mem_overlap.1) x
  simpa [mergeListsWOrdering] using this

/-- **merge_mem**: the result holds exactly the elements of the two lists -/
theorem merge_mem (a b : List α) (ha : a.Nodup) (hb : b.Nodup) (x : α) :
    x ∈ mergeListsWOrdering a b ↔ x ∈ a ∨ x ∈ b := mem_merge a b x

/-- **merge_nodup**: nothing is emitted twice — a name present in both lists appears once -/
theorem merge_nodup (a b : List α) (ha : a.Nodup) (hb : b.Nodup) :
    (mergeListsWOrdering a b).Nodup :=
  go_nodup a b (overlap a b) [] (inv_init a b ha hb)

/-- **merge_perm**: the result is a rearrangement of `a` followed by the elements of `b` that are
not in `a` (the duplicate-free union) -/
theorem merge_perm (a b : List α) (ha : a.Nodup) (hb : b.Nodup) :
    (mergeListsWOrdering a b).Perm (a ++ b.filter (fun x => !a.contains x)) := by
  rw [List.perm_ext_iff_of_nodup (merge_nodup a b ha hb)]
  · intro x; rw [merge_mem a b ha hb]
    by_cases hx : x ∈ a <;> simp [hx]
  · rw [List.nodup_append]
    refine ⟨ha, hb.filter _, ?_⟩
    intro x hx y hy hxy
    subst hxy
    simp [hx] at hy

/-- **merge_length**: `|result| = |a| + |b \ a|` -/
theorem merge_length (a b : List α) (ha : a.Nodup) (hb : b.Nodup) :
    (mergeListsWOrdering a b).length = a.length + (b.filter (fun x => !a.contains x)).length := by
  rw [(merge_perm a b ha hb).length_eq, List.length_append]

theorem go_nil_ov : ∀ (cur oth res : List α), go cur oth [] res = res ++ cur ++ oth := by
  intro cur
  induction cur with
  | nil => intro oth res; rw [go_nil, List.append_nil]
  | cons e rest ih => intro oth res; rw [go_cons_not_mem List.not_mem_nil, ih]; simp

/-- **merge_disjoint**: lists with nothing in common (duplicates allowed) are concatenated -/
theorem merge_disjoint (a b : List α) (h : ∀ x, x ∈ a → x ∉ b) :
    mergeListsWOrdering a b = a ++ b := by
  have : overlap a b = [] :=
    List.eq_nil_iff_forall_not_mem.2 fun x hx => h x (mem_overlap.1 hx).1 (mem_overlap.1 hx).2
  simp [mergeListsWOrdering, this, go_nil_ov]

theorem merge_nil_left (b : List α) : mergeListsWOrdering [] b = b :=
  by simpa using merge_disjoint ([] : List α) b (by simp)

theorem merge_nil_right (a : List α) : mergeListsWOrdering a [] = a :=
  by simpa using merge_disjoint a ([] : List α) (by simp)

/-- stated for whichever iterator is currently being read: the two conjuncts swap at every iterator
switch -/
theorem go_filter (p : α → Bool) (cur oth ov res : List α) (hov : ∀ x, x ∈ ov → p x = false) :
    ((∀ x, x ∈ oth → p x = false) →
      (go cur oth ov res).filter p = res.filter p ++ cur.filter p) ∧
    ((∀ x, x ∈ cur → p x = false) →
      (go cur oth ov res).filter p = res.filter p ++ oth.filter p) := by
  induction cur, oth, ov, res using go_induction with
  | nil oth ov res =>
    rw [go_nil, List.filter_append]
    refine ⟨fun ho => ?_, fun _ => rfl⟩
    have : oth.filter p = [] := by simpa [List.filter_eq_nil_iff] using ho
    rw [this]
    rfl
  | swap e rest oth ov res he ih =>
    rw [go_cons_mem he]
    obtain ⟨i1, i2⟩ := ih fun x hx => hov x (List.mem_filter.1 hx).1
    refine ⟨fun ho => ?_, fun hcur => i1 fun x hx => hcur x (List.mem_cons_of_mem _ hx)⟩
    rw [i2 ho]
    simp [hov e he]
  | emit e rest oth ov res he ih =>
    rw [go_cons_not_mem he]
    obtain ⟨i1, i2⟩ := ih hov
    refine ⟨fun ho => ?_, fun hcur => ?_⟩
    · rw [i1 ho, List.filter_append, List.append_assoc, ← List.filter_append]
      rfl
    · rw [i2 fun x hx => hcur x (List.mem_cons_of_mem _ hx)]
      simp [hcur e List.mem_cons_self]

/-- **merge_order_left** ("maintaining ordering"): the elements only `a` has keep the relative
order they have in `a` — for ALL lists, duplicates included -/
theorem merge_order_left (a b : List α) :
    (mergeListsWOrdering a b).filter (fun x => !b.contains x) = a.filter (fun x => !b.contains x) := by
  have h := (go_filter (fun x => !b.contains x) a b (overlap a b) []
    (fun x hx => by simp [(mem_overlap.1 hx).2])).1 (by intro x hx; simp [hx])
  simpa [mergeListsWOrdering] using h

/-- **merge_order_right**: the elements only `b` has keep the relative order they have in `b` -/
theorem merge_order_right (a b : List α) :
    (mergeListsWOrdering a b).filter (fun x => !a.contains x) = b.filter (fun x => !a.contains x) := by
  have h := (go_filter (fun x => !a.contains x) a b (overlap a b) []
    (fun x hx => by simp [(mem_overlap.1 hx).1])).2 (by intro x hx; simp [hx])
  simpa [mergeListsWOrdering] using h

theorem merge_exclusive_sublist_left (a b : List α) :
    (a.filter (fun x => !b.contains x)).Sublist (mergeListsWOrdering a b) := by
  rw [← merge_order_left]; exact List.filter_sublist

theorem merge_exclusive_sublist_right (a b : List α) :
    (b.filter (fun x => !a.contains x)).Sublist (mergeListsWOrdering a b) := by
  rw [← merge_order_right]; exact List.filter_sublist

theorem go_self : ∀ (r ov res : List α), r.Nodup → (∀ x, x ∈ ov ↔ x ∈ r) →
    go r r ov res = res ++ r := by
  intro r
  induction r with
  | nil => intro ov res _ _; rw [go_nil]
  | cons e t ih =>
    intro ov res hnd hov
    have hcn := List.nodup_cons.mp hnd
    have hne : e ∉ ov.filter (fun x => x != e) := fun h => bne_iff_ne.1 (List.mem_filter.1 h).2 rfl
    rw [go_cons_mem ((hov e).2 List.mem_cons_self), go_cons_not_mem hne,
      ih (ov.filter (fun x => x != e)) (res ++ [e]) hcn.2 ?_]
    · simp
    · intro x
      simp only [List.mem_filter, hov, List.mem_cons, bne_iff_ne, ne_eq]
      constructor
      · rintro ⟨h1 | h1, h2⟩
        · exact absurd h1 h2
        · exact h1
      · intro h1
        exact ⟨Or.inr h1, fun hh => hcn.1 (hh ▸ h1)⟩

/-- **merge_self**: merging a duplicate-free list with itself gives it back (declarative: a class
whose `vars()` and `__annotations__` list the same names in the same order keeps that order) -/
theorem merge_self (a : List α) (ha : a.Nodup) : mergeListsWOrdering a a = a := by
  have := go_self a (overlap a a) [] ha (fun x => mem_overlap.trans (and_self_iff ..))
  simpa [mergeListsWOrdering] using this

/-- without the duplicate-free hypothesis an element can be emitted more often than it occurs in
either list's de-duplicated union (the real function does the same) -/
theorem merge_dup_counterexample :
    mergeListsWOrdering [1, 1, 2] [2, 1, 1] = [1, 2, 1, 1] ∧
    ¬ (mergeListsWOrdering [1, 1, 2] [2, 1, 1]).Nodup := by
  have h : mergeListsWOrdering [1, 1, 2] [2, 1, 1] = [1, 2, 1, 1] := by
    -- `go` is by well-founded recursion, which `decide` and `rfl` do not unfold; `simp` runs it by
    -- its equations
    simp [mergeListsWOrdering, overlap, go]
  exact ⟨h, by rw [h]; decide⟩

/-! non-vacuity: the docstring example (shared names `id`=1, `created_at`=3) -/
example : mergeListsWOrdering [0, 1, 2, 3] [1, 4, 5, 6, 3] = [0, 1, 4, 5, 6, 2, 3] := by
  simp [mergeListsWOrdering, overlap, go]
example : ([0, 1, 2, 3] : List Nat).Nodup ∧ ([1, 4, 5, 6, 3] : List Nat).Nodup := by decide +kernel

end SaVerif.Props.C54Merge
