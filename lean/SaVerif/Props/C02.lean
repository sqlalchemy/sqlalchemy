import SaVerif.Model.CacheKey
import SaVerif.Gen.CacheKeyTables
import SaVerif.Lemmas.Spell
/-!
# C02 — the compiled-statement cache is transparent (model-level contract)

This file states the *contract* between `_gen_cache_key`, the compiler and
`construct_params(extracted_parameters=…)` on an abstract element tree and proves that
the contract implies transparency.  Whether every real construct obeys
the contract (its `_traverse_internals` covers everything its `visit_` method reads)
is a regenerated finite table (`reads_covered`, re-decided against the working tree)
plus the differential harness.
-/
namespace SaVerif.Props.C02
open SaVerif.CacheKey

/-- what the compiled form keeps of a key token: of a bind its position only -/
def proj : KTok → STok
  | .a t => .a t
  | .b i _ _ _ => .ph i
  | .ref i => .ph i
  | .op => .op
  | .cl => .cl

/-- what the bind signatures keep: type, name and `literal_execute` of a bind's first occurrence -/
def types : KTok → Option (Nat × Nat × Bool)
  | .b _ ty nm le => some (ty, nm, le)
  | _ => none

/-- the compiled form is a projection of the key, and the extracted binds are the key's `b` tokens,
    in order and each object once -/
theorem keyAux_spec (t : T) : ∀ seen,
    (sqlAux seen t).1 = (keyAux seen t).1.map proj ∧
    (sqlAux seen t).2.1 = (keyAux seen t).1.filterMap types ∧
    (sqlAux seen t).2.2 = (keyAux seen t).2.2 ∧
    (keyAux seen t).2.1.map (fun b => (b.ty, b.name, b.le)) = (keyAux seen t).1.filterMap types ∧
    (keyAux seen t).2.2 = seen ++ (keyAux seen t).2.1.map (·.oid) ∧
    (seen.Nodup → (keyAux seen t).2.2.Nodup) := by
  induction t with
  | atom tag => intro seen; simp [sqlAux, keyAux, proj, types]
  | bind b =>
    intro seen
    by_cases h : b.oid ∈ seen
    · simp [sqlAux, keyAux, h, proj, types]
    · -- what `simp` leaves: `seen ++ [b.oid]` has no repetition
      simp [sqlAux, keyAux, h, proj, types, List.nodup_append]
      exact fun hn => ⟨hn, fun a ha e => h (e ▸ ha)⟩
  | pair l r ihl ihr =>
    intro seen
    obtain ⟨lsql, ltys, lseen, lbinds, loids, lnd⟩ := ihl seen
    obtain ⟨rsql, rtys, rseen, rbinds, roids, rnd⟩ := ihr (keyAux seen l).2.2
    simp only [sqlAux, keyAux]
    rw [lseen]
    refine ⟨?_, ?_, rseen, ?_, ?_, fun hn => rnd (lnd hn)⟩
    · simp [lsql, rsql, proj]
    · simp [List.filterMap_append, List.filterMap_cons, ltys, rtys, types]
    · simp [List.filterMap_append, List.filterMap_cons, lbinds, rbinds, types]
    · rw [roids, loids, List.map_append, List.append_assoc]

/-- two statements with equal cache keys compile to the
    identical token sequence and identical (type, name, literal_execute) per bind -/
theorem cachekey_eq_same_sql (s1 s2 : T) (h : keyOf s1 = keyOf s2) : sqlOf s1 = sqlOf s2 := by
  unfold sqlOf
  obtain ⟨sql1, tys1, _⟩ := keyAux_spec s1 []
  obtain ⟨sql2, tys2, _⟩ := keyAux_spec s2 []
  unfold keyOf at h
  rw [sql1, tys1, sql2, tys2, h]

theorem extracted_length_eq (s1 s2 : T) (h : keyOf s1 = keyOf s2) :
    (extract s1).length = (extract s2).length := by
  have e (t : T) : (extract t).length = ((keyOf t).filterMap types).length := by
    rw [keyOf, ← (keyAux_spec t []).2.2.2.1, List.length_map, extract]
  rw [e, e, h]

theorem rlookup_zip (o : Nat) : ∀ (oids : List Nat) (ex : List Bind),
    oids.length = ex.length → rlookup o (oids.zip ex) = ex[oids.idxOf o]? := by
  intro oids
  induction oids with
  | nil =>
    intro ex hl
    cases ex with
    | nil => rfl
    | cons _ _ => cases hl
  | cons a oids ih =>
    intro ex hl
    cases ex with
    | nil => cases hl
    | cons e ex =>
      rw [List.zip_cons_cons, rlookup, List.idxOf_cons]
      by_cases ha : a = o
      · simp [ha]
      · simp [ha, beq_false_of_ne ha, ih ex (by simpa using hl)]

/-- a compilation cached for `s1`, executed for a
    statement `s2` with the same cache key, gives every compiled bind — in whatever
    order the compiler visited them (`co`) — the value of the parameter of `s2` that
    sits at the same position of the cache-key traversal.  The right side keeps `own o`, the value
    compiled for `s1`, as the default of the lookup; that `hco` and `extracted_length_eq` put the
    position inside `extract s2`, so that the default is not taken, is not part of the statement (the
    proof does not use `hco`). -/
theorem rebinding_delivers_own_values (s1 s2 : T) (h : keyOf s1 = keyOf s2)
    (co : List Nat) (own : Nat → Int) (hco : ∀ o ∈ co, o ∈ (extract s1).map (·.oid)) :
    constructParams co own (extract s1) (extract s2) =
      co.map (fun o => (((extract s2)[((extract s1).map (·.oid)).idxOf o]?).map (·.val)).getD (own o)) := by
  unfold constructParams resolve
  apply List.map_congr_left
  intro o _
  have hl := extracted_length_eq s1 s2 h
  have := rlookup_zip o ((extract s1).map (·.oid)) (extract s2) (by simpa using hl)
  rw [this]
  cases (extract s2)[((extract s1).map (·.oid)).idxOf o]? <;> rfl

theorem extract_nodup (t : T) : ((extract t).map (·.oid)).Nodup := by
  obtain ⟨-, -, -, -, hoids, hnd⟩ := keyAux_spec t []
  rw [hoids, List.nil_append] at hnd
  exact hnd List.nodup_nil

/-- for every class of `sqlalchemy.sql` that the base `SQLCompiler` has a `visit_` method for: each
    attribute that method reads is listed in the class's `_traverse_internals` (or in the reviewed
    list of derived / key-neutral attributes); regenerated from the working tree on every run -/
theorem reads_covered :
    SaVerif.Gen.CacheKeyTables.rows.all
      (fun r => r.2.1.all (fun a => r.2.2.contains a || SaVerif.Gen.CacheKeyTables.derived.contains (r.1, a))) = true := by
  decide +kernel

/-- no class lost an attribute of its `_traverse_internals` relative to the reviewed tree -/
theorem traversal_not_shrunk :
    SaVerif.Gen.CacheKeyTables.baselineTraversed.all
      (fun r => match SaVerif.Gen.CacheKeyTables.traversed.lookup r.1 with
        | some cur => r.2.all (fun a => cur.contains a)
        | none => false) = true := by
  have e (o : Option (List String)) (f : List String → Bool) :
      (match o with | some c => f c | none => false) = o.any f := by cases o <;> rfl
  simp only [e]
  rw [Spell.all_lookup_contains_rename (k := Spell.key) Spell.key_inj]
  rw [Spell.rows_eq _ _ (by repeat' constructor), Spell.rows_eq _ _ (by repeat' constructor)]
  decide +kernel

/-- type instances that differ in a public constructor
    argument — including the boundary values 0 / False / '' against "unset" — have
    different `_static_cache_key`s (the component of every statement cache key that
    carries bind / cast / column types); regenerated from the working tree -/
theorem type_keys_separate_variants :
    (SaVerif.Gen.CacheKeyTables.typeKeys.map (·.2)).Nodup := by
  refine List.Pairwise.of_map (S := (· ≠ ·)) Spell.key (fun _ _ h e => h (congrArg _ e)) ?_
  rw [Spell.names_eq _ _ (by repeat' constructor)]
  decide +kernel

def exS1 : T := .pair (.atom 1) (.pair (.bind ⟨7, 0, 3, false, 10⟩) (.pair (.atom 2) (.bind ⟨7, 0, 3, false, 10⟩)))
def exS2 : T := .pair (.atom 1) (.pair (.bind ⟨9, 0, 3, false, 55⟩) (.pair (.atom 2) (.bind ⟨9, 0, 3, false, 55⟩)))

example : keyOf exS1 = keyOf exS2 ∧ extract exS1 ≠ extract exS2 := by decide +kernel
example : constructParams [7] (fun _ => 10) (extract exS1) (extract exS2) = [55] := by decide +kernel

end SaVerif.Props.C02
