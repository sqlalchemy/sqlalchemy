import SaVerif.Model.Autoflush
/-!
# C47 — With autoflush on, queries see all pending changes

Theorems about M-ORM/autoflush (`SaVerif/Model/Autoflush.lean`).  A successful flush leaves the
database equal to the pointwise specification `specDb`: every pending object is present with its
values, every modified object's row holds its current values, every deleted object's row is gone,
everything else is untouched (`flush_eq_spec`).  With autoflush enabled each reading operation
returns (and leaves the session in) exactly what it returns after an explicit `flush()`: all such
theorems are `afThen_flush`, which says it of every reader.  The statement kinds are ORM entities,
ORM count, Core select / count on the Table, text(), Core exists() over ORM criteria, legacy
Query; the entry points Session.execute / .scalars / .scalar, Query.all / .first / .one_or_none /
.scalar / .count.  `core_autoflush_precedes_*` and `kind_plugin_table` are translator obligations:
the ordering facts and the plugin table regenerated from the current orm/session.py / the real
statements (`SaVerif/Gen/AutoflushCfg.lean`).
-/
namespace SaVerif.Props.C47
open SaVerif.Autoflush
open SaVerif.Gen.AutoflushCfg

theorem insertAll_keeps (l : List (Key × Row)) {db db' : DB} {k : Key} {r : Row}
    (h : insertAll l db = some db') (hk : db k = some r) : db' k = some r := by
  induction l generalizing db with
  | nil => cases h; exact hk
  | cons x rest ih =>
    rw [insertAll] at h
    cases hx : db x.1 with
    | some _ => rw [hx] at h; cases h
    | none =>
      rw [hx] at h
      refine ih h ?_
      rw [if_neg fun e => by rw [e, hx] at hk; cases hk]
      exact hk

/-- the INSERT phase of a flush: a key gets the row of its FIRST pending entry (a second
    entry for an occupied key makes the flush fail) -/
theorem insertAll_spec : ∀ (l : List (Key × Row)) (db db' : DB),
    insertAll l db = some db' →
    ∀ k, db' k = (match l.find? (fun e => e.1 == k) with
                  | some e => some e.2
                  | none => db k) := by
  intro l
  induction l with
  | nil => intro db db' h k; cases h; rfl
  | cons x rest ih =>
    intro db db' h k
    rw [insertAll] at h
    cases hx : db x.1 with
    | some _ => rw [hx] at h; cases h
    | none =>
      rw [hx] at h
      rw [List.find?_cons]
      by_cases hkk : x.1 = k
      · -- no later entry can change the row: the slot is occupied by then
        subst hkk
        rw [beq_self_eq_true]
        exact insertAll_keeps rest h (if_pos rfl)
      · rw [beq_false_of_ne hkk, ih _ _ h k, if_neg (Ne.symm hkk)]

theorem find_filter_key (l : List (Key × Row)) (k : Key) (p : Key → Bool) :
    (l.filter (fun e => p e.1)).find? (fun e => e.1 == k) =
      if p k then l.find? (fun e => e.1 == k) else none := by
  rw [List.find?_filter]
  cases hp : p k with
  | true =>
    rw [if_pos rfl]
    congr 1
    funext e
    by_cases h : e.1 = k <;> simp [h, hp]
  | false =>
    rw [if_neg Bool.false_ne_true, List.find?_eq_none]
    intro e _
    by_cases h : e.1 = k <;> simp [h, hp]

/-- first pending entry for a key: the INSERT order (P before C) does not matter -/
theorem find_orderedNew (l : List (Key × Row)) (k : Key) :
    (orderedNew l).find? (fun e => e.1 == k) = l.find? (fun e => e.1 == k) := by
  rw [orderedNew, List.find?_append, find_filter_key l k (·.t == 0), find_filter_key l k (·.t != 0)]
  cases h : k.t == 0
  · rw [bne, h]; rfl
  · rw [bne, h]; cases l.find? (fun e => e.1 == k) <;> rfl

/-- the database the pending state describes -/
def specDb (st : St) : DB := fun k =>
  applyObj (st.objs k) (match st.new.find? (fun e => e.1 == k) with
                         | some e => some e.2
                         | none => st.db k)

theorem doFlush_work {c : Cfg} {st st1 : St} (hw : hasWork c st = true)
    (h : doFlush c st = some st1) :
    ∃ db1, insertAll (orderedNew st.new) st.db = some db1 ∧
      st1.db = (fun k => applyObj (st.objs k) (db1 k)) ∧ st1.objs = objsAfter st ∧ st1.new = [] := by
  unfold doFlush at h
  rw [hw, if_neg (show ¬(!true) = true by decide)] at h
  cases hi : insertAll (orderedNew st.new) st.db with
  | none => rw [hi] at h; cases h
  | some db1 => rw [hi] at h; cases h; exact ⟨db1, rfl, rfl, rfl, rfl⟩

theorem flush_eq_spec (c : Cfg) (st st1 : St) (hw : hasWork c st = true)
    (h : doFlush c st = some st1) : st1.db = specDb st ∧ st1.new = [] := by
  obtain ⟨db1, hi, hdb, _, hnew⟩ := doFlush_work hw h
  refine ⟨?_, hnew⟩
  funext k
  rw [hdb, specDb]
  dsimp only
  rw [insertAll_spec _ _ _ hi k, find_orderedNew]

theorem flush_nowork (c : Cfg) (st : St) (hw : hasWork c st = false) : doFlush c st = some st := by
  rw [doFlush, hw]; rfl

theorem workAt_objsAfter (st : St) (k : Key) : workAt (objsAfter st k) = false := by
  unfold objsAfter
  cases st.new.find? (fun e => e.1 == k) with
  | some e => rfl
  | none =>
    cases st.objs k with
    | none => rfl
    | some o =>
      dsimp only [objAfterFlush]
      cases o.del <;> rfl

theorem hasWork_after_flush (c : Cfg) (st st1 : St) (h : doFlush c st = some st1) :
    hasWork c st1 = false := by
  cases hw : hasWork c st with
  | false => rw [flush_nowork c st hw] at h; cases h; exact hw
  | true =>
    obtain ⟨_, _, _, hobjs, hnew⟩ := doFlush_work hw h
    rw [hasWork, hnew, hobjs, List.isEmpty_nil, Bool.not_true, Bool.false_or, List.any_eq_false]
    intro i _
    -- neither object of index `i` has work after the flush
    rw [List.any_cons, List.any_cons, List.any_nil, workAt_objsAfter, workAt_objsAfter]
    nofun

/-- **flush_flush**: flush is idempotent -/
theorem flush_flush (c : Cfg) (st st1 : St) (h : doFlush c st = some st1) :
    doFlush c st1 = some st1 :=
  flush_nowork c st1 (hasWork_after_flush c st st1 h)

theorem afStep_after_flush (c : Cfg) (on : Bool) (st st1 : St) (h : doFlush c st = some st1) :
    afStep c on st1 = some st1 := by
  cases on with
  | true => exact flush_flush c st st1 h
  | false => rfl

theorem step_flush (c : Cfg) (st st1 : St) (h : doFlush c st = some st1) :
    step c st .flush = (st1, .done) := by
  dsimp only [step]
  rw [h]

/-- the unconditional Core autoflush (#9809) is called before the `conn.scalar(…)` fast path -/
theorem core_autoflush_precedes_scalar_fast_path : coreAutoflushBeforeScalarFastPath = true := by decide

theorem core_autoflush_precedes_execute : coreAutoflushBeforeExecute = true := by decide

/-- which statement kinds carry the ORM compile-state plugin (Core `exists()` does not
    propagate the plugin of its ORM criteria; a legacy `Query` always is an ORM statement) -/
theorem kind_plugin_table :
    [Kind.entity, .count, .core, .coreCount, .text, .textCount, .existsSel, .existsDot, .legacy, .legacyCount].map Kind.orm
      = [true, true, false, false, false, false, false, false, true, true] := by decide

theorem coreCallReached_all (v : Via) : coreCallReached v = true := by
  cases v with
  | scalar => exact core_autoflush_precedes_scalar_fast_path
  | _ => exact core_autoflush_precedes_execute

/-- **flushes_table**: the decision table does not depend on the entry point -/
theorem flushes_table (c : Cfg) (orm : Bool) (v : Via) (m : AfMode) :
    flushes c orm v m = if orm then (c.af && m == .on) else (c.af && m != .ctxOff) := by
  rw [flushes, coreCallReached_all, Bool.and_true]; rfl

theorem flushes_on (c : Cfg) (haf : c.af = true) (orm : Bool) (v : Via) : flushes c orm v .on = true := by
  rw [flushes_table, haf]; cases orm <;> rfl

theorem flushes_ctxOff (c : Cfg) (orm : Bool) (v : Via) : flushes c orm v .ctxOff = false := by
  rw [flushes_table]; cases orm <;> cases c.af <;> rfl

/-- an operation that autoflushes when `on` and then reads with `R`: the common form of a
    statement, of `Session.get` missing the identity map and of a lazy load -/
def afThen (c : Cfg) (on : Bool) (st : St) (R : St → St × Out) : St × Out :=
  match afStep c on st with
  | none => (rolledBack st, .integrity)
  | some st1 => R st1

theorem afThen_of_flush {c : Cfg} {st st1 : St} (R : St → St × Out) (h : doFlush c st = some st1) :
    afThen c true st R = R st1 := by
  rw [afThen, afStep, if_pos rfl, h]

/-- **the property, for every reader**: with autoflush on, reading is reading after an explicit
    `flush()` — whatever is read, and whether or not the second read autoflushes -/
theorem afThen_flush {c : Cfg} {st st1 : St} (R : St → St × Out) (on : Bool)
    (h : doFlush c st = some st1) : afThen c true st R = afThen c on st1 R := by
  rw [afThen_of_flush R h, afThen, afStep_after_flush c on st st1 h]

theorem afThen_rel {c : Cfg} {on : Bool} {st : St} {R R' : St → St × Out}
    (P : St × Out → St × Out → Prop) (hfail : P (rolledBack st, .integrity) (rolledBack st, .integrity))
    (h : ∀ st1, P (R st1) (R' st1)) : P (afThen c on st R) (afThen c on st R') := by
  unfold afThen
  cases afStep c on st with
  | none => exact hfail
  | some st1 => exact h st1

/-- a statement evaluated on the session state it finds (after the autoflush, if any) -/
def readOn (c : Cfg) (k : Kind) (v : Via) (q : Q) (st : St) : St × Out :=
  let r := evalQ c.n st.db q
  let st2 := loadFor k v st r.1 r.2
  (st2, consume v (values k st2 r.1 r.2))

theorem step_read (c : Cfg) (st : St) (k : Kind) (v : Via) (q : Q) (m : AfMode) :
    step c st (.read k v q m) = afThen c (flushes c k.orm v m) st (readOn c k v q) := rfl

/-- **autoflush_query_eq_flush_then_query**: autoflush enabled; `st1` is the session
    after an explicit, successful `flush()` (`step_flush`): a statement of ANY kind run
    through ANY entry point returns the same result and leaves the same session state
    whether or not `flush()` was called first. -/
theorem autoflush_query_eq_flush_then_query (c : Cfg) (haf : c.af = true) (st st1 : St)
    (k : Kind) (v : Via) (q : Q) (h : doFlush c st = some st1) :
    step c st (.read k v q .on) = step c st1 (.read k v q .on) := by
  rw [step_read, step_read, flushes_on c haf]
  exact afThen_flush _ _ h

/-- the property verbatim (the harness' twin run): explicit `flush()`, then the same
    statement through the same entry point inside `no_autoflush` -/
theorem autoflush_query_eq_flush_then_query_no_autoflush (c : Cfg) (haf : c.af = true) (st st1 : St)
    (k : Kind) (v : Via) (q : Q) (h : doFlush c st = some st1) :
    step c st (.read k v q .on) = step c st1 (.read k v q .ctxOff) := by
  rw [step_read, step_read, flushes_on c haf]
  exact afThen_flush _ _ h

theorem autoflush_count_eq_flush_then_count (c : Cfg) (haf : c.af = true) (st st1 : St) (q : Q)
    (h : doFlush c st = some st1) :
    step c st (.count q .on) = step c st1 (.count q .on) :=
  autoflush_query_eq_flush_then_query c haf st st1 .count .execute q h

theorem autoflush_core_eq_flush_then_core (c : Cfg) (haf : c.af = true) (st st1 : St) (q : Q)
    (h : doFlush c st = some st1) :
    step c st (.core q .on) = step c st1 (.core q .on) :=
  autoflush_query_eq_flush_then_query c haf st st1 .core .execute q h

/-- a legacy `Query` made of Table columns / SQL functions only (no ORM entity) -/
theorem autoflush_legacy_eq_flush_then_legacy (c : Cfg) (haf : c.af = true) (st st1 : St) (q : Q)
    (h : doFlush c st = some st1) :
    step c st (.legacy q .on) = step c st1 (.legacy q .on) ∧
    step c st (.legacyCount q .on) = step c st1 (.legacyCount q .on) :=
  ⟨autoflush_query_eq_flush_then_query c haf st st1 .legacy .qAll q h,
   autoflush_query_eq_flush_then_query c haf st st1 .legacyCount .qOne q h⟩

/-- what `Session.scalar` keeps of a result list -/
def headOut : Out → Out
  | .list l => .one l.head?
  | o => o

theorem resultOf_loadInto (st : St) (t t' : Nat) (ids ids' : List Nat) :
    resultOf (loadInto st t ids) t' ids' = resultOf st t' ids' := by
  unfold resultOf
  apply List.map_congr_left
  intro i _
  dsimp only [loadInto]
  by_cases hc : t' = t ∧ ids.contains i = true
  · rw [if_pos hc]
    cases st.objs ⟨t', i⟩ <;> cases st.db ⟨t', i⟩ <;> rfl
  · rw [if_neg hc]

theorem loadFor_db_new (k : Kind) (v : Via) (st : St) (t : Nat) (ids : List Nat) :
    (loadFor k v st t ids).db = st.db ∧ (loadFor k v st t ids).new = st.new := by
  unfold loadFor
  cases k.shape <;> exact ⟨rfl, rfl⟩

/-- the values handed out do not depend on which of the loaded entities stay referenced -/
theorem values_loadFor (k : Kind) (v : Via) (st : St) (t : Nat) (ids : List Nat) :
    values k (loadFor k v st t ids) t ids = values k st t ids := by
  unfold values loadFor
  cases k.shape <;> simp only [resultOf_loadInto]

theorem readOn_snd (c : Cfg) (k : Kind) (v : Via) (q : Q) (st : St) :
    (readOn c k v q st).2 = consume v (values k st (evalQ c.n st.db q).1 (evalQ c.n st.db q).2) :=
  congrArg (consume v) (values_loadFor ..)

/-- **scalar_eq_head_of_execute**: in every state, for every statement kind and mode,
    `Session.scalar(stmt)` returns the first element (or None) of what
    `Session.execute(stmt)` returns, and both leave the same database and pending list. -/
theorem scalar_eq_head_of_execute (c : Cfg) (st : St) (k : Kind) (q : Q) (m : AfMode) :
    (step c st (.read k .scalar q m)).2 = headOut (step c st (.read k .execute q m)).2 ∧
    (step c st (.read k .scalar q m)).1.db = (step c st (.read k .execute q m)).1.db ∧
    (step c st (.read k .scalar q m)).1.new = (step c st (.read k .execute q m)).1.new := by
  rw [step_read, step_read, flushes_table, flushes_table]
  refine afThen_rel (fun a b => a.2 = headOut b.2 ∧ a.1.db = b.1.db ∧ a.1.new = b.1.new)
    ⟨rfl, rfl, rfl⟩ fun st1 => ?_
  rw [readOn_snd, readOn_snd]
  exact ⟨rfl, (loadFor_db_new ..).1.trans (loadFor_db_new ..).1.symm,
    (loadFor_db_new ..).2.trans (loadFor_db_new ..).2.symm⟩

/-- `Session.scalars(stmt)` is `Session.execute(stmt).scalars()` -/
theorem scalars_eq_execute (c : Cfg) (st : St) (k : Kind) (q : Q) (m : AfMode) :
    step c st (.read k .scalars q m) = step c st (.read k .execute q m) := by
  -- `.scalars` and `.execute` share an arm wherever `step` matches on `Via`: `coreCallReached`, `Via.isHead`, `consume`
  rfl

/-- `Query.first()` returns the head (or None) of `Query.all()` -/
theorem first_eq_head_of_all (c : Cfg) (st : St) (k : Kind) (q : Q) (m : AfMode) :
    (step c st (.read k .qFirst q m)).2 = headOut (step c st (.read k .qAll q m)).2 := by
  rw [step_read, step_read, flushes_table, flushes_table]
  refine afThen_rel (fun a b => a.2 = headOut b.2) rfl fun st1 => ?_
  rw [readOn_snd, readOn_snd]
  rfl

/-- lazy load of `P.children` on a persistent, not deleted parent -/
theorem autoflush_children_eq_flush_then_children (c : Cfg) (haf : c.af = true) (st st1 : St) (p : Nat)
    (o o1 : Obj) (ho : st.objs ⟨0, p⟩ = some o) (hd : o.del = false)
    (h : doFlush c st = some st1) (ho1 : st1.objs ⟨0, p⟩ = some o1) (hd1 : o1.del = false) :
    step c st (.children p .on) = step c st1 (.children p .on) := by
  dsimp only [step]
  rw [ho, ho1]
  dsimp only
  rw [hd, hd1, haf]
  -- both sides are `afThen` with the load of the children as reader
  exact afThen_flush _ _ h

/-- `Session.get` of an identity that is absent from the identity map before and
    after the flush (one that the flush inserts: `get_pending_found`) -/
theorem autoflush_get_eq_flush_then_get (c : Cfg) (haf : c.af = true) (st st1 : St) (k : Key)
    (habs : st.objs k = none) (h : doFlush c st = some st1) (habs1 : st1.objs k = none) :
    step c st (.get k .on) = step c st1 (.get k .on) := by
  dsimp only [step]
  rw [habs, habs1, autoflushOn, haf]
  exact afThen_flush _ _ h

/-- a pending object is found by `get` once autoflush has inserted it -/
theorem get_pending_found (c : Cfg) (haf : c.af = true) (st st1 : St) (k : Key) (r : Row)
    (habs : st.objs k = none) (hnew : st.new.find? (fun e => e.1 == k) = some (k, r))
    (h : doFlush c st = some st1) :
    (step c st (.get k .on)).2 = .obj (some (r.a, false)) := by
  have hw : hasWork c st = true := by
    unfold hasWork
    cases hl : st.new with
    | nil => rw [hl] at hnew; cases hnew
    | cons _ _ => rfl
  obtain ⟨_, _, _, hobjs, _⟩ := doFlush_work hw h
  have hobj : st1.objs k = some ⟨r, false, false⟩ := by rw [hobjs, objsAfter, hnew]
  dsimp only [step]
  rw [habs, autoflushOn, haf]
  refine (congrArg Prod.snd (afThen_of_flush _ h)).trans ?_
  rw [hobj]

/-- **query_reflects_pending**: the autoflushing statement — any kind, any entry point —
    is evaluated over the database the pending state describes -/
theorem query_reflects_pending (c : Cfg) (haf : c.af = true) (st st1 : St) (k : Kind) (v : Via) (q : Q)
    (hw : hasWork c st = true) (h : doFlush c st = some st1) :
    (step c st (.read k v q .on)).2 =
      consume v (values k st1 (evalQ c.n (specDb st) q).1 (evalQ c.n (specDb st) q).2) := by
  rw [step_read, flushes_on c haf, afThen_of_flush _ h]
  exact (readOn_snd ..).trans (by rw [(flush_eq_spec c st st1 hw h).1])

/-- **no_autoflush_sees_db**: inside `no_autoflush`, with a Session created with
    `autoflush=False`, or — for a statement with the ORM plugin — with the execution
    option `autoflush=False`: no flush, the statement runs on the database as it is -/
theorem no_autoflush_sees_db (c : Cfg) (st : St) (k : Kind) (v : Via) (q : Q) (m : AfMode)
    (hoff : c.af = false ∨ m = .ctxOff ∨ (k.orm = true ∧ m ≠ .on)) :
    (step c st (.read k v q m)).2 =
      consume v (values k st (evalQ c.n st.db q).1 (evalQ c.n st.db q).2) := by
  have hf : flushes c k.orm v m = false := by
    rcases hoff with h | h | ⟨ho, h⟩
    · rw [flushes_table, h]; cases k.orm <;> rfl
    · rw [h]; exact flushes_ctxOff ..
    · rw [flushes_table, ho]
      cases m with
      | on => exact absurd rfl h
      | _ => exact Bool.and_false _
  rw [step_read, hf]
  exact readOn_snd ..

/-- a statement without the ORM plugin has no autoflush execution option (#9809): it
    flushes exactly as without the option -/
theorem core_ignores_autoflush_option (c : Cfg) (st : St) (k : Kind) (v : Via) (q : Q)
    (hk : k.orm = false) :
    step c st (.read k v q .optOff) = step c st (.read k v q .on) := by
  rw [step_read, step_read, flushes_table, flushes_table, hk]
  rfl

/-- pending add + modification + delete, then an autoflushing query / count / lazy load -/
example :
    let c : Cfg := ⟨3, true⟩
    runOut c St.init [.add ⟨0, 0⟩ ⟨1, none⟩, .add ⟨1, 0⟩ ⟨1, some 0⟩, .add ⟨1, 1⟩ ⟨2, some 0⟩, .commit,
                      .query (.all 1) .on, .setA ⟨1, 0⟩ 2, .del ⟨1, 1⟩, .add ⟨1, 2⟩ ⟨2, some 0⟩,
                      .query (.byA 1 2) .optOff, .query (.byA 1 2) .on, .count (.byPid 0) .on,
                      .children 0 .on] =
      [.done, .done, .done, .done, .list [.ent 0 1, .ent 1 2], .done, .done, .done,
       .list [.ent 1 2], .list [.ent 0 2, .ent 2 2], .list [.num 2], .list [.ent 0 2, .ent 2 2]] := by decide +kernel

/-- the entry points and the plugin-less kinds on one pending state (row C0 modified, C1
    deleted, C2 added): `Session.scalar` of a Core count / text / exists statement is the
    first statement after the changes and sees all of them; with `no_autoflush` it does not -/
example :
    let c : Cfg := ⟨3, true⟩
    let pre : List Op := [.add ⟨0, 0⟩ ⟨1, none⟩, .add ⟨1, 0⟩ ⟨1, some 0⟩, .add ⟨1, 1⟩ ⟨2, some 0⟩, .commit,
                          .query (.all 1) .on, .setA ⟨1, 0⟩ 2, .del ⟨1, 1⟩, .add ⟨1, 2⟩ ⟨2, some 0⟩]
    (runOut c St.init (pre ++ [.read .coreCount .scalar (.byA 1 2) .on])).getLast? = some (.one (some (.num 2))) ∧
    (runOut c St.init (pre ++ [.read .coreCount .scalar (.byA 1 2) .ctxOff])).getLast? = some (.one (some (.num 1))) ∧
    (runOut c St.init (pre ++ [.read .coreCount .scalar (.byA 1 2) .optOff])).getLast? = some (.one (some (.num 2))) ∧
    (runOut c St.init (pre ++ [.read .count .scalar (.byA 1 2) .optOff])).getLast? = some (.one (some (.num 1))) ∧
    (runOut c St.init (pre ++ [.read .text .scalar (.byA 1 2) .on])).getLast? = some (.one (some (.id 0))) ∧
    (runOut c St.init (pre ++ [.read .text .scalars (.byA 1 2) .on])).getLast? = some (.list [.id 0, .id 2]) ∧
    (runOut c St.init (pre ++ [.read .existsSel .scalar (.byA 1 1) .on])).getLast? = some (.one (some (.flag false))) ∧
    (runOut c St.init (pre ++ [.read .existsDot .scalar (.byA 1 1) .ctxOff])).getLast? = some (.one (some (.flag true))) ∧
    (runOut c St.init (pre ++ [.read .entity .scalar (.byA 1 2) .on])).getLast? = some (.one (some (.ent 0 2))) ∧
    (runOut c St.init (pre ++ [.read .entity .scalar (.byA 1 7) .on])).getLast? = some (.one none) ∧
    (runOut c St.init (pre ++ [.read .legacy .qFirst (.byA 1 2) .on])).getLast? = some (.one (some (.id 0))) ∧
    (runOut c St.init (pre ++ [.read .legacy .qOne (.byA 1 2) .on])).getLast? = some .multi ∧
    (runOut c St.init (pre ++ [.read .legacy .qCount (.byA 1 2) .on])).getLast? = some (.one (some (.num 2))) := by decide +kernel

/-- hypotheses of `autoflush_query_eq_flush_then_query` are satisfiable with work pending,
    and its conclusion is not trivial: without the flush the scalar differs -/
example :
    let c : Cfg := ⟨2, true⟩
    let st := run c St.init [.add ⟨0, 0⟩ ⟨1, none⟩, .commit, .setA ⟨0, 0⟩ 5, .add ⟨0, 1⟩ ⟨5, none⟩]
    hasWork c st = true ∧ (doFlush c st).isSome = true ∧
    (step c st (.query (.byA 0 5) .on)).2 = .list [.ent 0 5, .ent 1 5] ∧
    (step c st (.read .coreCount .scalar (.byA 0 5) .on)).2 = .one (some (.num 2)) ∧
    (step c st (.read .coreCount .scalar (.byA 0 5) .ctxOff)).2 = .one (some (.num 0)) := by decide +kernel

/-- `scalar_eq_head_of_execute` on a state with pending work: the scalar is the head of the
    executed list, both after the autoflush -/
example :
    let c : Cfg := ⟨2, true⟩
    let st := run c St.init [.add ⟨0, 0⟩ ⟨1, none⟩, .commit, .setA ⟨0, 0⟩ 5, .add ⟨0, 1⟩ ⟨5, none⟩]
    (step c st (.read .text .execute (.byA 0 5) .on)).2 = .list [.id 0, .id 1] ∧
    (step c st (.read .text .scalar (.byA 0 5) .on)).2 = .one (some (.id 0)) := by decide +kernel

end SaVerif.Props.C47
