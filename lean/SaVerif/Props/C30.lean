import SaVerif.Model.WriteBack
import SaVerif.Lemmas.Lookup
/-!
# C30 — flush writes exactly the in-memory object graph to the database

The abstract refinement behind the property (the ORM side — that the unit of work derives a
plan covering the difference of the graphs — is established by the differential run of
harness/props/c30.py against the intended-graph specification): executing, in ANY order, one
operation per differing key (`opFor old new`) on the old graph's rows yields a store that has
under every key the row the new graph has there (`look`: the first row of a key), for all graphs
(`writeback_refines`); the difference plan `plan old new` is such a list (`plan_refines`).
The foreign-key theorems speak of one operation each: no theorem here follows a plan through its
prefixes, and none covers an UPDATE, which can change the reference.
-/
namespace SaVerif.Props.C30
open SaVerif.WriteBack

theorem look_upd (db : DB) (k' : Nat) (r : Option Nat) (k : Nat) :
    look (applyOp db (.upd k' r)) k = if k = k' then (look db k).map fun _ => r else look db k := by
  unfold applyOp look
  dsimp only
  induction db with
  | nil => exact (ite_self none).symm
  | cons a t ih =>
    obtain ⟨a1, a2⟩ := a
    rw [List.map_cons, Lookup.lookup_cons_eq k a1 a2]
    by_cases ha : a1 = k'
    · subst ha
      rw [if_pos (beq_self_eq_true a1), Lookup.lookup_cons_eq, ih]
      by_cases hk : k = a1
      · simp only [if_pos hk]; rfl
      · simp only [if_neg hk]
    · rw [if_neg (mt beq_iff_eq.1 ha), Lookup.lookup_cons_eq, ih]
      by_cases hk : k = a1
      · rw [if_pos hk, if_pos hk, if_neg (hk ▸ ha)]
      · simp only [if_neg hk]

theorem look_del (db : DB) (k' k : Nat) :
    look (applyOp db (.del k')) k = if k = k' then none else look db k := by
  unfold applyOp look
  dsimp only
  induction db with
  | nil => exact (ite_self none).symm
  | cons a t ih =>
    obtain ⟨a1, a2⟩ := a
    rw [List.filter_cons, Lookup.lookup_cons_eq k a1 a2]
    by_cases ha : a1 = k'
    · subst ha
      rw [if_neg (by simp), ih]
      by_cases hk : k = a1
      · simp only [if_pos hk]
      · simp only [if_neg hk]
    · rw [if_pos (bne_iff_ne.2 ha), Lookup.lookup_cons_eq, ih]
      by_cases hk : k = a1
      · rw [if_pos hk, if_pos hk, if_neg (hk ▸ ha)]
      · simp only [if_neg hk]

theorem look_ins (db : DB) (k' : Nat) (r : Option Nat) (k : Nat) :
    look (applyOp db (.ins k' r)) k = if k = k' then some r else look db k := by
  simp only [applyOp, look]
  rw [Lookup.lookup_cons_eq]

/-- what one operation leaves under its own key when its precondition `Pre` holds -/
def resultOf : Op → Option (Option Nat)
  | .ins _ r => some r
  | .upd _ r => some r
  | .del _ => none

def Pre (db : DB) : Op → Prop
  | .ins k _ => look db k = none
  | .upd k _ => (look db k).isSome = true
  | .del _ => True

/-- what an operation makes of whatever it finds under its own key, `Pre` or not: an UPDATE of an
    absent key stores nothing -/
def act : Op → Option (Option Nat) → Option (Option Nat)
  | .ins _ r, _ => some r
  | .upd _ r, x => x.map fun _ => r
  | .del _, _ => none

theorem look_applyOp (db : DB) (op : Op) (k : Nat) :
    look (applyOp db op) k = if k = op.key then act op (look db k) else look db k := by
  cases op with
  | ins k' r => exact look_ins db k' r k
  | upd k' r => exact look_upd db k' r k
  | del k' => exact look_del db k' k

theorem act_of_pre {db : DB} {op : Op} (hpre : Pre db op) :
    act op (look db op.key) = resultOf op := by
  cases op with
  | upd k r =>
    show (look db k).map _ = some r
    cases h : look db k with
    | none => rw [Pre, h] at hpre; cases hpre
    | some _ => rfl
  | _ => rfl

/-- the row under `k` is decided by the operations on `k` alone, in their order: operations on
    distinct keys commute as far as the stored rows are concerned -/
theorem look_applyAll (ops : List Op) : ∀ (db : DB) (k : Nat),
    look (applyAll db ops) k =
      (ops.filter (·.key == k)).foldl (fun x op => act op x) (look db k) := by
  induction ops with
  | nil => intro db k; rfl
  | cons op t ih =>
    intro db k
    rw [applyAll, List.foldl_cons, ← applyAll, ih, look_applyOp, List.filter_cons]
    by_cases hk : k = op.key
    · rw [if_pos hk, if_pos (beq_iff_eq.2 hk.symm)]; rfl
    · rw [if_neg hk, if_neg (mt beq_iff_eq.1 (Ne.symm hk))]

theorem filter_key_of_nodup {ops : List Op} (hnd : (ops.map Op.key).Nodup) {op : Op}
    (hop : op ∈ ops) : ops.filter (·.key == op.key) = [op] := by
  induction ops with
  | nil => cases hop
  | cons a t ih =>
    rw [List.map_cons, List.nodup_cons] at hnd
    rw [List.filter_cons]
    rcases List.mem_cons.1 hop with rfl | ht
    · rw [if_pos (beq_self_eq_true _), List.filter_eq_nil_iff.2 fun o ho (e : (o.key == op.key) = true) =>
        hnd.1 (beq_iff_eq.1 e ▸ List.mem_map_of_mem (f := Op.key) ho)]
    · have hne : ¬(a.key == op.key) = true := fun e =>
        hnd.1 ((beq_iff_eq.1 e).symm ▸ List.mem_map_of_mem (f := Op.key) ht)
      rw [if_neg hne, ih hnd.2 ht]

theorem opFor_spec (old new : DB) (k : Nat) :
    match opFor old new k with
    | some op => op.key = k ∧ resultOf op = look new k ∧ Pre old op
    | none => look old k = look new k := by
  unfold opFor
  cases ho : look old k with
  | none =>
    cases look new k with
    | none => exact rfl
    | some r => exact ⟨rfl, rfl, ho⟩
  | some r0 =>
    cases look new k with
    | none => exact ⟨rfl, rfl, trivial⟩
    | some r =>
      dsimp only
      by_cases he : (r0 == r) = true
      · rw [if_pos he]; exact congrArg some (beq_iff_eq.1 he)
      · rw [if_neg he]; exact ⟨rfl, rfl, by rw [Pre, ho]; rfl⟩

theorem opFor_some (old new : DB) (k : Nat) (op : Op) (h : opFor old new k = some op) :
    op.key = k ∧ resultOf op = look new k ∧ Pre old op := by
  have := opFor_spec old new k
  rwa [h] at this

theorem opFor_none (old new : DB) (k : Nat) (h : opFor old new k = none) : look old k = look new k := by
  have := opFor_spec old new k
  rwa [h] at this

theorem writeback_refines (old new : DB) (ops : List Op)
    (hnd : (ops.map Op.key).Nodup)
    (hcover : ∀ k op, opFor old new k = some op → op ∈ ops)
    (hsound : ∀ op ∈ ops, opFor old new op.key = some op) :
    ∀ k, look (applyAll old ops) k = look new k := by
  intro k
  rw [look_applyAll]
  -- the operations on `k` among `ops` are exactly what `opFor old new k` asks for
  cases ho : opFor old new k with
  | some op =>
    obtain ⟨rfl, hres, hpre⟩ := opFor_some old new k op ho
    rw [filter_key_of_nodup hnd (hcover _ op ho)]
    exact (act_of_pre hpre).trans hres
  | none =>
    rw [List.filter_eq_nil_iff.2 fun o hmem e => by
      rw [← beq_iff_eq.1 e, hsound o hmem] at ho; cases ho]
    exact opFor_none old new k ho

theorem mem_dedup (l : List Nat) (a : Nat) : a ∈ dedup l ↔ a ∈ l := by
  induction l with
  | nil => exact Iff.rfl
  | cons x t ih =>
    rw [dedup, List.mem_cons, List.mem_cons, List.mem_filter, ih]
    by_cases hx : a = x <;> simp [hx]

theorem nodup_dedup (l : List Nat) : (dedup l).Nodup := by
  induction l with
  | nil => simp [dedup]
  | cons x t ih =>
    simp only [dedup, List.nodup_cons, List.mem_filter]
    refine ⟨by simp, ih.sublist List.filter_sublist⟩

theorem mem_keys_of_look {db : DB} {k : Nat} {r : Option Nat} (h : look db k = some r) :
    k ∈ keys db := by
  induction db with
  | nil => cases h
  | cons a t ih =>
    obtain ⟨a1, a2⟩ := a
    rw [look, Lookup.lookup_cons_eq] at h
    by_cases hk : k = a1
    · exact hk ▸ List.mem_cons_self
    · rw [if_neg hk] at h; exact List.mem_cons_of_mem _ (ih h)

theorem plan_refines (old new : DB) : ∀ k, look (applyAll old (plan old new)) k = look new k := by
  have key : ∀ a b, (opFor old new a).map Op.key = some b → b = a := fun a b h => by
    obtain ⟨op, ho, rfl⟩ := Option.map_eq_some_iff.1 h
    exact (opFor_some old new a op ho).1
  apply writeback_refines
  · rw [plan, List.map_filterMap]
    exact List.Pairwise.filterMap _
      (fun a a' hne b hb b' hb' e => hne (by rw [← key a b hb, e, key a' b' hb'])) (nodup_dedup _)
  · intro k op ho
    refine List.mem_filterMap.2 ⟨k, (mem_dedup _ _).2 (List.mem_append.2 ?_), ho⟩
    cases h1 : look old k with
    | some r => exact .inl (mem_keys_of_look h1)
    | none =>
      cases h2 : look new k with
      | some r => exact .inr (mem_keys_of_look h2)
      | none => rw [opFor, h1, h2] at ho; cases ho
  · intro op hop
    obtain ⟨b, _, hob⟩ := List.mem_filterMap.1 hop
    rw [(opFor_some old new b op hob).1]
    exact hob

/-- non-vacuity: a concrete difference (insert 3, re-parent 2, delete 1) in two orders -/
example :
    let old : DB := [(1, none), (2, some 1), (4, none)]
    let new : DB := [(2, some 4), (3, some 2), (4, none)]
    (plan old new).length = 3 ∧
    (∀ k ∈ [1, 2, 3, 4, 5], look (applyAll old (plan old new)) k = look new k) ∧
    (∀ k ∈ [1, 2, 3, 4, 5], look (applyAll old (plan old new).reverse) k = look new k) := by decide +kernel

theorem fkClosed_iff (db : DB) :
    fkClosed db = true ↔ ∀ row ∈ db, ∀ p, row.2 = some p → p ∈ keys db := by
  rw [fkClosed, List.all_eq_true]
  refine forall_congr' fun row => forall_congr' fun _ => ?_
  cases row.2 <;> simp

/-- inserting a row whose FK is NULL or references a stored row (or itself) -/
theorem insert_keeps_fk (db : DB) (k : Nat) (r : Option Nat) (h : fkClosed db = true)
    (hr : match r with
          | none => True
          | some p => p = k ∨ (keys db).contains p = true) :
    fkClosed (applyOp db (.ins k r)) = true := by
  rw [fkClosed_iff] at h ⊢
  intro row hrow p hp
  show p ∈ k :: keys db
  rcases List.mem_cons.1 hrow with rfl | hrow
  · cases hp
    rcases hr with rfl | hr
    · exact List.mem_cons_self
    · exact List.mem_cons_of_mem _ (List.contains_iff_mem.1 hr)
  · exact List.mem_cons_of_mem _ (h row hrow p hp)

/-- deleting a row that no remaining row references -/
theorem delete_keeps_fk (db : DB) (k : Nat) (h : fkClosed db = true)
    (hun : ∀ row ∈ db, row.1 ≠ k → row.2 ≠ some k) :
    fkClosed (applyOp db (.del k)) = true := by
  rw [fkClosed_iff] at h ⊢
  intro row hrow p hp
  obtain ⟨hin, hne⟩ := List.mem_filter.1 hrow
  have hpk : p ≠ k := fun e => hun row hin (by simpa using hne) (e ▸ hp)
  obtain ⟨r2, hr2, he⟩ := List.mem_map.1 (h row hin p hp)
  exact List.mem_map.2 ⟨r2, List.mem_filter.2 ⟨hr2, by simpa [he] using hpk⟩, he⟩

example : fkClosed (applyAll [(1, none)] [.ins 2 (some 1), .ins 3 (some 2), .del 3, .del 2]) = true := by decide +kernel
example : fkClosed (applyAll [(1, none)] [.ins 3 (some 2), .ins 2 (some 1)]) = true ∧
          fkClosed (applyAll [(1, none)] [.ins 3 (some 2)]) = false := by decide +kernel

end SaVerif.Props.C30
