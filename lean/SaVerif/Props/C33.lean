import SaVerif.Model.SessTxn
/-!
# C33 — Session commit/rollback/savepoint keep the session consistent with the database

Theorems about M-SESS (`SaVerif/Model/SessTxn.lean`, transcription of the SessionTransaction
snapshot machinery of `lib/sqlalchemy/orm/session.py`).

Full statement (NOT proved; see the partial results and the counterexamples below):
  for every history of add / modify / pk-switch / delete / flush / load / begin_nested /
  commit / rollback in which scopes are ended innermost-first, after every step the session
  is `coherent` (definition below: every persistent object's identity key names a row of
  the session's connection, loaded non-dirty values equal that row, flushed-deleted objects
  have no row, identity keys are unique).
What is proved: the ROWS side for every history (`session_rows_invariant`,
`session_end_states`: stack always well formed, no transaction ⇒ rows = committed rows,
out-of-order handle operations included); for ALL states, what a root rollback / a savepoint
rollback do to rows, transaction stack and loaded values, that `begin_nested()` flushes whatever
`autoflush` says and starts with nothing accounted to it, and that a flush touches the innermost
transaction's collections only (`begin_nested_ignores_autoflush`, `savepoint_scope_starts_empty`,
`flushObj_outer_untouched`); and that the OBJECT side is
FALSE without the innermost-first restriction (F20), with a repeated key switch across a
released savepoint (F21) and for added+key-switched objects (F23).  The unrestricted part is
carried by the differential correspondence and the oracle of `harness/props/c33.py`.
-/
namespace SaVerif.Props.C33
open SaVerif.SessTxn

/-- the consistency predicate of the property (decidable: used in evaluated examples and as
    the formal counterpart of the harness oracle) -/
def coherent (s : Sess) : Bool :=
  s.imap.all (fun o =>
    let x := s.obj o
    match x.key with
    | some k =>
      x.attached && !x.delFlag &&
      (match s.rows.get k with
       | some rv => (x.modV || !x.vL || x.v == rv) && (x.modPk || !x.idL || x.pk == k)
       | none => false) &&
      s.imap.all (fun o' => o' == o || (s.obj o').key != some k)
    | none => false)
  && (List.range s.objs.length).all (fun o =>
    let x := s.obj o
    !(x.attached && x.delFlag) || (match x.key with | some k => (s.rows.get k).isNone | none => true))

theorem setObj_obj_ne (s : Sess) (o o' : Nat) (f : Obj → Obj) (h : o ≠ o') :
    (s.setObj o f).obj o' = s.obj o' := by
  simp [Sess.obj, Sess.setObj, List.getD_eq_getElem?_getD, List.getElem?_modify_ne _ _ h]

theorem setObj_obj_eq (s : Sess) (o : Nat) (f : Obj → Obj) (h : o < s.objs.length) :
    (s.setObj o f).obj o = f (s.obj o) := by
  simp [Sess.obj, Sess.setObj, List.getD_eq_getElem?_getD, List.getElem?_eq_getElem h]

def Expired (x : Obj) : Prop := x.idL = false ∧ x.vL = false ∧ x.modPk = false ∧ x.modV = false

theorem expire_expired (x : Obj) : Expired x.expire := ⟨rfl, rfl, rfl, rfl⟩

theorem expire_idem (x : Obj) (h : Expired x) : x.expire = x := by
  obtain ⟨a, b, c, d⟩ := h
  cases x; simp_all [Obj.expire]

theorem default_expired : Expired (default : Obj) := ⟨rfl, rfl, rfl, rfl⟩

theorem setObj_expire_obj (s : Sess) (a o : Nat) (h : Expired (s.obj o) ∨ a = o) :
    Expired ((s.setObj a Obj.expire).obj o) := by
  by_cases e : a = o
  · subst e
    -- an index past the end reads the default object, which is expired as well
    simp only [Sess.obj, Sess.setObj, List.getD_eq_getElem?_getD, List.getElem?_modify_eq]
    cases s.objs[a]? with
    | none => exact default_expired
    | some x => exact expire_expired x
  · rw [setObj_obj_ne _ _ _ _ e]
    exact h.resolve_right e

/-- the transaction stack up to the per-transaction bookkeeping sets -/
def shape (s : Sess) : List (Nat × Bool × Rows) := s.txns.map (fun t => (t.h, t.nested, t.saveRows))

/-- what an operation that writes no row keeps; `CFrame` below is the part a flush keeps too -/
structure Frame (s s' : Sess) : Prop where
  rows : s'.rows = s.rows
  committed : s'.committed = s.committed
  shape : shape s' = shape s
  eoc : s'.eoc = s.eoc
  ended : s'.ended = s.ended

theorem Frame.refl (s : Sess) : Frame s s := ⟨rfl, rfl, rfl, rfl, rfl⟩
theorem Frame.trans {a b c : Sess} (h1 : Frame a b) (h2 : Frame b c) : Frame a c :=
  ⟨h2.rows.trans h1.rows, h2.committed.trans h1.committed, h2.shape.trans h1.shape,
   h2.eoc.trans h1.eoc, h2.ended.trans h1.ended⟩

theorem Frame.ite {s a b : Sess} {c : Prop} [Decidable c] (ha : Frame s a) (hb : Frame s b) :
    Frame s (if c then a else b) :=
  iteInduction (fun _ => ha) (fun _ => hb)

theorem frame_setObj (s : Sess) (o : Nat) (f : Obj → Obj) : Frame s (s.setObj o f) :=
  ⟨rfl, rfl, rfl, rfl, rfl⟩

/-- `f` keeps what `shape` records of a transaction -/
def KeepsScope (f : STx → STx) : Prop :=
  ∀ t, ((f t).h, (f t).nested, (f t).saveRows) = (t.h, t.nested, t.saveRows)

theorem frame_modTop (s : Sess) (f : STx → STx) (hf : KeepsScope f) : Frame s (s.modTop f) := by
  unfold Sess.modTop
  cases ht : s.txns with
  | nil => exact .refl s
  | cons t rest => exact { Frame.refl s with shape := by simp [shape, ht, hf t] }

theorem frame_expunge (s : Sess) (o : Nat) : Frame s (s.expunge o) := by
  unfold Sess.expunge
  refine .trans ?_ (frame_setObj _ o _)
  exact .ite ⟨rfl, rfl, rfl, rfl, rfl⟩
    (.ite ⟨rfl, rfl, rfl, rfl, rfl⟩ (frame_modTop s _ fun _ => rfl))

theorem frame_expungeAll (l : List Nat) (s : Sess) : Frame s (expungeAll l s) := by
  induction l generalizing s with
  | nil => exact .refl s
  | cons o os ih => exact (frame_expunge s o).trans (ih _)

theorem frame_restoreKeys (x : List Nat) (l : List (Nat × (Nat × Nat))) (s : Sess) :
    Frame s (restoreKeys x l s) := by
  induction l generalizing s with
  | nil => exact .refl s
  | cons e es ih =>
    obtain ⟨o, old, nw⟩ := e
    refine .trans ?_ (ih _)
    exact .ite ⟨rfl, rfl, rfl, rfl, rfl⟩ ⟨rfl, rfl, rfl, rfl, rfl⟩

theorem frame_revertDeletion (s : Sess) (o : Nat) : Frame s (s.revertDeletion o) :=
  .ite (.refl s) (.ite (.refl s) ⟨rfl, rfl, rfl, rfl, rfl⟩)

theorem frame_revertAll (l : List Nat) (s : Sess) : Frame s (revertAll l s) := by
  induction l generalizing s with
  | nil => exact .refl s
  | cons o os ih => exact (frame_revertDeletion s o).trans (ih _)

theorem frame_expireWhere (p : Nat → Obj → Bool) (l : List Nat) (s : Sess) :
    Frame s (expireWhere p l s) := by
  induction l generalizing s with
  | nil => exact .refl s
  | cons o os ih =>
    refine .trans ?_ (ih _)
    exact .ite (frame_setObj ..) (.refl s)

theorem frame_restoreSnapshot (s : Sess) (t : STx) (d : Bool) : Frame s (s.restoreSnapshot t d) :=
  (((frame_expungeAll _ s).trans (frame_restoreKeys ..)).trans (frame_revertAll ..)).trans
    (frame_expireWhere ..)

theorem expireWhere_true_spec (l : List Nat) (s : Sess) :
    (expireWhere (fun _ _ => true) l s).imap = s.imap ∧
    (∀ o ∈ l, Expired ((expireWhere (fun _ _ => true) l s).obj o)) ∧
    (∀ o, Expired (s.obj o) → Expired ((expireWhere (fun _ _ => true) l s).obj o)) := by
  induction l generalizing s with
  | nil => exact ⟨rfl, fun _ h => absurd h List.not_mem_nil, fun _ h => h⟩
  | cons a l ih =>
    obtain ⟨himap, hmem, hkeep⟩ := ih (s.setObj a Obj.expire)
    refine ⟨himap, fun o ho => ?_, fun o he => hkeep o (setObj_expire_obj s a o (.inl he))⟩
    rcases List.mem_cons.1 ho with rfl | ho
    · exact hkeep _ (setObj_expire_obj s _ _ (.inr rfl))
    · exact hmem o ho

/-- the last loop of `_restore_snapshot(dirty_only=False)` expires the whole identity map -/
theorem restoreSnapshot_expired (s : Sess) (t : STx) :
    ∀ o ∈ (s.restoreSnapshot t false).imap, Expired ((s.restoreSnapshot t false).obj o) := by
  unfold Sess.restoreSnapshot
  simp only [Bool.not_false, Bool.true_or]
  intro o ho
  rw [(expireWhere_true_spec ..).1] at ho
  exact (expireWhere_true_spec ..).2.1 o ho

theorem shape_cons {s : Sess} {t : STx} {rest : List STx} (ht : s.txns = t :: rest) :
    shape s = (t.h, t.nested, t.saveRows) :: rest.map (fun t => (t.h, t.nested, t.saveRows)) := by
  rw [shape, ht, List.map_cons]

theorem rollbackTop_cons {s : Sess} {t : STx} {rest : List STx} (ht : s.txns = t :: rest) :
    s.rollbackTop =
      (({ s with rows := if t.nested then t.saveRows else s.committed } : Sess).restoreSnapshot
        t t.nested).popTx := by
  rw [Sess.rollbackTop, ht]

theorem popTx_spec {s : Sess} {x : Nat × Bool × Rows} {xs : List (Nat × Bool × Rows)}
    (h : shape s = x :: xs) :
    shape s.popTx = xs ∧ s.popTx.ended = s.ended ++ [x.1] ∧ s.popTx.rows = s.rows ∧
    s.popTx.committed = s.committed ∧ s.popTx.imap = s.imap ∧ s.popTx.objs = s.objs := by
  unfold Sess.popTx
  cases htx : s.txns with
  | nil => simp [shape, htx] at h
  | cons t' rest' =>
    simp only [shape, htx, List.map_cons, List.cons.injEq] at h
    exact ⟨h.2, by rw [← h.1], rfl, rfl, rfl, rfl⟩

/-- **nested_rollback_restores_rows**: rolling back the innermost transaction when it is a
    savepoint puts the rows back to what they were at the SAVEPOINT, pops exactly that
    transaction and does not touch what other connections see. -/
theorem nested_rollback_restores_rows (s : Sess) (t : STx) (rest : List STx)
    (ht : s.txns = t :: rest) (hn : t.nested = true) :
    s.rollbackTop.rows = t.saveRows ∧ s.rollbackTop.committed = s.committed ∧
    shape s.rollbackTop = rest.map (fun t => (t.h, t.nested, t.saveRows)) ∧
    s.rollbackTop.ended = s.ended ++ [t.h] := by
  rw [rollbackTop_cons ht, hn, if_pos rfl]
  have hf := frame_restoreSnapshot ({ s with rows := t.saveRows } : Sess) t true
  obtain ⟨hshape, hended, hrows, hcomm, _⟩ := popTx_spec (hf.shape.trans (shape_cons ht))
  exact ⟨hrows.trans hf.rows, hcomm.trans hf.committed, hshape, hended.trans (by rw [hf.ended])⟩

/-- **root_rollback_expires_all**: rolling back the outermost transaction leaves no
    transaction, shows exactly the committed rows, and NO object of the identity map keeps a
    loaded value or a pending change — whatever is read afterwards comes from the database. -/
theorem root_rollback_expires_all (s : Sess) (t : STx) (ht : s.txns = [t]) (hn : t.nested = false) :
    s.rollbackTop.txns = [] ∧ s.rollbackTop.rows = s.committed ∧
    s.rollbackTop.committed = s.committed ∧
    ∀ o ∈ s.rollbackTop.imap, Expired (s.rollbackTop.obj o) := by
  rw [rollbackTop_cons ht, hn, if_neg Bool.false_ne_true]
  have hf := frame_restoreSnapshot ({ s with rows := s.committed } : Sess) t false
  obtain ⟨hshape, _, hrows, hcomm, himap, hobjs⟩ := popTx_spec (hf.shape.trans (shape_cons ht))
  refine ⟨List.map_eq_nil_iff.1 hshape, hrows.trans hf.rows, hcomm.trans hf.committed, fun o ho => ?_⟩
  rw [Sess.obj, hobjs]
  exact restoreSnapshot_expired _ t o (himap ▸ ho)

def flags (s : Sess) : List Bool := s.txns.map (·.nested)

/-- innermost first: savepoint transactions on top of exactly one root transaction -/
def StackOk : List Bool → Prop
  | [] => True
  | [b] => b = false
  | b :: b' :: rest => b = true ∧ StackOk (b' :: rest)

def RInv (s : Sess) : Prop := StackOk (flags s) ∧ (s.txns = [] → s.rows = s.committed)

theorem flags_shape (s : Sess) : flags s = (shape s).map (·.2.1) := by
  simp [flags, shape]

theorem txns_nil_iff_shape {s : Sess} : s.txns = [] ↔ shape s = [] :=
  List.map_eq_nil_iff.symm

theorem flags_of_shape {s s' : Sess} (h : shape s' = shape s) : flags s' = flags s := by
  rw [flags_shape, flags_shape, h]

theorem txns_nil_of_shape {s s' : Sess} (h : shape s' = shape s) : s'.txns = [] ↔ s.txns = [] := by
  rw [txns_nil_iff_shape, txns_nil_iff_shape, h]

theorem txns_length_of_shape {s s' : Sess} (h : shape s' = shape s) :
    s'.txns.length = s.txns.length := by
  simpa [shape] using congrArg List.length h

/-- what a flush keeps: it does change the rows -/
structure CFrame (s s' : Sess) : Prop where
  committed : s'.committed = s.committed
  shape : shape s' = shape s

theorem CFrame.refl (s : Sess) : CFrame s s := ⟨rfl, rfl⟩
theorem CFrame.trans {a b c : Sess} (h1 : CFrame a b) (h2 : CFrame b c) : CFrame a c :=
  ⟨h2.committed.trans h1.committed, h2.shape.trans h1.shape⟩
theorem Frame.toC {s s' : Sess} (h : Frame s s') : CFrame s s' := ⟨h.committed, h.shape⟩

/-- the form of every change a flush makes for one object -/
def upd (s : Sess) (r : Rows) (i m n : List Nat) (f : STx → STx) (o : Nat) (g : Obj → Obj) : Sess :=
  (({ s with rows := r, imap := i, marked := m, new := n } : Sess).modTop f).setObj o g

theorem cframe_upd {s : Sess} {r : Rows} {i m n : List Nat} {f : STx → STx} {o : Nat} {g : Obj → Obj}
    (hf : KeepsScope f) : CFrame s (upd s r i m n f o g) :=
  .trans (b := { s with rows := r, imap := i, marked := m, new := n }) ⟨rfl, rfl⟩
    ((frame_modTop _ f hf).trans (frame_setObj _ o g)).toC

theorem upd_txns_tail (s : Sess) (r : Rows) (i m n : List Nat) (f : STx → STx) (o : Nat)
    (g : Obj → Obj) : (upd s r i m n f o g).txns.tail = s.txns.tail := by
  show (Sess.modTop _ f).txns.tail = _
  unfold Sess.modTop
  show (match s.txns with | t :: rest => _ | [] => _ : Sess).txns.tail = _
  cases s.txns <;> rfl

theorem upd_withAf (s : Sess) (b : Bool) (r : Rows) (i m n : List Nat) (f : STx → STx) (o : Nat)
    (g : Obj → Obj) : upd (s.withAf b) r i m n f o g = (upd s r i m n f o g).withAf b := by
  unfold upd Sess.modTop
  show Sess.setObj (match s.txns with | t :: rest => _ | [] => _) o g
    = Sess.withAf (Sess.setObj (match s.txns with | t :: rest => _ | [] => _) o g) b
  cases s.txns <;> rfl

/-- the single case analysis of `flushObj` -/
theorem flushObj_form (s : Sess) (o : Nat) :
    (∀ b, (s.withAf b).flushObj o = s.withAf b) ∨
    ∃ r i m n f g, KeepsScope f ∧ ∀ b, (s.withAf b).flushObj o = upd (s.withAf b) r i m n f o g := by
  have hobj : ∀ b, (s.withAf b).obj o = s.obj o := fun _ => rfl
  by_cases h1 : s.marked.contains o = true
  · cases hk : (s.obj o).key with
    | none =>
      refine .inl fun b => ?_
      unfold Sess.flushObj
      rw [hobj, if_pos h1, hk]
    | some k =>
      -- `eq` goes first: `rfl` reads `f` (what the top transaction records) and `g` (the object
      -- afterwards) off it, which must not mention `b`; after `dsimp` the flag occurs in the
      -- `autoflush` field only
      refine' .inr ⟨s.rows.del k, s.imap.filter (· != o), s.marked.filter (· != o), s.new, _, _, ?ks,
        fun b => ?eq⟩
      case eq =>
        unfold Sess.flushObj
        rw [hobj, if_pos h1, hk]
        dsimp only [Sess.withAf]
        rfl
      case ks => exact fun _ => rfl
  · by_cases h2 : s.new.contains o = true
    · refine' .inr ⟨s.rows.set (s.obj o).pk (s.obj o).v, addOnce s.imap o, s.marked,
        s.new.filter (· != o), _, _, ?ks, fun b => ?eq⟩
      case eq =>
        unfold Sess.flushObj
        rw [hobj, if_neg h1, if_pos h2]
        dsimp only [Sess.withAf]
        rfl
      case ks => exact fun _ => rfl
    · by_cases h3 : (s.imap.contains o && (s.obj o).modified) = true
      · cases hk : (s.obj o).key with
        | none =>
          refine .inl fun b => ?_
          unfold Sess.flushObj
          rw [hobj, if_neg h1, if_neg h2, if_pos h3, hk]
        | some k =>
          -- the row moves to the new key, if the key changed
          refine' .inr ⟨_, s.imap, s.marked, s.new, _, _, ?ks, fun b => ?eq⟩
          case eq =>
            unfold Sess.flushObj
            rw [hobj, if_neg h1, if_neg h2, if_pos h3, hk]
            dsimp only [Sess.withAf]
            rfl
          case ks => exact fun _ => rfl
      · refine .inl fun b => ?_
        unfold Sess.flushObj
        rw [hobj, if_neg h1, if_neg h2, if_neg h3]

/-- `s.withAf s.autoflush` is `s` -/
theorem flushObj_form_self (s : Sess) (o : Nat) :
    s.flushObj o = s ∨ ∃ r i m n f g, KeepsScope f ∧ s.flushObj o = upd s r i m n f o g := by
  obtain e | ⟨r, i, m, n, f, g, hf, e⟩ := flushObj_form s o
  · exact .inl (e s.autoflush)
  · exact .inr ⟨r, i, m, n, f, g, hf, e s.autoflush⟩

theorem cframe_flushObj (s : Sess) (o : Nat) : CFrame s (s.flushObj o) := by
  obtain e | ⟨r, i, m, n, f, g, hf, e⟩ := flushObj_form_self s o
  · rw [e]; exact .refl s
  · rw [e]; exact cframe_upd hf

theorem cframe_flushAll (l : List Nat) (s : Sess) : CFrame s (flushAll l s) := by
  induction l generalizing s with
  | nil => exact .refl s
  | cons o os ih => exact (cframe_flushObj s o).trans (ih _)

theorem autobegin_of_txns_ne {s : Sess} (h : s.txns ≠ []) : s.autobegin = s :=
  if_neg (mt List.isEmpty_iff.1 h)

theorem flags_autobegin_of_nil {s : Sess} (h : s.txns = []) : flags s.autobegin = [false] := by
  rw [Sess.autobegin, h]; rfl

theorem autobegin_txns_ne (s : Sess) : s.autobegin.txns ≠ [] := by
  unfold Sess.autobegin
  split
  · exact List.cons_ne_nil _ _
  · rename_i h; exact mt List.isEmpty_iff.2 h

theorem rinv_autobegin {s : Sess} (h : RInv s) : RInv s.autobegin := by
  refine ⟨?_, fun e => absurd e (autobegin_txns_ne s)⟩
  by_cases ht : s.txns = []
  · rw [flags_autobegin_of_nil ht]; rfl
  · rw [autobegin_of_txns_ne ht]; exact h.1

theorem rinv_of_shape {s s' : Sess} (h : RInv s) (hs : shape s' = shape s)
    (hr : s'.txns = [] → s'.rows = s'.committed) : RInv s' :=
  ⟨flags_of_shape hs ▸ h.1, hr⟩

theorem rinv_frame {s s' : Sess} (h : RInv s) (hf : Frame s s') : RInv s' :=
  rinv_of_shape h hf.shape fun e => by
    rw [hf.rows, hf.committed]; exact h.2 ((txns_nil_of_shape hf.shape).1 e)

/-- a step that keeps committed rows and stack shape (`CFrame` says nothing of `rows`) and is only
    taken with a transaction open (`hne`) -/
theorem rinv_cframe {s s' : Sess} (h : RInv s) (hf : CFrame s s') (hne : s.txns ≠ []) : RInv s' :=
  rinv_of_shape h hf.shape fun e => absurd ((txns_nil_of_shape hf.shape).1 e) hne

theorem flush_cases (s : Sess) : s.flush = s ∨ CFrame s.autobegin s.flush := by
  unfold Sess.flush
  split
  · exact .inr (cframe_flushAll ..)
  · exact .inl rfl

theorem cframe_flush {s : Sess} (hne : s.txns ≠ []) : CFrame s s.flush := by
  obtain e | h := flush_cases s
  · rw [e]; exact .refl s
  · rwa [autobegin_of_txns_ne hne] at h

theorem rinv_flush {s : Sess} (h : RInv s) : RInv s.flush := by
  obtain e | hf := flush_cases s
  · rwa [e]
  · exact rinv_cframe (rinv_autobegin h) hf (autobegin_txns_ne s)

theorem flush_txns_ne {s : Sess} (hne : s.txns ≠ []) : s.flush.txns ≠ [] :=
  fun e => hne ((txns_nil_of_shape (cframe_flush hne).shape).1 e)

theorem rinv_load {s : Sess} (h : RInv s) (o : Nat) : RInv (s.load o).1 := by
  have h1 : RInv s.autobegin.autoflushNow :=
    iteInduction (fun _ => rinv_flush (rinv_autobegin h)) (fun _ => rinv_autobegin h)
  unfold Sess.load
  simp only []
  split
  · exact rinv_frame h1 (frame_setObj ..)
  · exact h1

theorem stackOk_tail {b : Bool} {l : List Bool} (h : StackOk (b :: l)) : StackOk l := by
  cases l with
  | nil => trivial
  | cons b' r => exact h.2

theorem frame_foldl_setObj (g : Obj → Obj) (l : List Nat) (s : Sess) :
    Frame s (l.foldl (fun s o => s.setObj o g) s) := by
  induction l generalizing s with
  | nil => exact .refl s
  | cons o os ih => exact (frame_setObj s o g).trans (ih _)

theorem frame_removeSnapshot (s : Sess) (t : STx) : Frame s (s.removeSnapshot t) :=
  .ite ((frame_expireWhere ..).trans (frame_foldl_setObj ..))
    (.ite (frame_modTop s _ fun _ => rfl) (.refl s))

def Ends (f : Sess → Sess) : Prop :=
  ∀ {s}, RInv s → s.txns ≠ [] → RInv (f s) ∧ (f s).txns.length + 1 = s.txns.length

/-- `s1`: the state right before the pop, with the stack of `s` (`hs`) -/
theorem rinv_pop {s s1 : Sess} {t : STx} {rest : List STx} (h : RInv s) (ht : s.txns = t :: rest)
    (hs : shape s1 = shape s) (hroot : t.nested = false → s1.rows = s1.committed) :
    RInv s1.popTx ∧ s1.popTx.txns.length + 1 = s.txns.length := by
  obtain ⟨hshape, _, hrows, hcomm, _⟩ := popTx_spec (hs.trans (shape_cons ht))
  have hstack := h.1
  rw [flags, ht, List.map_cons] at hstack
  have hrest : flags s1.popTx = rest.map (·.nested) := by
    rw [flags_shape, hshape, List.map_map]; rfl
  refine ⟨⟨hrest ▸ stackOk_tail hstack, fun e => ?_⟩, ?_⟩
  · -- nothing is left after the pop: by `StackOk` the popped transaction was the root
    rw [flags, e, List.map_nil] at hrest
    rw [← hrest] at hstack
    rw [hrows, hcomm]
    exact hroot hstack
  · have := congrArg List.length hshape
    rw [shape, List.length_map, List.length_map] at this
    rw [this, ht]; rfl

theorem commitTop_cons {s : Sess} {t : STx} {rest : List STx} (ht : s.flush.txns = t :: rest) :
    s.commitTop =
      ((if t.nested then s.flush else { s.flush with committed := s.flush.rows }).popTx).removeSnapshot t := by
  simp only [Sess.commitTop, ht]

theorem ends_commitTop : Ends Sess.commitTop := by
  intro s h hne
  obtain ⟨t, rest, ht⟩ := List.exists_cons_of_ne_nil (flush_txns_ne hne)
  rw [commitTop_cons ht, ← txns_length_of_shape (cframe_flush hne).shape]
  obtain ⟨p1, p2⟩ := rinv_pop (rinv_flush h) ht
    (s1 := if t.nested then s.flush else { s.flush with committed := s.flush.rows })
    (by split <;> rfl) (fun e => by rw [e]; rfl)
  exact ⟨rinv_frame p1 (frame_removeSnapshot ..),
    by rw [txns_length_of_shape (frame_removeSnapshot ..).shape]; exact p2⟩

theorem ends_rollbackTop : Ends Sess.rollbackTop := by
  intro s h hne
  obtain ⟨t, rest, ht⟩ := List.exists_cons_of_ne_nil hne
  rw [rollbackTop_cons ht]
  have hf := frame_restoreSnapshot
    ({ s with rows := if t.nested then t.saveRows else s.committed } : Sess) t t.nested
  exact rinv_pop h ht hf.shape fun e => by rw [hf.rows, hf.committed, e]; rfl

theorem ends_closeTop : Ends Sess.closeTop := by
  intro s h hne
  obtain ⟨t, rest, ht⟩ := List.exists_cons_of_ne_nil hne
  have e : s.closeTop =
      ({ s with rows := if t.nested then t.saveRows else s.committed } : Sess).popTx := by
    simp only [Sess.closeTop, ht]
  rw [e]
  exact rinv_pop h ht rfl fun e => by rw [e]; rfl

theorem rinv_repeat (f : Sess → Sess) (hf : Ends f) (n : Nat) (s : Sess) (h : RInv s) (hn : n ≤ s.txns.length) :
    RInv (repeatN n f s) ∧ (repeatN n f s).txns.length + n = s.txns.length := by
  induction n generalizing s with
  | zero => exact ⟨h, rfl⟩
  | succ n ih =>
    obtain ⟨h1, h2⟩ := hf h (List.ne_nil_of_length_pos (Nat.lt_of_lt_of_le n.succ_pos hn))
    rw [← h2] at hn
    obtain ⟨i1, i2⟩ := ih (f s) h1 (Nat.le_of_succ_le_succ hn)
    rw [repeatN, ← Nat.add_assoc, i2]
    exact ⟨i1, h2⟩

theorem ends_all {f : Sess → Sess} (hf : Ends f) {s : Sess} (h : RInv s) :
    (repeatN s.txns.length f s).txns = [] ∧
    (repeatN s.txns.length f s).rows = (repeatN s.txns.length f s).committed := by
  obtain ⟨r1, r2⟩ := rinv_repeat f hf _ s h (Nat.le_refl _)
  have : (repeatN s.txns.length f s).txns = [] := List.eq_nil_of_length_eq_zero (by omega)
  exact ⟨this, r1.2 this⟩

theorem commit_end {s : Sess} (h : RInv s) :
    s.commit.txns = [] ∧ s.commit.rows = s.commit.committed := by
  unfold Sess.commit
  split
  next he =>
    -- on an empty stack `commit` begins one transaction and commits it; `nextH` and `ended`, which
    -- it resets afterwards, are not read here
    have hl : s.autobegin.txns.length = 1 :=
      (List.length_map _).symm.trans
        (congrArg List.length (flags_autobegin_of_nil (List.isEmpty_iff.1 he)))
    have := ends_all ends_commitTop (rinv_autobegin h)
    rwa [hl] at this
  next => exact ends_all ends_commitTop h

theorem close_end {s : Sess} (h : RInv s) : s.close.txns = [] ∧ s.close.rows = s.close.committed :=
  ends_all ends_closeTop (rinv_frame h (.trans (frame_foldl_setObj ..) ⟨rfl, rfl, rfl, rfl, rfl⟩))

theorem rinv_of_end {s : Sess} (h : s.txns = [] ∧ s.rows = s.committed) : RInv s :=
  ⟨by rw [flags, h.1]; trivial, fun _ => h.2⟩

theorem depthOf_lt {s : Sess} {h d : Nat} (hd : s.depthOf h = some d) : d < s.txns.length :=
  (List.findIdx?_eq_some_iff_getElem.1 hd).1

/-- one step of `session_rows_invariant`: every operation — the out-of-order handle
    operations included — keeps the transaction stack well formed and, whenever no
    transaction is left, the session's connection sees exactly the committed rows. -/
theorem step_rinv {s : Sess} (h : RInv s) (op : SOp) : RInv (s.step op).1 := by
  have ha := rinv_autobegin h
  cases op with
  -- after the autobegin, `add` and `delete` change only fields the invariant does not read
  | add pk v => exact ha
  | setV o v =>
    exact rinv_frame (iteInduction (fun _ => ha) (fun _ => h)) (frame_setObj _ o _)
  | setPk o pk =>
    have hx : RInv (if (s.obj o).persistent && !(s.obj o).idL then s.load o
        else (if (s.obj o).attached then s.autobegin else s, SRes.ok)).1 :=
      iteInduction (motive := fun x : Sess × SRes => RInv x.1) (fun _ => rinv_load h o)
        fun _ => iteInduction (fun _ => ha) (fun _ => h)
    unfold Sess.step
    dsimp only
    generalize (if (s.obj o).persistent && !(s.obj o).idL then s.load o
        else (if (s.obj o).attached then s.autobegin else s, SRes.ok)) = x at hx
    obtain ⟨s1, r⟩ := x
    cases r
    · exact rinv_frame hx (frame_setObj ..)
    all_goals exact hx
  | delete o => exact ha
  | flush => exact rinv_flush h
  | load o =>
    exact iteInduction (motive := fun x : Sess × SRes => RInv x.1) (fun _ => rinv_load h o)
      (fun _ => h)
  | begin =>
    exact iteInduction (motive := fun x : Sess × SRes => RInv x.1) (fun _ => ha) (fun _ => h)
  | beginNested =>
    -- a savepoint goes on top of the (autobegun) stack, which is not empty
    have h1 := (rinv_flush ha).1
    obtain ⟨t, rest, ht⟩ := List.exists_cons_of_ne_nil (flush_txns_ne (autobegin_txns_ne s))
    rw [flags, ht] at h1
    refine ⟨?_, fun e => nomatch e⟩
    show StackOk (true :: flags s.autobegin.flush)
    rw [flags, ht]
    exact ⟨rfl, h1⟩
  | commit => exact rinv_of_end (commit_end h)
  | rollback => exact rinv_of_end (ends_all ends_rollbackTop h)
  | close => exact rinv_of_end (close_end h)
  | tCommit x =>
    show RInv (s.tCommit x).1
    unfold Sess.tCommit
    cases hd : s.depthOf x with
    | none => exact h
    | some d => exact (rinv_repeat _ ends_commitTop _ s h (depthOf_lt hd)).1
  | tRollback x =>
    show RInv (s.tRollback x).1
    unfold Sess.tRollback
    cases hd : s.depthOf x with
    | none => exact h
    | some d =>
      -- the `d` inner transactions are closed, which leaves the one with handle `x` on top
      have hlt := depthOf_lt hd
      obtain ⟨r1, r2⟩ := rinv_repeat _ ends_closeTop d s h (Nat.le_of_lt hlt)
      exact (ends_rollbackTop r1 (List.ne_nil_of_length_pos (by omega))).1
  | setAutoflush b => exact h

theorem run_rinv : ∀ (ops : List SOp) {s : Sess}, RInv s → RInv (s.run ops)
  | [], _, h => h
  | op :: ops, _, h => run_rinv ops (step_rinv h op)

/-- **session_rows_invariant**: for EVERY history, with autoflush on or off -/
theorem session_rows_invariant (eoc : Bool) (ops : List SOp) (af : Bool := true) :
    RInv ((Sess.init eoc af).run ops) :=
  run_rinv ops ⟨trivial, fun _ => rfl⟩

theorem end_states {s : Sess} (h : RInv s) :
    (s.commit.txns = [] ∧ s.commit.rows = s.commit.committed) ∧
    (s.rollback.txns = [] ∧ s.rollback.rows = s.rollback.committed) ∧
    (s.close.txns = [] ∧ s.close.rows = s.close.committed) :=
  ⟨commit_end h, ends_all ends_rollbackTop h, close_end h⟩

/-- after `Session.rollback()` from any reachable state, and after `Session.commit()` from one
    with a transaction open, no transaction is left and the session's connection sees the
    committed rows.  The premise `s.txns ≠ []` is not used: `commit_end` holds of an empty stack
    as well. -/
theorem session_end_states (eoc : Bool) (ops : List SOp) (af : Bool := true) :
    let s := (Sess.init eoc af).run ops
    (s.rollback.txns = [] ∧ s.rollback.rows = s.rollback.committed) ∧
    (s.txns ≠ [] → s.commit.txns = [] ∧ s.commit.rows = s.commit.committed) :=
  have h := end_states (session_rows_invariant eoc ops af)
  ⟨h.2.1, fun _ => h.1⟩

/-! ## what is accounted to a savepoint: only work done after it began

`begin_nested()` writes everything that is pending in the enclosing scope BEFORE the
SAVEPOINT — an unconditional flush, not an autoflush: the `autoflush` setting (the
`Session(autoflush=False)` option, a `no_autoflush` block) plays no part. -/

theorem flushObj_withAf (s : Sess) (b : Bool) (o : Nat) :
    (s.withAf b).flushObj o = (s.flushObj o).withAf b := by
  obtain e | ⟨r, i, m, n, f, g, _, e⟩ := flushObj_form s o
  -- `e s.autoflush` speaks of `s.withAf s.autoflush`, which is `s`
  · rw [e b, show s.flushObj o = s from e s.autoflush]
  · rw [e b, show s.flushObj o = _ from e s.autoflush]; exact upd_withAf ..

theorem flushAll_withAf (b : Bool) (l : List Nat) (s : Sess) :
    flushAll l (s.withAf b) = (flushAll l s).withAf b := by
  induction l generalizing s with
  | nil => rfl
  | cons o os ih => rw [flushAll, flushObj_withAf, ih]; rfl

theorem autobegin_withAf (s : Sess) (b : Bool) : (s.withAf b).autobegin = s.autobegin.withAf b := by
  unfold Sess.autobegin Sess.withAf
  split <;> rfl

theorem flush_withAf (s : Sess) (b : Bool) : (s.withAf b).flush = s.flush.withAf b := by
  unfold Sess.flush
  rw [show (s.withAf b).unclean = s.unclean from rfl]
  split
  · rw [autobegin_withAf]
    exact flushAll_withAf b _ _
  · rfl

/-- **begin_nested_ignores_autoflush**: for EVERY session state, begin_nested() does exactly
    the same with autoflush off as with autoflush on — in particular the same rows are written
    before the SAVEPOINT and the same objects are registered with the ENCLOSING transaction. -/
theorem begin_nested_ignores_autoflush (s : Sess) (b : Bool) :
    ((s.withAf b).step .beginNested).1 = ((s.step .beginNested).1).withAf b := by
  simp only [Sess.step]
  rw [autobegin_withAf, flush_withAf]

/-- **savepoint_scope_starts_empty**: the transaction object pushed by begin_nested() has
    nothing accounted to it (`_new`, `_dirty`, `_deleted`, `_key_switches` empty) and
    remembers the rows as they are AFTER the enclosing scope's pending work was written;
    the enclosing transactions are the ones the flush registered that work with. -/
theorem savepoint_scope_starts_empty (s : Sess) :
    let s' := (s.step .beginNested).1
    ∃ t rest, s'.txns = t :: rest ∧ rest = s.autobegin.flush.txns ∧ t.nested = true ∧
      t.new = [] ∧ t.dirty = [] ∧ t.deleted = [] ∧ t.switches = [] ∧ t.saveRows = s'.rows ∧
      s'.rows = s.autobegin.flush.rows := by
  exact ⟨_, _, rfl, rfl, rfl, rfl, rfl, rfl, rfl, rfl, rfl⟩

/-- a flush registers objects with the INNERMOST transaction only: whatever a flush inside a
    savepoint touches, the collections of the enclosing transactions stay as they are -/
theorem flushObj_outer_untouched (s : Sess) (o : Nat) : (s.flushObj o).txns.tail = s.txns.tail := by
  obtain e | ⟨r, i, m, n, f, g, _, e⟩ := flushObj_form_self s o
  · rw [e]
  · rw [e]; exact upd_txns_tail ..

def s0 : Sess := Sess.init true

/-- F20: `s1 = begin_nested(); s2 = begin_nested(); …; s1.rollback()` — the inner savepoint
    transaction is closed without restoring its snapshot: object 0 keeps the value flushed
    inside `s2` (stale, not expired) and object 1, inserted inside `s2`, stays persistent with
    no row.  Handles: 0 = root of the first commit, 1 = root, 2 = s1, 3 = s2. -/
theorem outer_rollback_counterexample :
    let ops : List SOp := [.add 1 10, .commit, .beginNested, .beginNested, .add 2 20, .flush,
                           .setV 0 11, .flush, .tRollback 2]
    coherent (s0.run ops) = false ∧
    (s0.run ops).rows = [(1, 10)] ∧                       -- the database did roll back
    ((s0.run ops).obj 0).v = 11 ∧ ((s0.run ops).obj 0).vL = true ∧ ((s0.run ops).obj 0).modV = false ∧
    (s0.run ops).imap.contains 1 = true ∧ ((s0.run ops).obj 1).key = some 2 := by
  decide +kernel

/-- the same history ended innermost-first is coherent -/
example :
    coherent (s0.run [.add 1 10, .commit, .beginNested, .beginNested, .add 2 20, .flush,
                      .setV 0 11, .flush, .tRollback 3, .tRollback 2]) = true := by decide +kernel

/-- F21: key switch 1→5 in the transaction, 5→6 inside a savepoint that is released, then the
    transaction is rolled back: `_remove_snapshot` replaced the parent's (1, 5) entry by (5, 6),
    so the identity key is restored to 5 — a key with no row. -/
theorem key_switch_merge_counterexample :
    let ops : List SOp := [.add 1 10, .commit, .setPk 0 5, .flush, .beginNested, .setPk 0 6, .flush,
                           .tCommit 2, .rollback]
    coherent (s0.run ops) = false ∧ (s0.run ops).rows = [(1, 10)] ∧
    ((s0.run ops).obj 0).key = some 5 ∧ ((s0.run ops).step (.load 0)).2 = .objectDeleted := by
  decide +kernel

/-- with the savepoint rolled back instead of released the original key comes back -/
example :
    let s := s0.run [.add 1 10, .commit, .setPk 0 5, .flush, .beginNested, .setPk 0 6, .flush,
                     .tRollback 2, .rollback]
    coherent s = true ∧ (s.obj 0).key = some 1 := by decide +kernel

/-- F23: an object added and key-switched inside a rolled-back transaction gets its old key
    written back after it was expunged: detached (key 1, no session) instead of transient -/
theorem rolled_back_new_object_counterexample :
    let s := s0.run [.add 1 11, .flush, .setPk 0 2, .flush, .rollback]
    (s.obj 0).attached = false ∧ (s.obj 0).key = some 1 ∧ s.rows = [] := by
  decide +kernel

/-! ## non-vacuity: a long innermost-first history stays coherent at every step -/

def sampleOps : List SOp :=
  [.add 1 10, .add 2 20, .commit, .setV 0 11, .beginNested, .add 3 30, .setPk 1 7, .flush,
   .beginNested, .delete 0, .flush, .setV 2 31, .tRollback 3, .load 0, .tCommit 2, .setV 0 12,
   .rollback, .load 0, .load 1, .delete 1, .commit]

def coherentAlong : Sess → List SOp → Bool
  | s, [] => coherent s
  | s, op :: ops => coherent s && coherentAlong (s.step op).1 ops

example : coherentAlong s0 sampleOps = true := by decide +kernel
example : (s0.run sampleOps).committed = [(1, 10)] := by decide +kernel
/-- the hypotheses of `root_rollback_expires_all` / `nested_rollback_restores_rows` are met
    by reachable states with pending, dirty, deleted and key-switched objects -/
example : ((s0.run (sampleOps.take 12)).txns.map (·.nested)) = [true, true, false] := by decide +kernel

/-- autoflush off: work pending when begin_nested() is called is written before the SAVEPOINT
    and registered with the root transaction; rolling the savepoint back (after a flush inside
    it) discards only object #2, and the outer commit persists rows 1=11 and 2=20 -/
def afOps : List SOp :=
  [.add 1 10, .commit, .setV 0 11, .add 2 20, .beginNested, .add 3 30, .flush, .tRollback 2]
example : ((Sess.init true false).run afOps).rows = [(1, 11), (2, 20)] ∧
    ((Sess.init true false).run afOps).txns.map (fun t => (t.h, t.new, t.dirty)) = [(1, [1], [0])] ∧
    ((Sess.init true false).run (afOps ++ [.commit])).committed = [(1, 11), (2, 20)] := by decide +kernel

end SaVerif.Props.C33
