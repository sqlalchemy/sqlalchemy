import SaVerif.Model.RowKeys
/-!
# C11 — Row lookup by column expression returns that expression's value

Theorems about M-ROWKEYS (`SaVerif/Model/RowKeys.lean`, transcription of the keymap
construction in `CursorResultMetaData.__init__`).  A *record* is one result position; it
*carries* a key when the key is its rendered name or one of its MD_OBJECTS (column
objects, labels, alternative names).
-/
namespace SaVerif.Props.C11
open SaVerif.RowKeys

theorem lastIdx_cases (p : Rec → Bool) (raw : List Rec) :
    (∃ r ∈ raw, p r = true ∧ lastIdx p raw = some r.idx) ∨
    (lastIdx p raw = none ∧ ∀ r ∈ raw, p r = false) := by
  unfold lastIdx
  cases hf : raw.reverse.find? p with
  | none =>
    exact Or.inr ⟨rfl, fun r hr => by simpa using List.find?_eq_none.1 hf r (by simpa using hr)⟩
  | some r =>
    exact Or.inl ⟨r, by simpa using List.mem_of_find?_eq_some hf, List.find?_some hf, rfl⟩

theorem byNameThenObjects_cases (raw : List Rec) (k : Key) :
    (∃ r ∈ raw, byNameThenObjects raw k = .found r.idx ∧ (r.name = k ∨ k ∈ r.objects)) ∨
    (byNameThenObjects raw k = .missing ∧ ∀ r ∈ raw, r.name ≠ k ∧ k ∉ r.objects) := by
  unfold byNameThenObjects
  rcases lastIdx_cases (fun r => r.name == k) raw with ⟨r, hr, hp, h1⟩ | ⟨h1, hn⟩
  · exact Or.inl ⟨r, hr, by rw [h1], Or.inl (by simpa using hp)⟩
  · rcases lastIdx_cases (fun r => r.objects.contains k) raw with ⟨r, hr, hp, h2⟩ | ⟨h2, ho⟩
    · exact Or.inl ⟨r, hr, by rw [h1, h2], Or.inr (by simpa using hp)⟩
    · exact Or.inr ⟨by rw [h1, h2], fun r hr => ⟨by simpa using hn r hr, by simpa using ho r hr⟩⟩

theorem byNameThenObjects_found {raw : List Rec} {k : Key} {i : Nat}
    (h : byNameThenObjects raw k = .found i) :
    ∃ r ∈ raw, r.idx = i ∧ (r.name = k ∨ k ∈ r.objects) := by
  rcases byNameThenObjects_cases raw k with ⟨r, hr, hf, hc⟩ | ⟨hm, _⟩
  · rw [hf] at h
    exact ⟨r, hr, Look.found.inj h, hc⟩
  · rw [hm] at h
    cases h

/-- `numCtx ≠ 0` is `if num_ctx_cols:`, the path of statements with compiled columns -/
theorem lookup_of_ne_zero {raw : List Rec} {numCtx : Nat} (k : Key) (hn : numCtx ≠ 0) :
    lookup raw numCtx k =
      if dupesBranch raw numCtx = true ∧ isDupe raw k = true then .ambiguous
      else byNameThenObjects raw k := by
  rw [lookup, if_neg hn]
  cases dupesBranch raw numCtx <;> cases isDupe raw k <;> rfl

theorem lookup_zero (raw : List Rec) (k : Key) :
    lookup raw 0 k = ((lastIdx (fun r => r.name == k) raw).map Look.found).getD .missing := by
  rw [lookup, if_pos rfl]
  cases lastIdx (fun r => r.name == k) raw <;> rfl

/-- a successful lookup lands on a record that has the key as its
    primary name or among its objects — never on an unrelated position -/
theorem found_carries (raw : List Rec) (numCtx : Nat) (k : Key) (i : Nat)
    (h : lookup raw numCtx k = .found i) :
    ∃ r ∈ raw, r.idx = i ∧ (r.name = k ∨ k ∈ r.objects) := by
  by_cases hn : numCtx = 0
  · rw [hn, lookup_zero] at h
    rcases lastIdx_cases (fun r => r.name == k) raw with ⟨r, hr, hp, h1⟩ | ⟨h1, _⟩
    · rw [h1] at h
      exact ⟨r, hr, Look.found.inj h, Or.inl (by simpa using hp)⟩
    · rw [h1] at h
      cases h
  · rw [lookup_of_ne_zero k hn] at h
    split at h
    · cases h
    · exact byNameThenObjects_found h

theorem isDupe_iff {raw : List Rec} {k : Key} :
    isDupe raw k = true ↔
      ∃ r ∈ raw, k ∈ carried r ∧ ∃ r' ∈ raw, k ∈ carried r' ∧ r'.idx ≠ r.idx := by
  simp only [isDupe, List.any_eq_true, Bool.and_eq_true, List.contains_eq_mem, decide_eq_true_eq,
    bne_iff_ne, ne_eq]

theorem isDupe_false {raw : List Rec} {k : Key} (h : isDupe raw k = false) {r r' : Rec}
    (hr : r ∈ raw) (hr' : r' ∈ raw) (hk : k ∈ carried r) (hk' : k ∈ carried r') : r.idx = r'.idx :=
  Decidable.byContradiction fun hne =>
    Bool.eq_false_iff.1 h (isDupe_iff.2 ⟨r, hr, hk, r', hr', hk', fun he => hne he.symm⟩)

/-- when duplicate names send the constructor through the duplicate
    scan, a key carried by two different positions raises "Ambiguous column name" -/
theorem ambiguous_raises (raw : List Rec) (numCtx : Nat) (k : Key) (r r' : Rec)
    (hn : numCtx ≠ 0) (hb : dupesBranch raw numCtx = true) (hr : r ∈ raw) (hr' : r' ∈ raw)
    (hk : k ∈ carried r) (hk' : k ∈ carried r') (hne : r.idx ≠ r'.idx) :
    lookup raw numCtx k = .ambiguous := by
  rw [lookup_of_ne_zero k hn,
    if_pos ⟨hb, isDupe_iff.2 ⟨r, hr, hk, r', hr', hk', fun he => hne he.symm⟩⟩]

/-- a record's primary name is either one of the keys it carries, or a private string
    (anonymous-label name) that no record carries -/
def WF (raw : List Rec) : Prop :=
  ∀ r ∈ raw, r.name ∈ carried r ∨ ∀ r' ∈ raw, r.name ∉ carried r'

/-- whichever path the constructor took -/
theorem lookup_sound {raw : List Rec} {numCtx : Nat} {k : Key} {i : Nat} (hwf : WF raw)
    (hsame : ∀ r ∈ raw, ∀ r' ∈ raw, k ∈ carried r → k ∈ carried r' → r.idx = r'.idx)
    (h : lookup raw numCtx k = .found i) :
    ∀ r ∈ raw, k ∈ carried r → r.idx = i := by
  intro r hr hk
  obtain ⟨r0, hr0, hi, hc⟩ := found_carries raw numCtx k i h
  refine (hsame r hr r0 hr0 hk ?_).trans hi
  rcases hc with hname | ho
  · rcases hwf r0 hr0 with hc | hc
    · exact hname ▸ hc
    · exact absurd hk (hname ▸ hc r hr)
  · exact List.mem_cons_of_mem _ ho

/-- on the duplicate-scan path a found key is carried by no other
    position: the value returned is the value of the only position the key denotes -/
theorem dupes_sound (raw : List Rec) (numCtx : Nat) (k : Key) (i : Nat) (hwf : WF raw)
    (hn : numCtx ≠ 0) (hb : dupesBranch raw numCtx = true) (h : lookup raw numCtx k = .found i) :
    ∀ r ∈ raw, k ∈ carried r → r.idx = i := by
  cases hd : isDupe raw k with
  | true =>
    rw [lookup_of_ne_zero k hn, if_pos ⟨hb, hd⟩] at h
    cases h
  | false => exact lookup_sound hwf (fun _ hr _ hr' => isDupe_false hd hr hr') h

/-
Full statement for the common path (no duplicate primary names) — FALSE, see
`nodupes_counterexample`:
  lookup raw numCtx k = .found i → ∀ r ∈ raw, k ∈ carried r → r.idx = i
The constructor skips the duplicate scan there, so a key shared by two records' MD_OBJECTS
silently resolves to the later record.  It holds for a key all of whose carriers have one index
(`hdisj`), and then on every path: `hn`, `hb` only name the path the counterexample is on.
-/
theorem nodupes_sound_partial (raw : List Rec) (numCtx : Nat) (k : Key) (i : Nat) (hwf : WF raw)
    (hn : numCtx ≠ 0) (hb : dupesBranch raw numCtx = false)
    (hdisj : ∀ r ∈ raw, ∀ r' ∈ raw, k ∈ carried r → k ∈ carried r' → r.idx = r'.idx)
    (h : lookup raw numCtx k = .found i) :
    ∀ r ∈ raw, k ∈ carried r → r.idx = i :=
  lookup_sound hwf hdisj h

/-- `select(t.c.a_b, t_a.c.b)`: both columns carry the legacy key "t_a_b" (id 7); names are
    distinct, so no scan happens and the key resolves to position 1 although position 0
    carries it too (finding `key-shared-by-two-positions-without-duplicate-scan-last-wins`) -/
theorem nodupes_counterexample :
    let raw : List Rec := [⟨0, 1, 1, [2, 1, 1, 7], none⟩, ⟨1, 3, 3, [4, 3, 3, 7], none⟩]
    dupesBranch raw 2 = false ∧ lookup raw 2 7 = .found 1 ∧ (7 : Key) ∈ carried raw[0] := by
  decide

/-- a column object / label that belongs to exactly one position
    (and is not some record's primary string) is found, at that position -/
theorem unique_key_found (raw : List Rec) (numCtx : Nat) (k : Key) (r : Rec)
    (hn : numCtx ≠ 0) (hr : r ∈ raw) (hk : k ∈ r.objects)
    (hnoname : ∀ r' ∈ raw, r'.name ≠ k)
    (honly : ∀ r' ∈ raw, k ∈ carried r' → r'.idx = r.idx) :
    lookup raw numCtx k = .found r.idx := by
  rw [lookup_of_ne_zero k hn, if_neg fun e => ?_]
  · rcases byNameThenObjects_cases raw k with ⟨r0, hr0, hf, hc⟩ | ⟨_, hm⟩
    · rw [hf, honly r0 hr0 (List.mem_cons_of_mem _ (hc.resolve_left (hnoname r0 hr0)))]
    · exact absurd hk (hm r hr).2
  · obtain ⟨a, ha, hka, b, hb, hkb, hne⟩ := isDupe_iff.1 e.2
    exact hne ((honly b hb hkb).trans (honly a ha hka).symm)

theorem enumFrom_getElem? {α : Type} : ∀ (l : List α) (n i : Nat),
    (enumFrom n l)[i]? = l[i]?.map (fun x => (n + i, x)) := by
  intro l
  induction l with
  | nil => intro n i; simp [enumFrom]
  | cons x xs ih =>
    intro n i
    cases i with
    | zero => simp [enumFrom]
    | succ j =>
      simp only [enumFrom, List.getElem?_cons_succ]
      rw [ih (n + 1) j, Nat.add_assoc, Nat.add_comm 1 j]

/-- the 1-1 positional strategy gives record `i` exactly the names
    and objects of the `i`-th compiled column, with MD_INDEX = `i` -/
theorem positional_merge (rcs : List RC) (i : Nat) :
    (mergePositional rcs)[i]? =
      rcs[i]?.map (fun rc => { idx := i, name := rc.name, rendered := rc.keyname, objects := rc.objects, ridx := some i }) := by
  unfold mergePositional
  rw [List.getElem?_map, enumFrom_getElem?]
  cases rcs[i]? <;> simp

example : WF [⟨0, 1, 1, [2, 1, 1, 7], none⟩, ⟨1, 9, 3, [4, 3, 3, 8], none⟩] := by
  intro r hr
  simp only [List.mem_cons, List.not_mem_nil, or_false] at hr
  rcases hr with rfl | rfl
  · left; simp [carried]
  · right; intro r' hr'
    simp only [List.mem_cons, List.not_mem_nil, or_false] at hr'
    rcases hr' with rfl | rfl <;> simp [carried]
example : lookup [⟨0, 1, 1, [2, 1], none⟩, ⟨1, 1, 1, [4, 1], none⟩, ⟨2, 5, 5, [6], none⟩] 3 1 = .ambiguous ∧
    lookup [⟨0, 1, 1, [2, 1], none⟩, ⟨1, 1, 1, [4, 1], none⟩, ⟨2, 5, 5, [6], none⟩] 3 4 = .found 1 ∧
    dupesBranch [⟨0, 1, 1, [2, 1], none⟩, ⟨1, 1, 1, [4, 1], none⟩, ⟨2, 5, 5, [6], none⟩] 3 = true := by decide +kernel

end SaVerif.Props.C11
