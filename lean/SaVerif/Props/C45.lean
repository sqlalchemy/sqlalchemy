import SaVerif.Model.Merge
/-!
# C45 — Session.merge copies state onto the session's single instance

Theorems about M-ORM/merge (`SaVerif/Model/Merge.lean`), for every session state and
every source (any combination of loaded attributes): first `mergeLoad` / `mergeNoLoad` alone, then
the public entry point `Session.merge` in a Session with autoflush on (`mergeAf true`), pending
instances and pending `Session.delete()`s included.
-/
namespace SaVerif.Props.C45
open SaVerif.Merge
open SaVerif.Gen.MergeCfg

/-- the Session's instance for an identity: identity map, else pending -/
def destOf (st : St) (k t : Nat) : Option Obj :=
  match st.objs k t with
  | some o => some o
  | none => st.new k

/-- value an attribute has for the Session before the merge -/
def baseA (st : St) (k t : Nat) : Option Int :=
  match st.objs k t with
  | some o => o.a.cur
  | none => (st.db k).map (·.1)

def baseB (st : St) (k t : Nat) : Option Int :=
  match st.objs k t with
  | some o => o.b.cur
  | none => (st.db k).map (·.2)

abbrev copyObj (o : Obj) (s : Src) : Obj := ⟨copyAttr o.a s.a, copyAttr o.b s.b⟩

abbrev copyObjNoLoad (o : Obj) (s : Src) : Obj := ⟨copyAttrNoLoad o.a s.a, copyAttrNoLoad o.b s.b⟩

theorem mergeLoad_skip {st : St} {s : Src} {p : Obj} (hn : st.new s.pk = some p) :
    mergeLoad st s = (st, .skip) := by
  unfold mergeLoad
  rw [hn]

theorem mergeLoad_hit {st : St} {s : Src} {o : Obj} (hn : st.new s.pk = none)
    (ho : st.objs s.pk s.tok = some o) :
    mergeLoad st s =
      ({ st with objs := putObj st.objs s.pk s.tok (copyObj o s) }, outOf false s.tok (copyObj o s)) := by
  unfold mergeLoad
  rw [hn, ho]

theorem mergeLoad_load {st : St} {s : Src} {va vb : Int} (hn : st.new s.pk = none)
    (ho : st.objs s.pk s.tok = none) (hr : st.db s.pk = some (va, vb)) :
    mergeLoad st s =
      ({ st with objs := putObj st.objs s.pk s.tok (copyObj ⟨loaded va, loaded vb⟩ s), sql := st.sql + 1 },
       outOf false s.tok (copyObj ⟨loaded va, loaded vb⟩ s)) := by
  unfold mergeLoad
  rw [hn, ho, hr]

theorem mergeLoad_create {st : St} {s : Src} (hn : st.new s.pk = none)
    (ho : st.objs s.pk s.tok = none) (hr : st.db s.pk = none) :
    mergeLoad st s =
      ({ st with new := fun j => if j = s.pk then some (copyObj ⟨unloaded, unloaded⟩ s) else st.new j,
                 sql := st.sql + 1 },
       .merged true 0 (copyAttr unloaded s.a).cur (copyAttr unloaded s.b).cur true) := by
  unfold mergeLoad
  rw [hn, ho, hr]

theorem mergeNoLoad_cases (st : St) (s : Src) :
    mergeNoLoad st s = (st, .skip) ∨ mergeNoLoad st s = (st, .error) ∨
    ∃ nw o, st.new s.pk = none ∧ s.persistent = true ∧ mergeNoLoad st s =
      ({ st with objs := putObj st.objs s.pk s.tok (copyObjNoLoad o s) },
       outOf nw s.tok (copyObjNoLoad o s)) := by
  unfold mergeNoLoad
  cases hn : st.new s.pk with
  | some _ => exact Or.inl rfl
  | none =>
    cases hp : s.persistent with
    | false => exact Or.inr (Or.inl rfl)
    | true =>
      cases st.objs s.pk s.tok with
      | some o => exact Or.inr (Or.inr ⟨_, o, rfl, rfl, rfl⟩)
      | none =>
        cases s.modified with
        | true => exact Or.inr (Or.inl rfl)
        | false => exact Or.inr (Or.inr ⟨_, ⟨unloaded, unloaded⟩, rfl, rfl, rfl⟩)

theorem putObj_same (f : Nat → Nat → Option Obj) (k t : Nat) (x : Obj) : putObj f k t x k t = some x :=
  if_pos ⟨rfl, rfl⟩

theorem putObj_other (f : Nat → Nat → Option Obj) (k t : Nat) (x : Obj) {u : Nat} (hu : u ≠ t) :
    putObj f k t x k u = f k u :=
  if_neg fun h => hu h.2

theorem putObj_putObj (f : Nat → Nat → Option Obj) (k t : Nat) (x y : Obj) :
    putObj (putObj f k t x) k t y = putObj f k t y := by
  funext j u
  unfold putObj
  split <;> rfl

theorem copyAttr_cur (x : Attr) (s : Option Int) :
    (copyAttr x s).cur = (match s with
                          | some v => some v
                          | none => x.cur) := by
  cases s <;> rfl

/-- **merge_copies_loaded**: after `merge(src)` the Session's instance for `src`'s identity has
    every attribute that is loaded on `src` equal to `src`'s, and every other attribute as it was
    (Session value, else database value, else unloaded) -/
theorem merge_copies_loaded (st : St) (s : Src) (hn : st.new s.pk = none) :
    ∃ o', destOf (mergeLoad st s).1 s.pk s.tok = some o' ∧
      o'.a.cur = (match s.a with
                  | some v => some v
                  | none => baseA st s.pk s.tok) ∧
      o'.b.cur = (match s.b with
                  | some v => some v
                  | none => baseB st s.pk s.tok) := by
  have hd : ∀ {st' : St} {o'}, st'.objs s.pk s.tok = some o' → destOf st' s.pk s.tok = some o' :=
    fun h => by unfold destOf; rw [h]
  unfold baseA baseB
  cases ho : st.objs s.pk s.tok with
  | some o =>
    rw [mergeLoad_hit hn ho]
    exact ⟨_, hd (putObj_same _ _ _ _), copyAttr_cur _ _, copyAttr_cur _ _⟩
  | none =>
    cases hr : st.db s.pk with
    | some r =>
      rw [mergeLoad_load hn ho hr]
      exact ⟨_, hd (putObj_same _ _ _ _), copyAttr_cur _ _, copyAttr_cur _ _⟩
    | none =>
      rw [mergeLoad_create hn ho hr]
      exact ⟨_, by unfold destOf; rw [ho]; exact if_pos rfl, copyAttr_cur _ _, copyAttr_cur _ _⟩

theorem copyAttr_idem (x : Attr) (s : Option Int) : copyAttr (copyAttr x s) s = copyAttr x s := by
  cases s with
  | none => rfl
  | some v =>
    simp only [copyAttr, setAttr]
    cases x.com <;> rfl

theorem copyAttrNoLoad_idem (x : Attr) (s : Option Int) :
    copyAttrNoLoad (copyAttrNoLoad x s) s = copyAttrNoLoad x s := by
  cases s <;> rfl

theorem copyObj_idem (o : Obj) (s : Src) : copyObj (copyObj o s) s = copyObj o s := by
  dsimp only [copyObj]
  rw [copyAttr_idem, copyAttr_idem]

theorem upd_same {α : Type} (f : Nat → α) (k : Nat) (x : α) (h : f k = x) :
    (fun j => if j = k then x else f j) = f := by
  funext j
  by_cases hj : j = k
  · simp [hj, h]
  · simp [hj]

theorem mergeLoad_idempotent (st : St) (s : Src)
    (hfound : ((mergeLoad st s).1.objs s.pk s.tok).isSome = true) :
    mergeLoad (mergeLoad st s).1 s = mergeLoad st s := by
  cases hn : st.new s.pk with
  | some p => rw [mergeLoad_skip hn, mergeLoad_skip hn]
  | none =>
    cases ho : st.objs s.pk s.tok with
    | some o =>
      rw [mergeLoad_hit hn ho, mergeLoad_hit (st := { st with objs := putObj _ _ _ _ }) hn (putObj_same _ _ _ _),
        copyObj_idem, putObj_putObj]
    | none =>
      cases hr : st.db s.pk with
      | some r =>
        rw [mergeLoad_load hn ho hr,
          mergeLoad_hit (st := { st with objs := putObj _ _ _ _, sql := _ }) hn (putObj_same _ _ _ _),
          copyObj_idem, putObj_putObj]
      | none =>
        rw [mergeLoad_create hn ho hr] at hfound
        cases (congrArg Option.isSome ho).symm.trans hfound

/-- **merge_idempotent**: when the first merge found or loaded the identity (it is in
    the identity map afterwards), a second merge of an equal source returns the same
    result, emits no SQL and leaves the Session exactly as it is. -/
theorem merge_idempotent (st : St) (s : Src) (hn : st.new s.pk = none)
    (hfound : ((mergeLoad st s).1.objs s.pk s.tok).isSome = true) :
    (mergeLoad (mergeLoad st s).1 s).1.objs = (mergeLoad st s).1.objs ∧
    (mergeLoad (mergeLoad st s).1 s).1.new = (mergeLoad st s).1.new ∧
    (mergeLoad (mergeLoad st s).1 s).1.db = (mergeLoad st s).1.db ∧
    (mergeLoad (mergeLoad st s).1 s).1.sql = (mergeLoad st s).1.sql ∧
    (mergeLoad (mergeLoad st s).1 s).2 = (mergeLoad st s).2 := by
  rw [mergeLoad_idempotent st s hfound]
  exact ⟨rfl, rfl, rfl, rfl, rfl⟩

theorem mergeNoLoad_idempotent (st : St) (s : Src) :
    (mergeNoLoad (mergeNoLoad st s).1 s).1 = (mergeNoLoad st s).1 := by
  rcases mergeNoLoad_cases st s with e | e | ⟨nw, o, hn, hp, e⟩
  · rw [e, e]
  · rw [e, e]
  · rw [e]
    unfold mergeNoLoad
    simp only [hn, hp, putObj_same, copyAttrNoLoad_idem, Bool.not_true, Bool.false_eq_true, if_false,
      putObj_putObj]

/-- nothing is said of the result, which differs in `isNew` when the first merge created the
    instance -/
theorem merge_noload_idempotent (st : St) (s : Src) (hn : st.new s.pk = none) :
    (mergeNoLoad (mergeNoLoad st s).1 s).1.objs = (mergeNoLoad st s).1.objs ∧
    (mergeNoLoad (mergeNoLoad st s).1 s).1.new = (mergeNoLoad st s).1.new ∧
    (mergeNoLoad (mergeNoLoad st s).1 s).1.db = (mergeNoLoad st s).1.db ∧
    (mergeNoLoad (mergeNoLoad st s).1 s).1.sql = (mergeNoLoad st s).1.sql := by
  rw [mergeNoLoad_idempotent st s]
  exact ⟨rfl, rfl, rfl, rfl⟩

theorem copyAttrNoLoad_clean (x : Attr) (s : Option Int) : (copyAttrNoLoad x s).netChange = false := by
  cases s <;> rfl

theorem copyObjNoLoad_clean (o : Obj) (s : Src) : (copyObjNoLoad o s).netChange = false := by
  unfold Obj.netChange
  rw [copyAttrNoLoad_clean, copyAttrNoLoad_clean]
  rfl

/-- **merge_noload_no_sql_no_change**: `load=False` never emits SQL, never touches the
    database, and what it returns carries no net change -/
theorem merge_noload_no_sql_no_change (st : St) (s : Src) :
    (mergeNoLoad st s).1.sql = st.sql ∧ (mergeNoLoad st s).1.db = st.db ∧
    (mergeNoLoad st s).1.new = st.new ∧
    (∀ nw t a b d, (mergeNoLoad st s).2 = .merged nw t a b d → d = false) := by
  rcases mergeNoLoad_cases st s with e | e | ⟨nw0, o, _, _, e⟩ <;> rw [e]
  · exact ⟨rfl, rfl, rfl, fun _ _ _ _ _ => nofun⟩
  · exact ⟨rfl, rfl, rfl, fun _ _ _ _ _ => nofun⟩
  · refine ⟨rfl, rfl, rfl, fun _ _ _ _ _ h => ?_⟩
    cases h
    exact copyObjNoLoad_clean o s

/-- **merge_noload_rejects**: transient sources, and dirty sources whose identity is not
    in the Session, are refused -/
theorem merge_noload_rejects (st : St) (s : Src) (hn : st.new s.pk = none)
    (h : s.persistent = false ∨ (st.objs s.pk s.tok = none ∧ s.modified = true)) :
    (mergeNoLoad st s).2 = .error ∧ (mergeNoLoad st s).1 = st := by
  unfold mergeNoLoad
  rw [hn]
  rcases h with h | ⟨h1, h2⟩
  · rw [h]
    exact ⟨rfl, rfl⟩
  · rw [h1, h2]
    cases s.persistent <;> exact ⟨rfl, rfl⟩

/-- **merge_sql_bound**: a merge emits at most one statement, and none when the
    identity is already in the Session -/
theorem merge_sql_bound (st : St) (s : Src) :
    (mergeLoad st s).1.sql ≤ st.sql + 1 ∧
    ((st.objs s.pk s.tok).isSome = true → (mergeLoad st s).1.sql = st.sql) := by
  unfold mergeLoad
  split
  · exact ⟨Nat.le_succ _, fun _ => rfl⟩
  split
  · exact ⟨Nat.le_succ _, fun _ => rfl⟩
  next ho =>
    rw [ho]
    split <;> exact ⟨Nat.le_refl _, nofun⟩

theorem keeps_of_put {st st' : St} {s : Src} {nw0 nw : Bool} {o : Obj} {t : Nat} {a b : Option Int} {d : Bool}
    (e : st'.objs = putObj st.objs s.pk s.tok o) (h : outOf nw0 s.tok o = .merged nw t a b d) :
    t = s.tok ∧ (st'.objs s.pk s.tok).isSome = true ∧ ∀ u, u ≠ s.tok → st'.objs s.pk u = st.objs s.pk u := by
  injection h with _ htok
  exact e ▸ ⟨htok.symm, congrArg _ (putObj_same _ _ _ _), fun _ hu => putObj_other _ _ _ _ hu⟩

/-- **merge_keeps_identity**: the instance merge works on and returns carries the
    source's full identity key — primary key AND identity token — unless a new pending
    instance had to be created (no row): in particular it never falls back to the
    token-less identity of the same primary key. -/
theorem merge_keeps_identity (st : St) (s : Src) (nw : Bool) (t : Nat) (a b : Option Int) (d : Bool)
    (h : (mergeLoad st s).2 = .merged nw t a b d) (hold : nw = false) :
    t = s.tok ∧ ((mergeLoad st s).1.objs s.pk s.tok).isSome = true ∧
    ∀ u, u ≠ s.tok → (mergeLoad st s).1.objs s.pk u = st.objs s.pk u := by
  cases hn : st.new s.pk with
  | some _ =>
    rw [mergeLoad_skip hn] at h
    cases h
  | none =>
    cases ho : st.objs s.pk s.tok with
    | some o =>
      rw [mergeLoad_hit hn ho] at h ⊢
      exact keeps_of_put rfl h
    | none =>
      cases hr : st.db s.pk with
      | some r =>
        rw [mergeLoad_load hn ho hr] at h ⊢
        exact keeps_of_put rfl h
      | none =>
        rw [mergeLoad_create hn ho hr] at h
        cases h
        cases hold

/-- **merge_noload_keeps_identity**: the same for `load=False` — the instance created or
    updated without SQL sits under the source's full key, token included, and the
    instances of the same primary key under other tokens are untouched (since fix 92da004
    `state.identity_token` is set from the key, so a later flush keeps it there: `flush`
    in the model never moves an instance to another token). -/
theorem merge_noload_keeps_identity (st : St) (s : Src) (nw : Bool) (t : Nat) (a b : Option Int) (d : Bool)
    (h : (mergeNoLoad st s).2 = .merged nw t a b d) :
    t = s.tok ∧ ((mergeNoLoad st s).1.objs s.pk s.tok).isSome = true ∧
    ∀ u, u ≠ s.tok → (mergeNoLoad st s).1.objs s.pk u = st.objs s.pk u := by
  rcases mergeNoLoad_cases st s with e | e | ⟨nw0, o, _, _, e⟩ <;> rw [e] at h ⊢
  · cases h
  · cases h
  · exact keeps_of_put rfl h

theorem flushSt_new (n : Nat) (st : St) (k : Nat) (hk : k < n) : (flushSt n st).new k = none :=
  if_pos hk

theorem flushSt_del (n : Nat) (st : St) (k t : Nat) (hk : k < n) : (flushSt n st).del k t = false :=
  if_pos hk

theorem flushSt_of_not_pending {n : Nat} (st : St) {k : Nat} (hk : k < n) (hnew : st.new k = none) :
    (∀ t, (flushSt n st).objs k t = if st.del k t then none else (st.objs k t).map flushObj) ∧
    (flushSt n st).db k = if anyDel st k then none else rowFlush st k := by
  dsimp only [flushSt]
  rw [if_pos hk, hnew]
  exact ⟨fun t => if_pos hk, rfl⟩

theorem flushSt_of_pending {n : Nat} {st : St} {k : Nat} {p : Obj} (hk : k < n) (hp : st.new k = some p) :
    (flushSt n st).objs k 0 = some (flushObj p) ∧
    (flushSt n st).db k = some ((p.a.cur).getD 0, (p.b.cur).getD 0) := by
  dsimp only [flushSt]
  rw [if_pos hk, if_pos hk, hp]
  exact ⟨rfl, rfl⟩

/-- a flush never moves an instance to another identity token (instances marked deleted
    leave the identity map) -/
theorem flush_keeps_tokens (af : Bool) (n : Nat) (st : St) (k t : Nat) (hnew : st.new k = none)
    (hdel : st.del k t = false) :
    ((step af n st .flush).1.objs k t).isSome = (st.objs k t).isSome := by
  dsimp only [step]
  by_cases hk : k < n
  · rw [(flushSt_of_not_pending st hk hnew).1, hdel]
    cases st.objs k t <;> rfl
  · exact congrArg _ (if_neg hk)

theorem flush_removes_deleted (n : Nat) (st : St) (k t : Nat) (hk : k < n) (ht : t < 3)
    (hnew : st.new k = none) (hdel : st.del k t = true) :
    (flushSt n st).objs k t = none ∧ (flushSt n st).db k = none ∧ (flushSt n st).del k t = false := by
  have hany : anyDel st k = true := List.any_eq_true.2 ⟨t, by simp [tokens]; omega, hdel⟩
  rw [(flushSt_of_not_pending st hk hnew).1, (flushSt_of_not_pending st hk hnew).2, hdel, hany]
  exact ⟨rfl, rfl, flushSt_del n st k t hk⟩

/-- the guard of the pre-merge `self._autoflush()` in `Session.merge`, as regenerated from
    the source, is exactly `if load:` -/
theorem merge_autoflush_guard_is_load : mergeAutoflushGuardIsLoad = true := by decide

/-- `Session.merge` runs `_merge` inside `with self.no_autoflush:` (so that the pre-merge flush is
    the only one) -/
theorem merge_body_under_no_autoflush : mergeBodyUnderNoAutoflush = true := by decide

/-- **merge_autoflush_eq_flush_then_merge**: in a Session with autoflush on, merge(load=True)
    is: flush everything, then merge — whatever the Session holds for the identity -/
theorem merge_autoflush_eq_flush_then_merge (n : Nat) (st : St) (s : Src) :
    mergeAf true n true st s = merge true (flushSt n st) s := by
  unfold mergeAf afGuard
  rw [merge_autoflush_guard_is_load]
  rfl

theorem merge_true (st : St) (s : Src) : merge true st s = mergeLoad st s := rfl

theorem merge_no_autoflush_eq_merge (n : Nat) (load : Bool) (st : St) (s : Src) :
    mergeAf false n load st s = merge load st s := by
  rfl

/-- **merge_noload_no_flush**: load=False never flushes, autoflush on or off: the result
    is that of `mergeNoLoad` on the unflushed state (so no SQL, by
    `merge_noload_no_sql_no_change`) -/
theorem merge_noload_no_flush (af : Bool) (n : Nat) (st : St) (s : Src) :
    mergeAf af n false st s = mergeNoLoad st s := by
  unfold mergeAf
  rw [Bool.and_false, Bool.false_and]
  rfl

theorem flushSt_clean (n : Nat) (st : St) (k t : Nat) (o : Obj) (hk : k < n)
    (h : (flushSt n st).objs k t = some o) : o.a.com = none ∧ o.b.com = none := by
  dsimp only [flushSt] at h
  rw [if_pos hk] at h
  split at h
  · cases h
    exact ⟨rfl, rfl⟩
  · split at h
    · cases h
    · obtain ⟨y, _, rfl⟩ := Option.map_eq_some_iff.1 h
      exact ⟨rfl, rfl⟩

theorem mergeLoad_del (st : St) (s : Src) : (mergeLoad st s).1.del = st.del := by
  unfold mergeLoad
  split
  · rfl
  split
  · rfl
  split <;> rfl

/-- **merge_autoflush_result_live**: with autoflush on, the instance merge(load=True) works
    on and returns is never marked deleted — even when the Session held a deleted-marked
    instance of that identity before — and every attribute loaded on the source is on it -/
theorem merge_autoflush_result_live (n : Nat) (st : St) (s : Src) (hk : s.pk < n) :
    (∀ u, (mergeAf true n true st s).1.del s.pk u = false) ∧
    ∃ o', destOf (mergeAf true n true st s).1 s.pk s.tok = some o' ∧
      (∀ v, s.a = some v → o'.a.cur = some v) ∧ (∀ v, s.b = some v → o'.b.cur = some v) := by
  rw [merge_autoflush_eq_flush_then_merge]
  refine ⟨fun u => (congrFun (congrFun (mergeLoad_del _ s) s.pk) u).trans (flushSt_del n st s.pk u hk), ?_⟩
  obtain ⟨o', h1, h2, h3⟩ := merge_copies_loaded (flushSt n st) s (flushSt_new n st s.pk hk)
  refine ⟨o', h1, ?_, ?_⟩
  · intro v hv
    rw [hv] at h2
    exact h2
  · intro v hv
    rw [hv] at h3
    exact h3

/-- **merge_autoflush_after_delete_creates**: the Session holds the identity, marked deleted
    (`Session.delete()` not flushed): the autoflush deletes row and instance, and merge
    creates a NEW pending instance from the source — it does not copy onto the doomed one -/
theorem merge_autoflush_after_delete_creates (n : Nat) (st : St) (s : Src) (hk : s.pk < n) (ht : s.tok < 3)
    (hd : st.del s.pk s.tok = true) (hn : st.new s.pk = none) :
    (mergeAf true n true st s).2 = .merged true 0 (copyAttr unloaded s.a).cur (copyAttr unloaded s.b).cur true ∧
    (mergeAf true n true st s).1.objs s.pk s.tok = none ∧
    (mergeAf true n true st s).1.new s.pk = some ⟨copyAttr unloaded s.a, copyAttr unloaded s.b⟩ := by
  obtain ⟨h1, h2, _⟩ := flush_removes_deleted n st s.pk s.tok hk ht hn hd
  rw [merge_autoflush_eq_flush_then_merge, merge_true, mergeLoad_create (flushSt_new n st s.pk hk) h1 h2]
  exact ⟨rfl, h1, if_pos rfl⟩

/-- **merge_autoflush_finds_pending**: the identity is pending in the Session (an earlier
    merge or `Session.add`): the autoflush makes it persistent and merge lands on THAT
    instance — no second instance: nothing is pending for the primary key afterwards, the
    result is not new, and no SELECT was needed -/
theorem merge_autoflush_finds_pending (n : Nat) (st : St) (s : Src) (p : Obj) (hk : s.pk < n) (ht : s.tok = 0)
    (hp : st.new s.pk = some p) :
    (mergeAf true n true st s).1.new s.pk = none ∧
    (mergeAf true n true st s).2 = outOf false 0 ⟨copyAttr (flushObj p).a s.a, copyAttr (flushObj p).b s.b⟩ ∧
    (mergeAf true n true st s).1.objs s.pk 0 = some ⟨copyAttr (flushObj p).a s.a, copyAttr (flushObj p).b s.b⟩ ∧
    (mergeAf true n true st s).1.sql = st.sql := by
  have ho : (flushSt n st).objs s.pk s.tok = some (flushObj p) := ht ▸ (flushSt_of_pending hk hp).1
  rw [merge_autoflush_eq_flush_then_merge, merge_true, mergeLoad_hit (flushSt_new n st s.pk hk) ho, ht]
  exact ⟨flushSt_new n st s.pk hk, rfl, putObj_same _ _ _ _, rfl⟩

theorem netChange_clean (x : Attr) (h : x.com = none) : x.netChange = false := by
  unfold Attr.netChange
  rw [h]

theorem rowAfter_clean (o : Obj) (row : Option (Int × Int)) (ha : o.a.com = none) (hb : o.b.com = none) :
    rowAfter o row = row := by
  cases row with
  | none => rfl
  | some r =>
    dsimp only [rowAfter]
    rw [netChange_clean _ ha, netChange_clean _ hb]
    rfl

/-- one instance's UPDATE in the flush of a row -/
def rowStep (st : St) (k : Nat) (row : Option (Int × Int)) (t : Nat) : Option (Int × Int) :=
  match st.objs k t with
  | some o => rowAfter o row
  | none => row

theorem rowFlush_eq (st : St) (k : Nat) :
    rowFlush st k = rowStep st k (rowStep st k (rowStep st k (st.db k) 0) 1) 2 := rfl

theorem rowFlush_single (st : St) (k t : Nat) (ht : t < 3)
    (hclean : ∀ u o, u ≠ t → st.objs k u = some o → o.a.com = none ∧ o.b.com = none) :
    rowFlush st k = rowStep st k (st.db k) t := by
  have other : ∀ u, u ≠ t → ∀ row, rowStep st k row u = row := by
    intro u hu row
    unfold rowStep
    cases h : st.objs k u with
    | none => rfl
    | some o => exact rowAfter_clean o row (hclean u o hu h).1 (hclean u o hu h).2
  have : t = 0 ∨ t = 1 ∨ t = 2 := by omega
  rw [rowFlush_eq]
  rcases this with h | h | h <;> subst h
  · rw [other 2 (by decide), other 1 (by decide)]
  · rw [other 2 (by decide), other 0 (by decide)]
  · rw [other 0 (by decide), other 1 (by decide)]

/-- what one attribute contributes to the row at the flush after merge: the source's value -/
theorem persisted_attr (x : Attr) (hx : x.com = none) (rv v : Int) (hs : ∀ w, x.cur = some w → rv = w) :
    ((if (copyAttr x (some v)).netChange then (copyAttr x (some v)).cur else some rv).getD 0) = v := by
  simp only [copyAttr, setAttr, hx, Attr.netChange]
  cases hc : x.cur with
  | none => rfl
  | some w =>
    cases hs w hc
    -- no net change exactly when the row already has `v`
    by_cases hw : rv = v
    · subst hw
      rw [ite_self]
      rfl
    · rw [if_pos (Bool.or_eq_true_iff.2 (.inl (bne_iff_ne.2 fun e => hw (Option.some.inj e))))]
      rfl

/-- The Session's instance mirrors its row.  True for instances this Session loaded or
    flushed; not for instances stamped by merge(load=False), which asserts without looking. -/
def SyncedRow (o : Obj) (row : Option (Int × Int)) : Prop :=
  ∃ r, row = some r ∧ (∀ v, o.a.cur = some v → r.1 = v) ∧ (∀ v, o.b.cur = some v → r.2 = v)

/-- the hypotheses on `st1` are what `flushSt` leaves at `s.pk` -/
theorem merge_then_flush_row (n : Nat) (st1 : St) (s : Src) (hk : s.pk < n) (ht : s.tok < 3)
    (hnew : st1.new s.pk = none) (hdel : ∀ u, st1.del s.pk u = false)
    (hclean : ∀ u o, st1.objs s.pk u = some o → o.a.com = none ∧ o.b.com = none)
    (hsync : ∀ o, st1.objs s.pk s.tok = some o → SyncedRow o (st1.db s.pk)) :
    ∃ r, (flushSt n (mergeLoad st1 s).1).db s.pk = some r ∧
      (∀ v, s.a = some v → r.1 = v) ∧ (∀ v, s.b = some v → r.2 = v) := by
  -- merge landed on the history-free instance `o`, which mirrors its row
  have found : ∀ o q, (o.a.com = none ∧ o.b.com = none) → SyncedRow o (st1.db s.pk) →
      ∃ r, (flushSt n { st1 with objs := putObj st1.objs s.pk s.tok (copyObj o s), sql := q }).db s.pk = some r ∧
        (∀ v, s.a = some v → r.1 = v) ∧ (∀ v, s.b = some v → r.2 = v) := by
    intro o q hoc ⟨r, hr, sa, sb⟩
    generalize hm : ({ st1 with objs := putObj st1.objs s.pk s.tok (copyObj o s), sql := q } : St) = stm
    have hany : anyDel stm s.pk = false :=
      List.any_eq_false.2 fun t _ => by rw [← hm]; exact ne_true_of_eq_false (hdel t)
    -- the merged instance alone has history: the flush writes its UPDATE of `r`, and no other
    have hrow : rowFlush stm s.pk = rowAfter (copyObj o s) (some r) := by
      rw [rowFlush_single stm s.pk s.tok ht fun u o2 hu h2 =>
        hclean u o2 ((putObj_other _ _ _ _ hu).symm.trans (hm ▸ h2)), ← hm]
      dsimp only [rowStep]
      rw [putObj_same, hr]
    rw [(flushSt_of_not_pending stm hk (hm ▸ hnew)).2, hany, hrow]
    dsimp only [copyObj]
    exact ⟨_, rfl, fun v hv => by rw [hv]; exact persisted_attr o.a hoc.1 r.1 v sa,
      fun v hv => by rw [hv]; exact persisted_attr o.b hoc.2 r.2 v sb⟩
  cases ho : st1.objs s.pk s.tok with
  | some o =>
    rw [mergeLoad_hit hnew ho]
    exact found o _ (hclean s.tok o ho) (hsync o ho)
  | none =>
    cases hr : st1.db s.pk with
    | some r =>
      rw [mergeLoad_load hnew ho hr]
      exact found _ _ ⟨rfl, rfl⟩ ⟨r, hr, fun _ hv => Option.some.inj hv, fun _ hv => Option.some.inj hv⟩
    | none =>
      rw [mergeLoad_create hnew ho hr, (flushSt_of_pending hk (if_pos rfl)).2]
      dsimp only [copyObj]
      exact ⟨_, rfl, fun v hv => by rw [hv]; rfl, fun v hv => by rw [hv]; rfl⟩

/-- **merge_autoflush_persisted**: with autoflush on, after merge(load=True) and the next
    flush the row of the source's identity EXISTS and carries every attribute loaded on the
    source — whatever was pending in the Session before (deletes, pending instances,
    modifications).  Hypothesis: if after the autoflush the Session still holds the identity,
    that instance mirrors its row (`SyncedRow`; false only after a load=False stamp, which
    the harness excludes in the same way).
    Full statement without the hypothesis is false: see `merge_persisted_needs_sync_counterexample`. -/
theorem merge_autoflush_persisted (n : Nat) (st : St) (s : Src) (hk : s.pk < n) (ht : s.tok < 3)
    (hsync : ∀ o, (flushSt n st).objs s.pk s.tok = some o → SyncedRow o ((flushSt n st).db s.pk)) :
    ∃ r, (flushSt n (mergeAf true n true st s).1).db s.pk = some r ∧
      (∀ v, s.a = some v → r.1 = v) ∧ (∀ v, s.b = some v → r.2 = v) := by
  rw [merge_autoflush_eq_flush_then_merge]
  exact merge_then_flush_row n (flushSt n st) s hk ht (flushSt_new n st s.pk hk)
    (fun u => flushSt_del n st s.pk u hk) (fun u o h => flushSt_clean n st s.pk u o hk h) hsync

/-- an instance stamped by load=False with a value the row does not have (row a = 1,
    instance a = 5, no history): merging a = 5 is no net change, the row keeps 1 -/
theorem merge_persisted_needs_sync_counterexample :
    ∃ (st : St) (s : Src), s.pk < 1 ∧ s.tok < 3 ∧ s.a = some 5 ∧
      (flushSt 1 (mergeAf true 1 true st s).1).db s.pk = some (1, 2) := by
  refine ⟨(mergeNoLoad (run true 1 St.init [.insert 0 1 2]) ⟨0, 0, some 5, none, true, false⟩).1,
          ⟨0, 0, some 5, none, true, false⟩, by decide, by decide, rfl, by decide⟩

/-- **merge_autoflush_persisted_after_delete**: the identity was marked deleted: no
    hypothesis needed, the merged state is re-created and reaches the database -/
theorem merge_autoflush_persisted_after_delete (n : Nat) (st : St) (s : Src) (hk : s.pk < n) (ht : s.tok < 3)
    (hd : st.del s.pk s.tok = true) (hn : st.new s.pk = none) :
    ∃ r, (flushSt n (mergeAf true n true st s).1).db s.pk = some r ∧
      (∀ v, s.a = some v → r.1 = v) ∧ (∀ v, s.b = some v → r.2 = v) := by
  apply merge_autoflush_persisted n st s hk ht
  intro o ho
  rw [(flush_removes_deleted n st s.pk s.tok hk ht hn hd).1] at ho
  cases ho

/-- **merge_autoflush_persisted_pending**: the identity was pending: likewise -/
theorem merge_autoflush_persisted_pending (n : Nat) (st : St) (s : Src) (p : Obj) (hk : s.pk < n) (ht : s.tok = 0)
    (hp : st.new s.pk = some p) :
    ∃ r, (flushSt n (mergeAf true n true st s).1).db s.pk = some r ∧
      (∀ v, s.a = some v → r.1 = v) ∧ (∀ v, s.b = some v → r.2 = v) := by
  apply merge_autoflush_persisted n st s hk (by omega)
  intro o ho
  obtain ⟨h0, hdb⟩ := flushSt_of_pending hk hp
  cases (ht ▸ ho).symm.trans h0
  exact ⟨_, hdb, fun v hv => by rw [show p.a.cur = some v from hv]; rfl,
    fun v hv => by rw [show p.b.cur = some v from hv]; rfl⟩

/-- partial source onto a loaded, modified object: loaded attribute copied, the other
    one (pending value 11) kept; second merge changes nothing -/
example :
    let st := run false 1 St.init [.insert 0 1 2, .load 0 0, .set 0 0 true 11]
    let s : Src := ⟨0, 0, some 5, none, true, false⟩
    (mergeLoad st s).2 = .merged false 0 (some 5) (some 11) true ∧
    (mergeLoad (mergeLoad st s).1 s).2 = .merged false 0 (some 5) (some 11) true ∧
    ((mergeLoad st s).1.objs 0 0).isSome = true := by decide +kernel

/-- load=False on an identity the Session does not hold: new persistent instance, no SQL -/
example :
    let st := run false 1 St.init [.insert 0 1 2]
    (mergeNoLoad st ⟨0, 0, some 5, none, true, false⟩).2 = .merged true 0 (some 5) none false ∧
    (mergeNoLoad st ⟨0, 0, some 5, none, true, false⟩).1.sql = st.sql := by decide +kernel

/-- a source whose key carries identity token 1, Session holds only the token-less instance:
    a second instance (pk 0, token 1) is loaded and returned, the other one is untouched -/
example :
    let st := run false 1 St.init [.insert 0 1 2, .load 0 0]
    let s : Src := ⟨0, 1, some 5, none, true, false⟩
    (mergeLoad st s).2 = .merged false 1 (some 5) (some 2) true ∧
    ((mergeLoad st s).1.objs 0 0).map (·.a.cur) = some (some 1) := by decide +kernel

/-- pending `Session.delete()` of the identity, autoflush on: merge returns a NEW pending
    instance carrying the source's state, not marked deleted, and after the flush the row is
    the merged one.  With autoflush off (documented) the doomed instance is returned, still
    marked, and the flush deletes the row. -/
example :
    let st := run true 1 St.init [.insert 0 1 2, .load 0 0, .del 0 0]
    let s : Src := ⟨0, 0, some 5, none, true, false⟩
    st.del 0 0 = true ∧ st.new 0 = none ∧
    (mergeAf true 1 true st s).2 = .merged true 0 (some 5) none true ∧
    (mergeAf true 1 true st s).1.del 0 0 = false ∧
    (flushSt 1 (mergeAf true 1 true st s).1).db 0 = some (5, 0) ∧
    (mergeAf false 1 true st s).2 = .merged false 0 (some 5) (some 2) true ∧
    (mergeAf false 1 true st s).1.del 0 0 = true ∧
    (flushSt 1 (mergeAf false 1 true st s).1).db 0 = none := by decide +kernel

/-- the identity is pending (merged before, no row), autoflush on: the second merge lands on
    it — nothing pending afterwards, not new, no SELECT; `SyncedRow` holds after the flush -/
example :
    let st := run true 1 St.init [.merge true ⟨0, 0, some 5, none, false, false⟩]
    let s : Src := ⟨0, 0, none, some 7, false, false⟩
    (st.new 0).isSome = true ∧
    (mergeAf true 1 true st s).2 = .merged false 0 (some 5) (some 7) true ∧
    (mergeAf true 1 true st s).1.new 0 = none ∧
    (mergeAf true 1 true st s).1.sql = st.sql ∧
    (flushSt 1 (mergeAf true 1 true st s).1).db 0 = some (5, 7) := by decide +kernel

/-- `SyncedRow` is satisfiable by a loaded-and-modified instance: the autoflush writes the
    modification, the instance then mirrors its row -/
example :
    let st := run true 1 St.init [.insert 0 1 2, .load 0 0, .set 0 0 true 11]
    ∀ o, (flushSt 1 st).objs 0 0 = some o → SyncedRow o ((flushSt 1 st).db 0) := by
  intro st o ho
  have h : (flushSt 1 st).objs 0 0 = some ⟨⟨some 1, none⟩, ⟨some 11, none⟩⟩ := by decide +kernel
  rw [h] at ho
  cases ho
  exact ⟨(1, 11), by decide, by intro v hv; cases hv; rfl, by intro v hv; cases hv; rfl⟩

/-- load=False in an autoflush Session, pending delete present: nothing is flushed -/
example :
    let st := run true 1 St.init [.insert 0 1 2, .load 0 0, .del 0 0]
    (mergeAf true 1 false st ⟨0, 0, some 5, none, true, false⟩).1.del 0 0 = true ∧
    (mergeAf true 1 false st ⟨0, 0, some 5, none, true, false⟩).1.db 0 = some (1, 2) := by decide +kernel

end SaVerif.Props.C45
