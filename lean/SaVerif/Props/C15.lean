import SaVerif.Lemmas.ListFacts
import SaVerif.Lemmas.AsciiString
import SaVerif.Model.SqliteReflect
/-!
# C15 — Reflection reproduces the schema that was created (SQLite, pure parsing core)

`affinity_roundtrip` and `reflect_emit_fixpoint` are decided against `Gen/SqliteTypes.lean`,
which the translator regenerates from the working tree (ischema_names, the DDL text of every
type the type compiler emits, the DDL text of every reflected class): editing
`_resolve_type_affinity`'s tables or a `visit_*` of the SQLite type compiler re-runs them.
The catalog half of the property is checked on real SQLite by harness/props/c15.py.
-/
namespace SaVerif.Props.C15
open SaVerif.SqliteReflect SaVerif.Gen.SqliteTypes

/-- emitted type text → reflected class → its DDL text: same SQLite affinity, and the
    reflected type can be rendered -/
def affinityOK (row : String × String) : Bool :=
  match ddlOf (resolve row.2.toList) with
  | some d => d != "!error" && sqliteAffinity d.toList == sqliteAffinity row.2.toList
  | none => false

/-- reflecting the re-emitted DDL text gives the same class and argument count again -/
def fixpointOK (row : String × String) : Bool :=
  match ddlOf (resolve row.2.toList) with
  | some d => resolve d.toList == resolve row.2.toList
  | none => false

/-- Stated for a variable `c` and used by `simp only`, which rewrites syntactically: the kernel is
    never asked to run the lookup with `String.toList`. -/
theorem affinityClass_ascii (c : Str) : affinityClass c =
    match ischema.find? (fun kv => asciiToList kv.1 == c) with
    | some kv => kv.2
    | none =>
      if isInfix "INT".toList c then "INTEGER"
      else if isInfix "CHAR".toList c || isInfix "CLOB".toList c || isInfix "TEXT".toList c then "TEXT"
      else if isInfix "BLOB".toList c || c.isEmpty then "NullType"
      else if isInfix "REAL".toList c || isInfix "FLOA".toList c || isInfix "DOUB".toList c then "REAL"
      else "NUMERIC" := by
  simp only [← toList_eq_asciiToList]
  rfl

/-- Both checks in one evaluation, so that the kernel reflects each row once; the strings
    are read bytewise (`asciiToList`), several times cheaper than decoding them. -/
theorem emitted_ok : ∀ row ∈ emitted, (affinityOK row && fixpointOK row) = true := by
  delta affinityOK fixpointOK
  simp only [resolve, affinityClass_ascii, sqliteAffinity, toList_eq_asciiToList]
  decide +kernel

/-- for every type the generator (and SQLiteTypeCompiler) emits -/
theorem affinity_roundtrip : ∀ row ∈ emitted, affinityOK row = true :=
  fun row h => (Bool.and_eq_true_iff.1 (emitted_ok row h)).1

theorem reflect_emit_fixpoint : ∀ row ∈ emitted, fixpointOK row = true :=
  fun row h => (Bool.and_eq_true_iff.1 (emitted_ok row h)).2

/-- every class `_resolve_type_affinity` can return for a known name has a DDL row
    without arguments (so a reflected table can always be re-created) -/
theorem ischema_classes_renderable :
    ∀ kv ∈ ischema, (ddlOf (kv.2, 0)).isSome = true := by decide +kernel

/-- for every combination of the five facts the two
    cooperating sites of SQLiteDDLCompiler look at (the column is a primary key, the table has
    sqlite_autoincrement, the key has one column, the type has Integer affinity, the column has
    no foreign key), a primary-key column is rendered either inline or by the table-level
    constraint, never by both and never by neither.  Decided against the conjunct lists
    regenerated from the source (`Gen/SqlitePk.lean`). -/
theorem primary_key_rendered_exactly_once :
    ∀ a < 32, atomHolds a 0 = true → (pkInline a != pkTableLevel a) = true := by decide +kernel

/-- both renderings occur -/
example : pkInline 31 = true ∧ pkTableLevel 31 = false ∧ pkInline 15 = false ∧ pkTableLevel 15 = true := by decide +kernel

/-- how `DDLCompiler` writes one column of a constraint: quoted or bare -/
def renderCol (i : Bool × Str) : Str := if i.1 then '"' :: i.2 ++ ['"'] else i.2

def renderSig : List (Bool × Str) → Str
  | [] => []
  | [i] => renderCol i
  | i :: is => renderCol i ++ ',' :: ' ' :: renderSig is

/-- identifiers the scanner supports: non-empty, no double quote, no newline; bare ones
    consist of `[A-Za-z0-9_]` -/
def ItemOK (i : Bool × Str) : Prop :=
  i.2 ≠ [] ∧ '"' ∉ i.2 ∧ '\n' ∉ i.2 ∧ (i.1 = false → ∀ c ∈ i.2, isIdentChar c = true)

theorem findCols_skip {fuel : Nat} {c : Char} {t : Str} (h1 : c ≠ '"') (h2 : isIdentChar c = false) :
    findCols (fuel + 1) (c :: t) = findCols fuel t := by
  simp [findCols, h1, h2]

theorem findCols_nil (fuel : Nat) : findCols fuel [] = [] := by
  cases fuel <;> rfl

theorem findCols_item {fuel : Nat} {i : Bool × Str} (hi : ItemOK i) {rest : Str}
    (hrest : ∀ c t, rest = c :: t → c = ',') :
    findCols (fuel + 1) (renderCol i ++ rest) = i.2 :: findCols fuel rest := by
  obtain ⟨q, _ | ⟨x, name⟩⟩ := i
  · exact absurd rfl hi.1
  obtain ⟨-, hq, hnl, hid⟩ := hi
  simp only [List.mem_cons, not_or] at hq hnl
  cases q with
  | true =>
    obtain ⟨htake, hdrop⟩ := SaVerif.ListFacts.takeWhile_dropWhile_append
      (p := fun y => y != '"' && y != '\n') (a := name)
      (T := '"' :: rest) (fun y hy => by
        have h1 : y ≠ '"' := fun he => hq.2 (he ▸ hy)
        have h2 : y ≠ '\n' := fun he => hnl.2 (he ▸ hy)
        simp [h1, h2]) (fun c t he => by cases he; rfl)
    simp only [renderCol, if_true, List.cons_append, List.append_assoc]
    simp only [findCols, List.nil_append, beq_self_eq_true, if_true, beq_false_of_ne (Ne.symm hnl.1),
      Bool.false_eq_true, if_false, htake, hdrop]
  | false =>
    have hall := hid rfl
    obtain ⟨htake, hdrop⟩ := SaVerif.ListFacts.takeWhile_dropWhile_append
      (p := isIdentChar) (a := x :: name) (T := rest) hall
      (fun c t he => by rw [hrest c t he]; decide)
    simp only [renderCol, Bool.false_eq_true, if_false]
    rw [List.cons_append]
    simp only [findCols, beq_false_of_ne (Ne.symm hq.1), Bool.false_eq_true, if_false,
      hall x List.mem_cons_self, if_true]
    rw [← List.cons_append, htake, hdrop]

theorem length_renderCol_pos {i : Bool × Str} (hi : ItemOK i) : 0 < (renderCol i).length := by
  obtain ⟨q, name⟩ := i
  cases name with
  | nil => exact absurd rfl hi.1
  | cons x xs => cases q <;> simp [renderCol]

/-- `find_cols_recovers` for any fuel: `_find_cols_in_sig` returns exactly the identifiers of every
    rendered column list, whatever their number and spelling (within `ItemOK`) -/
theorem findCols_renderSig : ∀ (items : List (Bool × Str)) (fuel : Nat),
    (∀ i ∈ items, ItemOK i) → (renderSig items).length < fuel →
    findCols fuel (renderSig items) = items.map (·.2) := by
  intro items
  induction items with
  | nil => intro fuel _ _; simp [renderSig, findCols_nil]
  | cons i is ih =>
    intro fuel hok hlen
    have hi := hok i List.mem_cons_self
    cases is with
    | nil =>
      simp only [renderSig] at hlen ⊢
      -- one unit of fuel for the item
      obtain ⟨f, rfl⟩ : ∃ f, fuel = f + 1 := ⟨fuel - 1, by omega⟩
      rw [← List.append_nil (renderCol i), findCols_item hi (rest := []) (fun c t h => nomatch h), findCols_nil]
      rfl
    | cons j js =>
      simp only [renderSig] at hlen ih ⊢
      have hpos := length_renderCol_pos hi
      simp only [List.length_append, List.length_cons] at hlen
      -- one unit of fuel for the item, one each for the `,` and the blank
      obtain ⟨f, rfl⟩ : ∃ f, fuel = f + 3 := ⟨fuel - 3, by omega⟩
      rw [findCols_item hi (fun c t h => (List.cons.inj h).1.symm),
        findCols_skip (by decide) (by decide), findCols_skip (by decide) (by decide),
        ih f (fun k hk => hok k (List.mem_cons_of_mem _ hk)) (by omega)]
      rfl

theorem find_cols_recovers (items : List (Bool × Str)) (hok : ∀ i ∈ items, ItemOK i) :
    findColsInSig (renderSig items) = items.map (·.2) :=
  findCols_renderSig items _ hok (Nat.lt_succ_self _)

example : findColsInSig "\"has space\", c1, \"select\", \"a,b)c\"".toList
    = ["has space".toList, "c1".toList, "select".toList, "a,b)c".toList] := by
  -- a literal unifies with `String.ofList _`, so its characters are read off without evaluating `toList`
  repeat rw [String.toList_ofList]
  decide +kernel
example : resolve "VARCHAR(30)".toList = ("VARCHAR", 1) := by
  rw [String.toList_ofList]
  simp only [resolve, affinityClass_ascii]
  decide +kernel
example : resolve "DOUBLE PRECISION".toList = ("REAL", 0) := by
  rw [String.toList_ofList]
  simp only [resolve, affinityClass_ascii, toList_eq_asciiToList]
  decide +kernel
example : sqliteAffinity "DOUBLE PRECISION".toList = "REAL" := by
  rw [String.toList_ofList, sqliteAffinity]
  simp only [toList_eq_asciiToList]
  decide +kernel

end SaVerif.Props.C15
