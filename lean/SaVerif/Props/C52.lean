import SaVerif.Model.Scoped
/-!
# C52 — scoped_session gives each scope its own session

Theorems about the LTS `SaVerif/Model/Scoped.lean` (transcription of
`ScopedRegistry.__call__/has/clear` and `scoped_session.__call__/remove`): any number of
threads, any assignment of threads to scopes (several threads may share a scope), every
interleaving of the atomic steps (lookup / KeyError / createfunc / setdefault / has /
close / clear).
-/
namespace SaVerif.Props.C52
open SaVerif.Scoped

def ownerOf (s : Shared) (x : Sess) : Option Key := s.owner[x]?

/-- every session that is registered, in the hands of a thread, or was returned to a
    caller belongs to the scope it is associated with -/
structure Inv (scope : List Key) (s : State) : Prop where
  reg : ∀ (k : Key) (x : Sess), regAt s.toShared k = some x → ownerOf s.toShared x = some k
  -- what the induction turns on: `r2 x` is about to close `x`, `c3 _ x` has just created it
  pcs : ∀ (t : Nat) (k : Key) (pc : Pc) (x : Sess), scope[t]? = some k → s.pcs[t]? = some pc →
      (pc = Pc.r2 x ∨ ∃ rm, pc = Pc.c3 rm x) → ownerOf s.toShared x = some k
  got : ∀ (t : Nat) (k : Key) (x : Sess), scope[t]? = some k → (t, x) ∈ s.got → ownerOf s.toShared x = some k

theorem step_eq {scope : List Key} {s s' : State} {t : Nat} {l : Label}
    (hs : step scope s t l = some s') :
    ∃ old k new sh r, s.pcs[t]? = some old ∧ scope[t]? = some k ∧
      Scoped.trans s.toShared k old l = some (new, sh, r) ∧
      s' = { toShared := sh, pcs := s.pcs.set t new,
             got := match r with
               | some x => (t, x) :: s.got
               | none => s.got } := by
  unfold step at hs
  split at hs
  next pc k hpc hk =>
    split at hs <;> cases hs
    exact ⟨pc, k, _, _, _, hpc, hk, ‹_›, rfl⟩
  · cases hs

theorem regAt_set_ne {k k' : Key} (h : k' ≠ k) (s : Shared) (v : Option Sess) :
    regAt { s with reg := s.reg.set k v } k' = regAt s k' := by
  simp only [regAt, List.getD_eq_getElem?_getD, List.getElem?_set_ne (Ne.symm h)]

theorem regAt_set_self {s : Shared} {k : Key} (h : k < s.reg.length) (v : Option Sess) :
    regAt { s with reg := s.reg.set k v } k = v := by
  simp [regAt, h]

/-- also when `k` is out of range: the default of `regAt` is `none` -/
theorem regAt_clear (s : Shared) (k : Key) : regAt { s with reg := s.reg.set k none } k = none := by
  by_cases h : k < s.reg.length <;> simp [regAt, h]

/-- what one transition does, field by field.  `regSelf`: the scope's own entry is kept, cleared,
    or set by the `setdefault` of a thread that stands at `c3`.  `newPc`: a session the thread holds
    afterwards it held before, found registered for its scope, or has just been given by
    `createfunc`. -/
structure Effect (s sh : Shared) (k : Key) (old new : Pc) (r : Option Sess) : Prop where
  owner : sh.owner = s.owner ∨ (sh.owner = s.owner ++ [k] ∧ ∃ rm, new = Pc.c3 rm s.owner.length)
  regOther : ∀ k', k' ≠ k → regAt sh k' = regAt s k'
  regSelf : regAt sh k = regAt s k ∨ regAt sh k = none ∨
            (∃ rm x, old = Pc.c3 rm x ∧ regAt sh k = some x)
  newPc : ∀ x, (new = Pc.r2 x ∨ ∃ rm, new = Pc.c3 rm x) →
      (old = Pc.r2 x ∨ (∃ rm, old = Pc.c3 rm x)) ∨ regAt s k = some x ∨
      (x = s.owner.length ∧ sh.owner = s.owner ++ [k])
  ret : ∀ x, r = some x → regAt sh k = some x
  closed : sh.closed = s.closed ∨ ∃ x, old = Pc.r2 x ∧ sh.closed = x :: s.closed

theorem Effect.same {s : Shared} {k : Key} {old new : Pc} {r : Option Sess}
    (hn : ∀ x, (new = Pc.r2 x ∨ ∃ rm, new = Pc.c3 rm x) → regAt s k = some x)
    (hr : ∀ x, r = some x → regAt s k = some x) : Effect s s k old new r :=
  { owner := .inl rfl, regOther := fun _ _ => rfl, regSelf := .inl rfl,
    newPc := fun x hx => .inr (.inl (hn x hx)), ret := hr, closed := .inl rfl }

theorem eq_of_after_holds {rm : Bool} {x y : Sess}
    (h : after rm x = Pc.r2 y ∨ ∃ rm', after rm x = Pc.c3 rm' y) : y = x := by
  cases rm <;> simp [after] at h
  exact h.symm

theorem ret_val {rm : Bool} {x y : Sess} (h : (if rm then none else some x) = some y) : y = x := by
  cases rm <;> simp at h
  exact h.symm

theorem trans_spec {s sh : Shared} {k : Key} {old new : Pc} {l : Label} {r : Option Sess}
    (h : Scoped.trans s k old l = some (new, sh, r)) :
    Effect s sh k old new r ∧ (regAt sh k = regAt s k ∨ l = .clear ∨ regAt s k = none) := by
  unfold Scoped.trans at h
  -- one case per line of `trans`, in its order; the second conjunct names the label, which
  -- `Effect` does not know
  split at h
  · cases h; exact ⟨.same (by simp) (by simp), .inl rfl⟩
  · cases h; exact ⟨.same (by simp) (by simp), .inl rfl⟩
  next rm x =>
    obtain ⟨hreg, h⟩ := Option.ite_none_right_eq_some.1 h
    cases h
    exact ⟨.same (fun y hy => eq_of_after_holds hy ▸ hreg) (fun y hy => ret_val hy ▸ hreg), .inl rfl⟩
  · obtain ⟨_, h⟩ := Option.ite_none_right_eq_some.1 h
    cases h; exact ⟨.same (by simp) (by simp), .inl rfl⟩
  next rm x =>
    obtain ⟨rfl, h⟩ := Option.ite_none_right_eq_some.1 h
    cases h
    exact ⟨{ owner := .inr ⟨rfl, rm, rfl⟩, regOther := fun _ _ => rfl, regSelf := .inl rfl,
             newPc := fun y hy => .inr (.inr ⟨by simpa [eq_comm] using hy, rfl⟩), ret := by simp,
             closed := .inl rfl }, .inl rfl⟩
  next rm x y =>
    split at h
    next hnone =>
      obtain ⟨⟨rfl, hlt⟩, h⟩ := Option.ite_none_right_eq_some.1 h
      cases h
      have hy := regAt_set_self hlt (some y)
      exact ⟨{ owner := .inl rfl, regOther := fun _ hk => regAt_set_ne hk ..,
               regSelf := .inr (.inr ⟨rm, y, rfl, hy⟩),
               newPc := fun z hz => .inl (.inr ⟨rm, eq_of_after_holds hz ▸ rfl⟩),
               ret := fun z hz => ret_val hz ▸ hy, closed := .inl rfl }, .inr (.inr hnone)⟩
    next z hsome =>
      obtain ⟨rfl, h⟩ := Option.ite_none_right_eq_some.1 h
      cases h
      exact ⟨.same (fun y hy => eq_of_after_holds hy ▸ hsome) (fun y hy => ret_val hy ▸ hsome), .inl rfl⟩
  · cases h; exact ⟨.same (by simp) (by simp), .inl rfl⟩
  next b =>
    obtain ⟨_, h⟩ := Option.ite_none_right_eq_some.1 h
    cases h
    exact ⟨.same (by cases b <;> simp) (by simp), .inl rfl⟩
  next x y =>
    obtain ⟨rfl, h⟩ := Option.ite_none_right_eq_some.1 h
    cases h
    exact ⟨{ owner := .inl rfl, regOther := fun _ _ => rfl, regSelf := .inl rfl, newPc := by simp,
             ret := by simp, closed := .inr ⟨_, rfl, rfl⟩ }, .inl rfl⟩
  · cases h
    exact ⟨{ owner := .inl rfl, regOther := fun _ hk => regAt_set_ne hk ..,
             regSelf := .inr (.inl (regAt_clear ..)), newPc := by simp, ret := by simp,
             closed := .inl rfl }, .inr (.inl rfl)⟩
  · cases h

theorem trans_effect {s sh : Shared} {k : Key} {old new : Pc} {l : Label} {r : Option Sess}
    (h : Scoped.trans s k old l = some (new, sh, r)) : Effect s sh k old new r :=
  (trans_spec h).1

theorem ownerOf_mono {s sh : Shared} {k : Key} {old new : Pc} {r : Option Sess}
    (e : Effect s sh k old new r) {x : Sess} {k0 : Key} (h : ownerOf s x = some k0) :
    ownerOf sh x = some k0 := by
  unfold ownerOf at *
  rcases e.owner with h1 | ⟨h1, _⟩ <;> rw [h1]
  · exact h
  · have ⟨hlt, _⟩ := List.getElem?_eq_some_iff.1 h
    rwa [List.getElem?_append_left hlt]

theorem inv_init (scope : List Key) (nKeys : Nat) : Inv scope (init nKeys scope.length) := by
  refine ⟨?_, ?_, nofun⟩
  · intro k x h
    simp [init, regAt, List.getD_eq_getElem?_getD, List.getElem?_replicate] at h
    split at h <;> simp at h
  · intro t k pc x _ hpc hx
    simp only [init, List.getElem?_replicate] at hpc
    split at hpc <;> cases hpc
    simp at hx

theorem inv_step (scope : List Key) (s s' : State) (t : Nat) (l : Label) (h : Inv scope s)
    (hs : step scope s t l = some s') : Inv scope s' := by
  obtain ⟨old, k, new, sh, r, hold, hk, htr, rfl⟩ := step_eq hs
  have e := trans_effect htr
  have hself : ∀ x, regAt sh k = some x → ownerOf sh x = some k := by
    intro x hx
    rcases e.regSelf with h1 | h1 | ⟨rm, y, h1, h2⟩
    · exact ownerOf_mono e (h.reg k x (h1 ▸ hx))
    · rw [h1] at hx; cases hx
    · rw [h2] at hx; cases hx
      exact ownerOf_mono e (h.pcs t k old x hk hold (.inr ⟨rm, h1⟩))
  refine ⟨?_, ?_, ?_⟩
  · intro k' x hx
    by_cases hkk : k' = k
    · exact hkk ▸ hself x (hkk ▸ hx)
    · exact ownerOf_mono e (h.reg k' x (e.regOther k' hkk ▸ hx))
  · intro u ku pc x hku hpc hx
    by_cases hu : u = t
    · subst hu
      rw [hk] at hku; cases hku
      have ⟨hlt, _⟩ := List.getElem?_eq_some_iff.1 hold
      rw [List.getElem?_set_self hlt] at hpc; cases hpc
      rcases e.newPc x hx with h1 | h1 | ⟨rfl, h2⟩
      · exact ownerOf_mono e (h.pcs u k old x hk hold h1)
      · exact ownerOf_mono e (h.reg k x h1)
      · unfold ownerOf; rw [h2]; simp
    · rw [List.getElem?_set_ne (Ne.symm hu)] at hpc
      exact ownerOf_mono e (h.pcs u ku pc x hku hpc hx)
  · intro u ku x hku hx
    cases r with
    | none => exact ownerOf_mono e (h.got u ku x hku hx)
    | some y =>
      rcases List.mem_cons.1 hx with hx | hx
      · cases hx
        rw [hk] at hku; cases hku
        exact hself x (e.ret x rfl)
      · exact ownerOf_mono e (h.got u ku x hku hx)

theorem inv_reach (scope : List Key) (nKeys : Nat) (s : State) (hr : Reach scope nKeys s) :
    Inv scope s := by
  induction hr with
  | init => exact inv_init scope nKeys
  | step _ hs ih => exact inv_step scope _ _ _ _ ih hs

/-- **different_scope_different_session**: a session handed to a caller in one scope is
    never handed to a caller in another scope — at any time, under any interleaving,
    whatever `remove()` calls happen in between. -/
theorem different_scope_different_session (scope : List Key) (nKeys : Nat) (s : State)
    (hr : Reach scope nKeys s) (t u : Nat) (kt ku : Key) (x : Sess)
    (ht : scope[t]? = some kt) (hu : scope[u]? = some ku)
    (h1 : (t, x) ∈ s.got) (h2 : (u, x) ∈ s.got) : kt = ku := by
  have h := inv_reach scope nKeys s hr
  exact Option.some.inj ((h.got t kt x ht h1).symm.trans (h.got u ku x hu h2))

/-- what `scoped_session()` returns is what the registry holds for the scope right
    after the call -/
theorem returned_is_registered (scope : List Key) (s s' : State) (t : Nat) (l : Label) (k : Key)
    (hk : scope[t]? = some k) (hs : step scope s t l = some s') (x : Sess)
    (hret : s'.got = (t, x) :: s.got) : regAt s'.toShared k = some x := by
  obtain ⟨old, k', new, sh, r, -, hk', htr, rfl⟩ := step_eq hs
  rw [hk] at hk'; cases hk'
  cases r with
  | none => exact absurd (congrArg List.length hret) (by simp)
  | some y => cases hret; exact (trans_effect htr).ret x rfl

/-- **same_scope_same_session** (stability half): the session registered for a scope
    stays registered under every step of every thread except the `clear` of a
    `remove()` executed in that very scope.  (The other half is `returned_is_registered`; that
    two calls in one scope with no `remove()` of that scope in between return the same Session
    is not stated as a theorem.) -/
theorem registered_stable (scope : List Key) (s s' : State) (t : Nat) (l : Label) (k : Key) (x : Sess)
    (hs : step scope s t l = some s') (hreg : regAt s.toShared k = some x)
    (hnot : ¬ (l = Label.clear ∧ scope[t]? = some k)) : regAt s'.toShared k = some x := by
  obtain ⟨old, k', new, sh, r, -, hk', htr, rfl⟩ := step_eq hs
  by_cases hkk : k = k'
  · subst hkk
    rcases (trans_spec htr).2 with h | hl | hn
    · exact h.trans hreg
    · exact absurd ⟨hl, hk'⟩ hnot
    · rw [hn] at hreg; cases hreg
  · exact ((trans_effect htr).regOther k hkk).trans hreg

/-- **remove_only_current**: no step of a thread whose scope is `k` — in particular
    none of the steps of its `remove()` — changes what is registered for another scope,
    and the only session it can close belongs to scope `k`. -/
theorem remove_only_current (scope : List Key) (nKeys : Nat) (s s' : State)
    (hr : Reach scope nKeys s) (t : Nat) (l : Label) (k : Key)
    (hk : scope[t]? = some k) (hs : step scope s t l = some s') :
    (∀ k', k' ≠ k → regAt s'.toShared k' = regAt s.toShared k') ∧
    (∀ x, x ∈ s'.closed → x ∉ s.closed → ownerOf s'.toShared x = some k) := by
  have hinv := inv_reach scope nKeys s hr
  obtain ⟨old, k', new, sh, r, hold', hk', htr, rfl⟩ := step_eq hs
  rw [hk] at hk'; cases hk'
  have e := trans_effect htr
  refine ⟨e.regOther, ?_⟩
  intro x hx hnx
  rcases e.closed with h1 | ⟨y, h1, h2⟩
  · exact absurd (h1 ▸ hx) hnx
  · rcases List.mem_cons.1 (h2 ▸ hx) with rfl | hx
    · exact ownerOf_mono e (hinv.pcs t k old x hk hold' (.inl h1))
    · exact absurd hx hnx

/-- no session is registered for two scopes -/
theorem registry_injective (scope : List Key) (nKeys : Nat) (s : State) (hr : Reach scope nKeys s)
    (k k' : Key) (x : Sess) (h1 : regAt s.toShared k = some x) (h2 : regAt s.toShared k' = some x) :
    k = k' := by
  have h := inv_reach scope nKeys s hr
  exact Option.some.inj ((h.reg k x h1).symm.trans (h.reg k' x h2))

/-! ## non-vacuity: threads 0 and 1 share scope 0, thread 2 has scope 1 -/

def exScope : List Key := [0, 0, 1]

/-- both threads of scope 0 miss, both create, the first setdefault wins and both get
    session 0; thread 2 gets its own session 2 -/
def exTrace : List (Nat × Label) :=
  [(0, .call), (1, .call), (0, .miss), (1, .miss), (0, .create 0), (1, .create 1),
   (2, .call), (2, .miss), (2, .create 2), (0, .ret 0), (1, .ret 0), (2, .ret 2)]

example : (run exScope (init 2 3) exTrace 0).toOption.map (fun s => (s.reg, s.got, s.owner))
    = some ([some 0, some 2], [(2, 2), (1, 0), (0, 0)], [0, 0, 1]) := by decide +kernel

/-- remove() in scope 0 while thread 2 keeps its session; the next call in scope 0
    creates a new one -/
example : (run exScope (init 2 3)
    (exTrace ++ [(0, .rm), (0, .has true), (0, .call), (0, .ret 0), (0, .close 0), (0, .clear),
                 (1, .call), (1, .miss), (1, .create 3), (1, .ret 3)]) 0).toOption.map
      (fun s => (s.reg, s.closed, s.got.head?)) = some ([some 3, some 2], [0], some (1, 3)) := by decide +kernel

/-- the LTS rejects a call that returns another scope's session -/
example : (run exScope (init 2 3) (exTrace ++ [(2, .call), (2, .ret 0)]) 0).toOption = none := by decide +kernel

end SaVerif.Props.C52
