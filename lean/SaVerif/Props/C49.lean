import SaVerif.Lemmas.Mutable
import SaVerif.Gen.MutableTable
/-!
# C49 — Mutable column values propagate in-place changes to the database

Theorems about M-MUT (`SaVerif/Model/Mutable.lean`, transcription of the change
tracking of `ext/mutable.py` + the committed_state / flush decision of the ORM for
one scalar column attribute) and about the regenerated method table
(`SaVerif/Gen/MutableTable.lean`).

The invariant `Inv` is preserved by every operation provided each method call on a value
object satisfies `MutGuard`; each conjunct of the guard is necessary (`*_counterexample`, replayed
on the real code by the harness; see known_findings.d/C49.json).
-/
namespace SaVerif.Props.C49
open SaVerif.Mutable

/-- guard of one operation: only method calls on value objects carry a side condition -/
def Guard (tracked : String → Bool) (st : St) : Op → Prop
  | .mutp p m c r =>
    ∀ v, ((access st p).pars p).cur = .ref v → MutGuard tracked (access st p) v m c r
  | .mutv h m c r => ∀ v, st.handles[h]? = some v → MutGuard tracked st v m c r
  | _ => True

def GuardedRun (tracked : String → Bool) : St → List Op → Prop
  | _, [] => True
  | st, op :: ops => Guard tracked st op ∧ GuardedRun tracked (step tracked st op).1 ops

theorem inv_init (rows : List (Option Content)) (af : Bool) : Inv (init rows af) :=
  .of_pars (fun _ => .clean rfl nofun nofun) nofun nofun

theorem inv_step {tracked : String → Bool} {st : St} (h : Inv st) (op : Op)
    (g : Guard tracked st op) : Inv (step tracked st op).1 := by
  have ha := fun p => inv_access h p
  cases op <;> dsimp only [step]
  case access p => exact ha p
  case mutp p m c r =>
    split
    · next v hv => exact inv_mutVal (ha p) v m c r (g v hv)
    · exact ha p
  case hold p =>
    split
    · next v hv => exact inv_hold (ha p) ((ha p).wfCur p v hv)
    · exact ha p
  case mutv hd m c r =>
    split
    · next v hv => exact inv_mutVal h v m c r (g v hv)
    · exact h
  case setPlain p c => exact inv_setPlain h p c
  case setNone p => exact inv_setAttrRef h p .none nofun
  case setVal p hd =>
    split
    · next v hv =>
      exact inv_setAttrRef h p (.ref v) fun w e => Cur.ref.inj e ▸ h.wfH v (List.mem_of_getElem? hv)
    · exact h
  case flush => exact inv_flush h
  case commit => exact inv_commit h
  case rollback => exact inv_rollback h
  case expire p => exact inv_expire h p
  case expireAttr p => exact inv_expireAttr h p
  case refresh p => exact inv_refresh h p
  case refreshAttr p => exact inv_refreshAttr h p
  case refreshOther p => exact inv_autoflush h
  case pickle p => exact inv_pickleP h p
  case reget p => exact inv_reget h p

theorem inv_run {tracked : String → Bool} :
    ∀ (ops : List Op) (st : St), Inv st → GuardedRun tracked st ops → Inv (run tracked st ops)
  | [], _, h, _ => h
  | op :: ops, _, h, g => inv_run ops _ (inv_step h op g.1) g.2

/-- **flush_stores_current**: in a state satisfying the invariant, after `flush` the row
    of every parent whose attribute is loaded holds exactly the in-memory value
    (`c = none` is Python `None` / SQL NULL). -/
theorem flush_stores_current {st : St} (h : Inv st) (p : Nat) (c : Option Content)
    (hm : memOf (flush st) p = some c) : ((flush st).pars p).db = c :=
  -- in `flush st` nothing is left in committed_state: there `flushDb` is the row (`flushDb_clean`),
  -- and `flushDb_eq`, for the invariant of `flush st`, comes down to its clean clauses
  have ho : ((flush st).pars p).orig = .absent := flushPar_orig (h.modOrig p)
  (flushDb_clean ho).symm.trans
    (flushDb_eq (st := flush st) (x := (flush st).pars p) ((inv_flush h).par p) hm)

/-- flush never changes a loaded in-memory value (it may load an expired one) -/
theorem flush_keeps_memory {st : St} (h : Inv st) (p : Nat) (c : Option Content)
    (hm : memOf st p = some c) : memOf (flush st) p = some c := by
  unfold memOf at hm ⊢
  rw [flush_pars, flushPar_cur fun e => by rw [e] at hm; cases hm]
  cases hx : (st.pars p).cur <;> rw [hx] at hm
  case ref v => rwa [contentOfCur, flush_vals_old st v (h.wfCur p v hx)]
  all_goals exact hm

/-- **run_flush_stores_current**: from the initial state (all parents persistent, any
    rows, autoflush on or off), after ANY guarded operation sequence followed by a
    flush, stored value = in-memory value for every loaded attribute, and the flush did
    not alter what was in memory. -/
theorem run_flush_stores_current (tracked : String → Bool) (rows : List (Option Content))
    (af : Bool) (ops : List Op) (g : GuardedRun tracked (init rows af) ops) (p : Nat)
    (c : Option Content) (hm : memOf (run tracked (init rows af) ops) p = some c) :
    ((flush (run tracked (init rows af) ops)).pars p).db = c ∧
      memOf (flush (run tracked (init rows af) ops)) p = some c := by
  have hI := inv_run ops _ (inv_init rows af) g
  have hk := flush_keeps_memory hI p c hm
  exact ⟨flush_stores_current hI p c hk, hk⟩

/-- **commit_reload_roundtrip**: commit (flush, expire everything), then touching the
    attribute reloads exactly the value that was in memory before the commit, and the
    reloaded value object is linked to its parent again. -/
theorem commit_reload_roundtrip {st : St} (h : Inv st) (p : Nat) (c : Option Content)
    (hm : memOf st p = some c) :
    memOf (access (commit st) p) p = some c ∧
      ∀ v, ((access (commit st) p).pars p).cur = .ref v →
        p ∈ ((access (commit st) p).vals v).parents := by
  refine ⟨?_, (inv_access (inv_commit h) p).linked p⟩
  -- after commit everything is expired, clean and unmodified: access = autoflush (which does
  -- not touch an unmodified state) + load
  have hdb : ((autoflush (commit st)).pars p).db = ((flush st).pars p).db := by
    unfold autoflush
    split
    · have hm : ¬ ((commit st).pars p).modified = true := Bool.false_ne_true
      rw [flush_pars, flushPar_unmodified hm]
      -- `commit` is `expireAll` after `flush`; `expireObj` leaves `db` alone
      rfl
    · rfl
  show memOf (loadExpired (autoflush (commit st)) p) p = some c
  rw [memOf_loadExpired, hdb, flush_stores_current h p c (flush_keeps_memory h p c hm)]

/-- **mutation_marks_modified**: a call of a tracked method that does not raise, on a
    value none of whose linked parents is expired, leaves EVERY parent currently holding
    that value flagged (`committed_state[key] = NO_VALUE`, i.e. the parent is dirty and
    the next flush writes the value unconditionally) and reports no error. -/
theorem mutation_marks_modified {tracked : String → Bool} {st : St} (h : Inv st) (v : Nat)
    (m : String) (c : Content) (ht : tracked m = true)
    (hna : ∀ q, q ∈ (st.vals v).parents → (st.pars q).cur ≠ .absent) :
    (mutVal tracked st v m c false).2 = .ok ∧
      ∀ p, (st.pars p).cur = .ref v → ((mutVal tracked st v m c false).1.pars p).orig = .noValue := by
  have a := changed_all (st.vals v).parents (putVal st v { st.vals v with content := c }) hna
  rw [mutVal_eq]
  simp only [ht, Bool.not_false, Bool.and_self, if_true, a.1]
  exact ⟨trivial, fun p hp => a.2 p (h.linked p v hp)⟩

theorem flagged_is_written (st : St) (p : Nat) (c : Option Content)
    (ho : (st.pars p).orig = .noValue) (hmod : (st.pars p).modified = true)
    (hm : memOf st p = some c) : ((flush st).pars p).db = c :=
  -- the flush writes the UPDATE decision, and against NO_VALUE that is the current value
  (flushPar_db fun _ => hmod).trans (flushDb_noValue ho hm)

open SaVerif.Gen.MutableTable in
/-- **every_mutator_flags**: every method of dict / list / set that probing shows to
    mutate in place is overridden in `Mutable<Type>` and its override unconditionally
    reaches `self.changed()` — decided over the table regenerated from the working
    tree on every run.  Columns of a row: `.1` base type, `.2.1` method, `.2.2.1` mutates in place,
    `.2.2.2.1` overridden, `.2.2.2.2` the override reaches `changed()`. -/
theorem every_mutator_flags :
    ∀ r ∈ rows, r.2.2.1 = true → (r.2.2.2.1 = true ∧ r.2.2.2.2 = true) := by
  decide +kernel

open SaVerif.Gen.MutableTable in
/-- no untracked row shares its (type, method) key with a mutator, so the driver's lookup, which
    takes the first row with the key, answers `true` on every mutator -/
theorem untracked_not_mutator :
    ∀ r' ∈ rows, r'.2.2.2.2 = false → ∀ r ∈ rows, r.2.2.1 = true → ¬(r'.1 = r.1 ∧ r'.2.1 = r.2.1) := by
  decide +kernel

open SaVerif.Gen.MutableTable in
/-- the table is not trivially small: it knows the classic mutators of each type -/
theorem table_covers_core :
    (["__setitem__", "__delitem__", "clear", "pop", "popitem", "setdefault", "update", "__ior__"].all
        (fun m => rows.any (fun r => r.1 == "dict" && r.2.1 == m && r.2.2.1))) = true ∧
    (["__setitem__", "__delitem__", "append", "extend", "insert", "pop", "remove", "clear", "sort",
      "reverse", "__iadd__", "__imul__"].all
        (fun m => rows.any (fun r => r.1 == "list" && r.2.1 == m && r.2.2.1))) = true ∧
    (["add", "remove", "discard", "pop", "clear", "update", "intersection_update",
      "difference_update", "symmetric_difference_update", "__ior__", "__iand__", "__ixor__",
      "__isub__"].all
        (fun m => rows.any (fun r => r.1 == "set" && r.2.1 == m && r.2.2.1))) = true := by
  decide +kernel

/-- **table_guard**: for the real classes the `tracked` conjunct of the guard comes from the
    table: a call of a method that mutates (per table), that does not
    raise, on a value with no expired linked parent and no unlinked rememberer, is
    guarded. -/
theorem table_guard (kind : String) (st : St) (v : Nat) (m : String) (c : Content)
    (hrow : ∃ r ∈ SaVerif.Gen.MutableTable.rows, r.1 = kind ∧ r.2.1 = m ∧ r.2.2.1 = true)
    (hna : ∀ q, q ∈ (st.vals v).parents → (st.pars q).cur ≠ .absent)
    (hal : ∀ q, (st.pars q).orig = .ref v → q ∈ (st.vals v).parents) :
    MutGuard (SaVerif.Gen.MutableTable.tracked kind) st v m c false := by
  obtain ⟨r, hr, rfl, rfl, hmu⟩ := hrow
  refine Or.inr ⟨?_, rfl, hna, hal⟩
  unfold Gen.MutableTable.tracked Gen.MutableTable.lookup
  cases hf : List.find? (fun r' => r'.1 == r.1 && r'.2.1 == r.2.1) Gen.MutableTable.rows with
  | none => simpa using List.find?_eq_none.1 hf r hr
  | some r' =>
    have hk := List.find?_some hf
    simp only [Bool.and_eq_true, beq_iff_eq] at hk
    cases ht : r'.2.2.2.2
    · exact absurd hk (untracked_not_mutator r' (List.mem_of_find?_eq_some hf) ht r hr hmu)
    · simpa using ht

/-- a non-trivial guarded run: load, append (tracked), share the value with a second
    parent, mutate through the second parent, flush -/
example :
    let tr : String → Bool := fun _ => true
    let ops := [Op.mutp 0 "append" [1, 2] false, Op.hold 0, Op.setVal 1 0,
                Op.mutp 1 "append" [1, 2, 3] false]
    let st := flush (run tr (init [some [1], some [7]] true) ops)
    (st.pars 0).db = some [1, 2, 3] ∧ (st.pars 1).db = some [1, 2, 3] ∧
      memOf st 0 = some (some [1, 2, 3]) := by
  decide +kernel

/-- the hypotheses of `mutation_marks_modified` / `MutGuard` are satisfiable with a
    content-changing call -/
example :
    let st := access (init [some [1]] true) 0
    MutGuard (fun _ => true) st 0 "append" [1, 2] false ∧ [1, 2] ≠ (st.vals 0).content := by
  refine ⟨Or.inr ⟨rfl, rfl, fun q hq => ?_, fun q hq => ?_⟩, by decide⟩
  · exact nomatch (show q ∈ [] from hq)
  · match q, hq with
    | 0, hq => exact absurd hq (by decide)
    | q + 1, hq => exact nomatch hq

/-- A call that does not reach `changed()` (the method is not tracked, or the builtin raised) on
    the value a clean parent holds is lost.  No invariant is needed, only that the value is
    allocated. -/
theorem unflagged_call_lost {tracked : String → Bool} {st : St} {p v : Nat} {m : String}
    {raised : Bool} (c : Content) (hm : (tracked m && !raised) = false)
    (hc : (st.pars p).cur = .ref v) (ho : (st.pars p).orig = .absent) (hv : v < st.nv) :
    memOf (flush (mutVal tracked st v m c raised).1) p = some (some c) ∧
      ((flush (mutVal tracked st v m c raised).1).pars p).db = (st.pars p).db := by
  -- the call leaves the new content in place and flags nobody
  have key : (mutVal tracked st v m c raised).1 = putVal st v { st.vals v with content := c } := by
    rw [mutVal_eq, hm]
    rfl
  rw [key]
  generalize h1 : putVal st v _ = st1
  have hp : st1.pars = st.pars := h1 ▸ rfl
  constructor
  · unfold memOf
    rw [flush_pars, flushPar_cur (by rw [hp, hc]; nofun), hp, hc, contentOfCur,
      flush_vals_old st1 v (h1 ▸ hv), ← h1, putVal_vals, if_pos rfl]
  · rw [flush_pars, ← hp, flushPar_db fun o => absurd (hp ▸ ho) o]
    exact flushDb_clean (hp ▸ ho)

/-- the full-strength statement without the `tracked` guard is false:
    `∀ tracked ops, db-after-flush = memory` fails for any method that does not reach
    `changed()` — one call, one flush. -/
theorem untracked_mutator_counterexample (tracked : String → Bool) (m : String)
    (hm : tracked m = false) :
    let st := flush (run tracked (init [some [1]] false) [Op.mutp 0 m [1, 2] false])
    memOf st 0 = some (some [1, 2]) ∧ (st.pars 0).db = some [1] :=
  unflagged_call_lost (st := access (init [some [1]] false) 0) (p := 0) (v := 0) [1, 2]
    (by rw [hm]; rfl) rfl rfl (Nat.lt_succ_self 0)

/-- a builtin that raises after a partial mutation (`d.update([("a", 1), ("b",)])`,
    `s.update([1, []])`, `l.extend(gen)` …) skips `changed()`: the change is lost even
    though the method is tracked. -/
theorem partial_exception_counterexample :
    let st := flush (run (fun _ => true) (init [some [1]] false) [Op.mutp 0 "extend" [1, 2] true])
    memOf st 0 = some (some [1, 2]) ∧ (st.pars 0).db = some [1] :=
  unflagged_call_lost (st := access (init [some [1]] false) 0) (p := 0) (v := 0) [1, 2]
    rfl rfl rfl (Nat.lt_succ_self 0)

/-- committed_state keeps a live reference: `v = obj.data; obj.data = [1, 2];
    v.append(2); flush` — the replaced value now equals the new one, `is_equal` holds,
    no UPDATE is emitted and the assignment is lost. -/
theorem committed_alias_counterexample :
    let ops := [Op.hold 0, Op.setPlain 0 [1, 2], Op.mutv 0 "append" [1, 2] false]
    let st := flush (run (fun _ => true) (init [some [1]] false) ops)
    memOf st 0 = some (some [1, 2]) ∧ (st.pars 0).db = some [1] := by
  decide +kernel

/-- the same through legitimate operations only: a value shared by two parents, one
    parent replaces it, the other mutates it to the same content. -/
theorem shared_alias_counterexample :
    let ops := [Op.hold 1, Op.setVal 0 0, Op.flush, Op.setPlain 0 [7, 2],
                Op.mutp 1 "append" [7, 2] false]
    let st := flush (run (fun _ => true) (init [some [1], some [7]] false) ops)
    memOf st 0 = some (some [7, 2]) ∧ (st.pars 0).db = some [7] := by
  decide +kernel

/-- `changed()` aborts at the first expired holder: parent 0 and 1 share a value,
    parent 0 is expired, a mutation through parent 1 raises InvalidRequestError after
    the content changed and parent 1 is never flagged. -/
theorem expired_coholder_counterexample :
    let ops := [Op.hold 0, Op.setVal 1 0, Op.flush, Op.expire 0]
    let st1 := run (fun _ => true) (init [some [1], some [7]] false) ops
    let r := step (fun _ => true) st1 (Op.mutp 1 "append" [1, 2] false)
    r.2 = Outcome.errInvalidRequest ∧
      memOf (flush r.1) 1 = some (some [1, 2]) ∧ ((flush r.1).pars 1).db = some [1] := by
  decide +kernel

end SaVerif.Props.C49
