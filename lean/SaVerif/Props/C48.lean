import SaVerif.Model.Weakref
/-!
# C48 — Pending changes survive the application dropping its references

Theorems about M-ORM/weakref (`SaVerif/Model/Weakref.lean`).

`stepGc` is the Session as CPython runs it: after every operation every object that
neither the application nor the Session (`_strong_obj`, `_new`, `_deleted`) holds is
gone from the identity map.  `step` is the reference semantics in which nothing is
ever collected.

For every history WITHOUT a rollback both semantics produce the same outputs (values read,
flush/commit results; only `len(identity_map)` may differ) and the same database, by induction
over the operation list through the simulation `Sim`: every change is flushed no matter which
references were dropped and what was collected in between.  With a rollback the full statement
is false: the transaction remembers the instances it inserted only weakly (finding).  Under
either semantics (`runB gc`) a savepoint holds the database with every earlier change flushed
into it, and rolling it back restores that; what is read afterwards does depend on collection
(`savepoint_stale_counterexample`).
-/
namespace SaVerif.Props.C48
open SaVerif.Weakref

/-- an identity-map entry has a row (so that the reload of a collected twin finds one); clean, it
    caches nothing or the row's value; modified, it has a value to write -/
def InvSlot (o : Option Obj) (row : Option Int) : Prop :=
  ∀ ob, o = some ob →
    (ob.mod = false → ob.val = none ∨ ob.val = row) ∧ (ob.mod = true → ob.val.isSome = true) ∧
    row.isSome = true

def Inv (s : St) : Prop := ∀ k, InvSlot (s.objs k) (s.db k)

theorem invSlot_none (row : Option Int) : InvSlot none row := fun _ h => nomatch h

theorem invSlot_some {ob : Obj} {row : Option Int} (hr : row.isSome = true)
    (h1 : ob.mod = false → ob.val = none ∨ ob.val = row)
    (h2 : ob.mod = true → ob.val.isSome = true) : InvSlot (some ob) row := by
  intro _ he
  cases he
  exact ⟨h1, h2, hr⟩

theorem invSlot_of_val_mod {ob ob' : Obj} {row : Option Int} (h : InvSlot (some ob) row)
    (hv : ob'.val = ob.val) (hm : ob'.mod = ob.mod) : InvSlot (some ob') row := by
  obtain ⟨h1, h2, h3⟩ := h ob rfl
  rw [← hv, ← hm] at h1 h2
  exact invSlot_some h3 h1 h2

theorem invSlot_expired {ob ob' : Obj} {row : Option Int} (h : InvSlot (some ob) row)
    (hv : ob'.val = none) (hm : ob'.mod = false) : InvSlot (some ob') row :=
  invSlot_some (h ob rfl).2.2 (fun _ => .inl hv) (fun e => by rw [hm] at e; cases e)

theorem invSlot_map_expire {o : Option Obj} {row : Option Int} (h : InvSlot o row) :
    InvSlot (o.map fun ob => { ob with val := none, mod := false }) row := by
  cases o with
  | none => exact invSlot_none _
  | some ob => exact invSlot_expired h rfl rfl

theorem invSlot_ite {c : Prop} [Decidable c] {a b : Slot × Out} {row : Option Int}
    (ha : InvSlot a.1.2 row) (hb : InvSlot b.1.2 row) : InvSlot (if c then a else b).1.2 row :=
  iteInduction (motive := fun r : Slot × Out => InvSlot r.1.2 row) (fun _ => ha) (fun _ => hb)

/-- the twin of a collected entry is determined up to its value: clean, unreferenced, untouched -/
abbrev twin (val : Option Int) : Obj := ⟨val, false, false, false, false⟩

/-- entry of the collected identity map vs. the uncollected one -/
def Rel (og os : Option Obj) : Prop := og = os ∨ ∃ val, og = none ∧ os = some (twin val)

/-- says nothing of `fresh`, `spFresh`, `spDirty`, what the transaction and the savepoint remember
    of the instances they touched: `collect` clears them for a collected instance, and only
    `rollback` and `rollbackNested` let them reach another field, which is why `Calm` has neither -/
structure Sim (g s : St) : Prop where
  db : g.db = s.db
  saved : g.saved = s.saved
  new : g.new = s.new
  txn : g.txn = s.txn
  objs : ∀ k, Rel (g.objs k) (s.objs k)
  sp : g.sp = s.sp

theorem rel_refl (o : Option Obj) : Rel o o := Or.inl rfl

theorem rel_twin (val : Option Int) : Rel none (some (twin val)) := .inr ⟨val, rfl, rfl⟩

theorem eq_twin {o : Obj} (ha : o.app = false) (hs : strong o = false) : o = twin o.val := by
  obtain ⟨val, mod, del, app, touched⟩ := o
  unfold strong at hs
  simp only [Bool.or_eq_false_iff] at hs
  obtain ⟨⟨rfl, rfl⟩, rfl⟩ := hs
  cases ha
  rfl

/-- outputs agree up to the size of the identity map -/
def ObsEq (a b : Out) : Prop := a = b ∨ ∃ x y, a = .num x ∧ b = .num y

def SlotSim (rg rs : Slot × Out) : Prop := rg.1.1 = rs.1.1 ∧ rg.2 = rs.2 ∧ Rel rg.1.2 rs.1.2

structure SlotOk (row : Option Int) (f : Option (Int × Bool) → Option Obj → Slot × Out) : Prop where
  inv : ∀ nw o, InvSlot o row → InvSlot (f nw o).1.2 row
  twin : ∀ nw val, InvSlot (some (twin val)) row → SlotSim (f nw none) (f nw (some (twin val)))

/-- change a persistent object the application holds, skip otherwise -/
def guardedSlot (F : Obj → Obj) (out : Out) (nw : Option (Int × Bool)) (o : Option Obj) :
    Slot × Out :=
  match nw, o with
  | none, some ob => if ob.app && !ob.del then ((nw, some (F ob)), out) else ((nw, o), .skip)
  | _, _ => ((nw, o), .skip)

theorem delSlot_eq : delSlot = guardedSlot (fun ob => { ob with del := true, app := false }) .done := rfl

theorem expSlot_eq :
    expSlot = guardedSlot (fun ob => { ob with val := none, mod := false, touched := false }) .done := rfl

theorem expValSlot_eq : expValSlot = guardedSlot (fun ob => { ob with val := none, mod := false }) .done := rfl

theorem setDeadSlot_eq : setDeadSlot = guardedSlot (fun ob => { ob with touched := true }) .raised := rfl

theorem expIdSlot_eq : expIdSlot = guardedSlot (fun ob => ob) .done := by
  funext nw o
  cases nw <;> cases o <;> rfl

theorem slotOk_guarded {row : Option Int} (F : Obj → Obj) (out : Out)
    (hF : ∀ ob, InvSlot (some ob) row → InvSlot (some (F ob)) row) :
    SlotOk row (guardedSlot F out) where
  inv nw o h := by
    cases nw with
    | some p => exact h
    | none =>
      cases o with
      | none => exact h
      | some ob =>
        exact invSlot_ite (hF ob h) h
  twin nw val _ := by cases nw <;> exact ⟨rfl, rfl, rel_twin val⟩

theorem slotOk_get (row : Option Int) : SlotOk row fun nw o => getSlot nw o row where
  inv nw o h := by
    cases nw with
    | some _ => exact h
    | none =>
      cases o with
      | some ob =>
        refine invSlot_ite h ?_
        cases hv : ob.val with
        | some v => exact invSlot_of_val_mod h hv.symm rfl
        | none =>
          cases row with
          | none => exact invSlot_none _
          | some v => exact invSlot_some rfl (fun _ => .inr rfl) (fun _ => rfl)
      | none =>
        cases row with
        | none => exact invSlot_none _
        | some v => exact invSlot_some rfl (fun _ => .inr rfl) (fun _ => rfl)
  twin nw val hi := by
    cases nw with
    | some p => exact ⟨rfl, rfl, rel_twin val⟩
    | none =>
      cases val with
      | some v =>
        -- cached value = row (coherence): the reload of the collected twin returns the same
        obtain h | h := (hi _ rfl).1 rfl
        · cases h
        · cases h; exact ⟨rfl, rfl, .inl rfl⟩
      | none => cases row <;> exact ⟨rfl, rfl, .inl rfl⟩

theorem slotOk_set {row : Option Int} (v : Int) : SlotOk row (setSlot v) where
  inv nw o h := by
    cases nw with
    | some p =>
      exact invSlot_ite h h
    | none =>
      cases o with
      | none => exact h
      | some ob =>
        exact invSlot_ite (invSlot_some (h ob rfl).2.2 (fun e => nomatch e) (fun _ => rfl)) h
  twin nw val _ := by
    cases nw with
    | none => exact ⟨rfl, rfl, rel_twin val⟩
    | some p =>
      obtain ⟨w, a⟩ := p
      cases a <;> exact ⟨rfl, rfl, rel_twin val⟩

/-- an entry nobody holds is as free for a new object as no entry -/
theorem slotOk_add {row : Option Int} (v : Int) : SlotOk row (addSlot v) where
  inv _ _ h := invSlot_ite h h
  twin nw val _ := by cases nw <;> exact ⟨rfl, rfl, rel_twin val⟩

theorem slotOk_drop {row : Option Int} : SlotOk row dropSlot where
  inv nw o h := by
    cases nw with
    | some p => exact h
    | none =>
      cases o with
      | none => exact h
      | some ob => exact invSlot_of_val_mod h rfl rfl
  twin nw val _ := by cases nw <;> exact ⟨rfl, rfl, rel_twin val⟩

theorem invSlot_flush (nw : Option (Int × Bool)) (o : Option Obj) (row : Option Int)
    (h : InvSlot o row) : InvSlot (flushObj nw o) (flushRow nw o row) := by
  cases nw with
  | some p => exact invSlot_some rfl (fun _ => .inr rfl) (fun e => nomatch e)
  | none =>
    cases o with
    | none => exact invSlot_none _
    | some ob =>
      obtain ⟨h1, h2, h3⟩ := h ob rfl
      dsimp only [flushObj, flushRow]
      by_cases hd : ob.del = true
      · rw [if_pos hd]; exact invSlot_none _
      · rw [if_neg hd, if_neg hd]
        by_cases hm : ob.mod = true
        · rw [if_pos hm]
          cases row with
          | none => cases h3
          | some r => exact invSlot_some (h2 hm) (fun _ => .inr rfl) (fun e => nomatch e)
        · rw [if_neg hm]
          exact invSlot_some h3 (fun _ => h1 (Bool.eq_false_iff.2 hm)) (fun e => nomatch e)

theorem doFlush_cases (c : Cfg) (s s1 : St) (h : doFlush c s = some s1) :
    (hasWork c s = false ∧ s1 = s) ∨
    (hasWork c s = true ∧
     s1.db = (fun k => if k < c.n then flushRow (s.new k) (s.objs k) (s.db k) else s.db k) ∧
     s1.objs = (fun k => if k < c.n then flushObj (s.new k) (s.objs k) else s.objs k) ∧
     s1.new = (fun k => if k < c.n then none else s.new k) ∧
     s1.saved = (match s.saved with
                 | some x => some x
                 | none => some s.db) ∧
     s1.sp = s.sp ∧ s1.txn = s.txn) := by
  unfold doFlush at h
  cases hw : hasWork c s with
  | false =>
    rw [hw, if_pos (show (!false) = true from rfl)] at h
    exact .inl ⟨rfl, (Option.some.inj h).symm⟩
  | true =>
    rw [hw, if_neg (show ¬(!true) = true by decide)] at h
    by_cases hd : (anyBelow c.n (dupAt s) || anyBelow c.n (goneAt s)) = true
    · rw [if_pos hd] at h; cases h
    · rw [if_neg hd] at h
      cases h
      exact .inr ⟨rfl, rfl, rfl, rfl, rfl, rfl, rfl⟩

theorem inv_doFlush (c : Cfg) (s s1 : St) (hi : Inv s) (h : doFlush c s = some s1) : Inv s1 := by
  rcases doFlush_cases c s s1 h with ⟨_, rfl⟩ | ⟨_, hdb, hobjs, _⟩
  · exact hi
  · intro k
    rw [hdb, hobjs]
    by_cases hk : k < c.n
    · simp only [hk, if_true]; exact invSlot_flush _ _ _ (hi k)
    · simp only [hk, if_false]; exact hi k

theorem inv_init : Inv St.init := fun _ => invSlot_none _

/-- the operation neither is nor triggers a rollback (explicit `rollback()`, or a flush that
    fails) in the reference semantics -/
def Calm (c : Cfg) (s : St) (op : Op) : Prop :=
  op ≠ .rollback ∧ op ≠ .rollbackNested ∧ (step c s op).2 ≠ .integrity

theorem step_live {c : Cfg} {s : St} (h : live c s = true) (op : Op) :
    step c s op = stepLive c s op := if_pos h

theorem step_dead {c : Cfg} {s : St} (h : live c s = false) (op : Op) :
    step c s op = stepDead c s op := if_neg (by rw [h]; decide)

theorem rel_touched {og os : Option Obj} (h : Rel og os) : touchedOpt og = touchedOpt os := by
  obtain rfl | ⟨val, rfl, rfl⟩ := h <;> rfl

theorem rel_strong {og os : Option Obj} (h : Rel og os) : strongOpt og = strongOpt os := by
  obtain rfl | ⟨val, rfl, rfl⟩ := h <;> rfl

theorem collect_objs (st : St) (k : Nat) : (collect st).objs k =
    match st.objs k with
    | some o => if o.app || strong o then some o else none
    | none => none := rfl

theorem sim_collect {g s : St} (hs : Sim g s) : Sim (collect g) s := by
  refine ⟨hs.db, hs.saved, hs.new, hs.txn, fun k => ?_, hs.sp⟩
  rw [collect_objs]
  rcases hs.objs k with h | ⟨val, h, ho⟩
  · rw [← h]
    cases g.objs k with
    | none => exact rel_refl _
    | some o =>
      dsimp only
      by_cases hc : (o.app || strong o) = true
      · rw [if_pos hc]; exact rel_refl _
      · rw [if_neg hc]
        rw [Bool.or_eq_true, not_or, Bool.not_eq_true, Bool.not_eq_true] at hc
        rw [eq_twin hc.1 hc.2]
        exact rel_twin _
  · rw [h, ho]; exact rel_twin val

theorem rel_flushRow (nw : Option (Int × Bool)) {og os : Option Obj} (row : Option Int) (h : Rel og os) :
    flushRow nw og row = flushRow nw os row := by
  obtain rfl | ⟨val, rfl, rfl⟩ := h
  · rfl
  · cases nw <;> rfl

theorem rel_flushObj (nw : Option (Int × Bool)) {og os : Option Obj} (h : Rel og os) :
    Rel (flushObj nw og) (flushObj nw os) := by
  obtain rfl | ⟨val, rfl, rfl⟩ := h
  · exact rel_refl _
  · cases nw with
    | some p => exact rel_refl _
    | none => exact rel_twin val

theorem sim_doFlush (c : Cfg) {g s : St} (hs : Sim g s) :
    (doFlush c g = none ∧ doFlush c s = none) ∨
    ∃ g1 s1, doFlush c g = some g1 ∧ doFlush c s = some s1 ∧ Sim g1 s1 := by
  have e0 : hasWork c g = hasWork c s := by
    unfold hasWork
    congr 1
    funext k
    rw [hs.new, rel_strong (hs.objs k)]
  have e1 : dupAt g = dupAt s := by funext k; unfold dupAt; rw [hs.new, hs.db]
  have e2 : goneAt g = goneAt s := by
    funext k; unfold goneAt; rw [hs.new, hs.db, rel_strong (hs.objs k)]
  unfold doFlush
  rw [e0, e1, e2]
  cases hasWork c s with
  | false => exact .inr ⟨g, s, rfl, rfl, hs⟩
  | true =>
    cases (anyBelow c.n (dupAt s) || anyBelow c.n (goneAt s)) with
    | true => exact .inl ⟨rfl, rfl⟩
    | false =>
      refine .inr ⟨_, _, rfl, rfl, ⟨?_, ?_, ?_, hs.txn, fun k => ?_, hs.sp⟩⟩
      · funext k
        dsimp only
        rw [hs.new, hs.db, rel_flushRow _ _ (hs.objs k)]
      · dsimp only; rw [hs.saved, hs.db]
      · dsimp only; rw [hs.new]
      · dsimp only
        rw [hs.new]
        by_cases hk : k < c.n
        · rw [if_pos hk, if_pos hk]; exact rel_flushObj _ (hs.objs k)
        · rw [if_neg hk, if_neg hk]; exact hs.objs k

theorem rel_map_expire {og os : Option Obj} (h : Rel og os) :
    Rel (og.map (fun o => { o with val := none, mod := false })) (os.map (fun o => { o with val := none, mod := false })) := by
  obtain rfl | ⟨val, rfl, rfl⟩ := h
  · exact rel_refl _
  · exact rel_twin none

structure StepOk (rg rs : St × Out) : Prop where
  sim : Sim rg.1 rs.1
  inv : Inv rs.1
  obs : ObsEq rg.2 rs.2

theorem putSlot_new (st : St) (k : Nat) (r : Slot × Out) (j : Nat) :
    (putSlot st k r).1.new j = if j = k then r.1.1 else st.new j := rfl

theorem putSlot_objs (st : St) (k : Nat) (r : Slot × Out) (j : Nat) :
    (putSlot st k r).1.objs j = if j = k then r.1.2 else st.objs j := rfl

theorem stepOk_slotOp {g s : St} (hs : Sim g s) (hi : Inv s) (k : Nat)
    {f : Option (Int × Bool) → Option Obj → Slot × Out} (hf : SlotOk (s.db k) f) :
    StepOk (putSlot g k (f (g.new k) (g.objs k))) (putSlot s k (f (s.new k) (s.objs k))) := by
  have h : SlotSim (f (s.new k) (g.objs k)) (f (s.new k) (s.objs k)) := by
    obtain e | ⟨val, eg, es⟩ := hs.objs k
    · rw [e]; exact ⟨rfl, rfl, rel_refl _⟩
    · rw [eg, es]; exact hf.twin _ val (es ▸ hi k)
  rw [hs.new]
  obtain ⟨h1, h2, h3⟩ := h
  refine ⟨⟨hs.db, hs.saved, ?_, hs.txn, fun j => ?_, hs.sp⟩, fun j => ?_, .inl h2⟩
  · funext j
    rw [putSlot_new, putSlot_new, h1, hs.new]
  · rw [putSlot_objs, putSlot_objs]
    by_cases hj : j = k
    · rw [if_pos hj, if_pos hj]; exact h3
    · rw [if_neg hj, if_neg hj]; exact hs.objs j
  · rw [putSlot_objs]
    by_cases hj : j = k
    · rw [if_pos hj, hj]; exact hf.inv _ _ (hi k)
    · rw [if_neg hj]; exact hi j

/-- the common form of the operations that flush first (`flush`, `commit`, `begin_nested`,
    release of the savepoint) -/
def flushThen (c : Cfg) (s fail : St) (G : St → St) : St × Out :=
  match doFlush c s with
  | none => (fail, .integrity)
  | some s1 => (G s1, .done)

theorem stepLive_flush (c : Cfg) (s : St) :
    stepLive c s .flush = flushThen c s (flushFailed s) id := rfl

theorem stepLive_commit (c : Cfg) (s : St) :
    stepLive c s .commit = flushThen c s (flushFailed s) fun s1 =>
      { s1 with saved := none, txn := false, fresh := fun _ => false,
                sp := none, spFresh := fun _ => false, spDirty := fun _ => false,
                objs := if c.eoc then (fun k => (s1.objs k).map (fun o => { o with val := none, mod := false })) else s1.objs } := rfl

theorem stepLive_beginNested {c : Cfg} {s : St} (h : s.sp = none) :
    stepLive c s .beginNested = flushThen c s (rolledBack s) fun s1 =>
      { s1 with sp := some s1.db, spFresh := fun _ => false, spDirty := fun _ => false } :=
  if_neg (by rw [h]; exact Bool.false_ne_true)

theorem stepLive_releaseNested {c : Cfg} {s : St} {d : DB} (h : s.sp = some d) :
    stepLive c s .releaseNested = flushThen c s (flushFailed s) fun s1 =>
      { s1 with sp := none, spFresh := fun _ => false, spDirty := fun _ => false } := by
  dsimp only [stepLive]
  rw [h]
  rfl

theorem flushThen_cases {c : Cfg} {s fail : St} {G : St → St}
    (hni : (flushThen c s fail G).2 ≠ .integrity) :
    ∃ s1, doFlush c s = some s1 ∧ flushThen c s fail G = (G s1, .done) := by
  unfold flushThen at hni ⊢
  cases hf : doFlush c s with
  | none => rw [hf] at hni; exact absurd rfl hni
  | some s1 => exact ⟨s1, rfl, rfl⟩

theorem stepOk_flushThen {c : Cfg} {g s fg fs : St} {G : St → St} (hs : Sim g s) (hi : Inv s)
    (hG : ∀ g1 s1, Sim g1 s1 → Inv s1 → Sim (G g1) (G s1) ∧ Inv (G s1))
    (hni : (flushThen c s fs G).2 ≠ .integrity) :
    StepOk (flushThen c g fg G) (flushThen c s fs G) := by
  obtain ⟨s1, hf, _⟩ := flushThen_cases hni
  obtain ⟨_, h⟩ | ⟨g1, s1, hg, hs', h1⟩ := sim_doFlush c hs
  · rw [h] at hf; cases hf
  · unfold flushThen
    rw [hg, hs']
    obtain ⟨a, b⟩ := hG _ _ h1 (inv_doFlush c s s1 hi hs')
    exact ⟨a, b, .inl rfl⟩

theorem stepOk_stepLive (c : Cfg) {g s : St} (op : Op) (hs : Sim g s) (hi : Inv s)
    (hnr : op ≠ .rollback) (hnn : op ≠ .rollbackNested) (hni : (stepLive c s op).2 ≠ .integrity) :
    StepOk (stepLive c g op) (stepLive c s op) := by
  cases op with
  | get k =>
    dsimp only [stepLive]
    rw [hs.db]
    exact stepOk_slotOp hs hi k (slotOk_get (s.db k))
  | set k v => exact stepOk_slotOp hs hi k (slotOk_set v)
  | del k =>
    exact stepOk_slotOp hs hi k
      (delSlot_eq ▸ slotOk_guarded _ _ fun _ h => invSlot_of_val_mod h rfl rfl)
  | add k v => exact stepOk_slotOp hs hi k (slotOk_add v)
  | drop k => exact stepOk_slotOp hs hi k slotOk_drop
  | expire k =>
    exact stepOk_slotOp hs hi k (expSlot_eq ▸ slotOk_guarded _ _ fun _ h => invSlot_expired h rfl rfl)
  | expireVal k =>
    exact stepOk_slotOp hs hi k
      (expValSlot_eq ▸ slotOk_guarded _ _ fun _ h => invSlot_expired h rfl rfl)
  | expireId k => exact stepOk_slotOp hs hi k (expIdSlot_eq ▸ slotOk_guarded _ _ fun _ h => h)
  | begin => exact ⟨hs, hi, .inl rfl⟩
  | beginNested =>
    cases hsp : s.sp with
    | some d =>
      dsimp only [stepLive]
      rw [hs.sp, hsp]
      exact ⟨hs, hi, .inl rfl⟩
    | none =>
      rw [stepLive_beginNested hsp] at hni ⊢
      rw [stepLive_beginNested (hs.sp.trans hsp)]
      exact stepOk_flushThen hs hi
        (fun _ _ h i => ⟨⟨h.db, h.saved, h.new, h.txn, h.objs, congrArg some h.db⟩, i⟩) hni
  | rollbackNested => exact absurd rfl hnn
  | releaseNested =>
    cases hsp : s.sp with
    | none =>
      dsimp only [stepLive]
      rw [hs.sp, hsp]
      exact ⟨hs, hi, .inl rfl⟩
    | some d =>
      rw [stepLive_releaseNested hsp] at hni ⊢
      rw [stepLive_releaseNested (hs.sp.trans hsp)]
      exact stepOk_flushThen hs hi
        (fun _ _ h i => ⟨⟨h.db, h.saved, h.new, h.txn, h.objs, rfl⟩, i⟩) hni
  | flush =>
    rw [stepLive_flush] at hni ⊢
    rw [stepLive_flush]
    exact stepOk_flushThen hs hi (fun _ _ h i => ⟨h, i⟩) hni
  | commit =>
    rw [stepLive_commit] at hni ⊢
    rw [stepLive_commit]
    refine stepOk_flushThen hs hi
      (fun _ _ h i => ⟨⟨h.db, rfl, h.new, rfl, fun k => ?_, rfl⟩, fun k => ?_⟩) hni
    · cases c.eoc with
      | true => exact rel_map_expire (h.objs k)
      | false => exact h.objs k
    · cases c.eoc with
      | true => exact invSlot_map_expire (i k)
      | false => exact i k
  | rollback => exact absurd rfl hnr
  | len => exact ⟨hs, hi, .inr ⟨_, _, rfl, rfl⟩⟩

theorem stepOk_stepDead (c : Cfg) {g s : St} (op : Op) (hs : Sim g s) (hi : Inv s) :
    StepOk (stepDead c g op) (stepDead c s op) := by
  cases op with
  | set k v =>
    have ht : anyBelow c.n (fun j => touchedOpt (g.objs j)) = anyBelow c.n (fun j => touchedOpt (s.objs j)) := by
      congr 1; funext j; exact rel_touched (hs.objs j)
    dsimp only [stepDead]
    rw [ht]
    cases anyBelow c.n (fun j => touchedOpt (s.objs j)) with
    | true => exact stepOk_slotOp hs hi k (slotOk_set v)
    | false =>
      exact stepOk_slotOp hs hi k
        (setDeadSlot_eq ▸ slotOk_guarded _ _ fun _ h => invSlot_of_val_mod h rfl rfl)
  | drop k => exact stepOk_slotOp hs hi k slotOk_drop
  | begin => exact ⟨⟨hs.db, hs.saved, hs.new, rfl, hs.objs, hs.sp⟩, hi, .inl rfl⟩
  | len => exact ⟨hs, hi, .inr ⟨_, _, rfl, rfl⟩⟩
  | _ => exact ⟨hs, hi, .inl rfl⟩

theorem stepOk_step (c : Cfg) {g s : St} (op : Op) (hs : Sim g s) (hi : Inv s) (hq : Calm c s op) :
    StepOk (step c g op) (step c s op) := by
  obtain ⟨hnr, hnn, hni⟩ := hq
  have hl : live c g = live c s := by unfold live; rw [hs.txn]
  cases hls : live c s with
  | true =>
    rw [step_live hls] at hni ⊢
    rw [step_live (hl.trans hls)]
    exact stepOk_stepLive c op hs hi hnr hnn hni
  | false =>
    rw [step_dead hls, step_dead (hl.trans hls)]
    exact stepOk_stepDead c op hs hi

theorem sim_init : Sim St.init St.init := ⟨rfl, rfl, rfl, rfl, fun _ => rel_refl _, rfl⟩

inductive ObsEqL : List Out → List Out → Prop
  | nil : ObsEqL [] []
  | cons {a b : Out} {as bs : List Out} : ObsEq a b → ObsEqL as bs → ObsEqL (a :: as) (b :: bs)

def CalmRun (c : Cfg) : St → List Op → Prop
  | _, [] => True
  | s, op :: rest => Calm c s op ∧ CalmRun c (step c s op).1 rest

theorem sim_run (c : Cfg) (ops : List Op) : ∀ (g s : St), Sim g s → Inv s → CalmRun c s ops →
    Sim (runGc c g ops) (run c s ops) ∧ ObsEqL (outsGc c g ops) (outs c s ops) := by
  induction ops with
  | nil => intro g s hs _ _; exact ⟨hs, .nil⟩
  | cons op rest ih =>
    intro g s hs hi hc
    obtain ⟨hq, hrest⟩ := hc
    obtain ⟨h1, h2, h3⟩ := stepOk_step c op hs hi hq
    obtain ⟨h4, h5⟩ := ih _ _ (sim_collect h1) h2 hrest
    exact ⟨h4, .cons h3 h5⟩

/-
Full statement (FALSE of the model and of the code, see `gc_unobservable_counterexample`):
  theorem gc_unobservable (c : Cfg) (ops : List Op) :
      ObsEqL (outsGc c St.init ops) (outs c St.init ops)
-/

/-- **gc_unobservable_partial**: for every history without a rollback (no `rollback()`, no
    failing flush), the Session under garbage collection (after every operation) returns
    what the Session in which nothing is ever collected returns — values read, results of
    flush / commit — except for the size of the identity map. -/
theorem gc_unobservable_partial (c : Cfg) (ops : List Op) (hc : CalmRun c St.init ops) :
    ObsEqL (outsGc c St.init ops) (outs c St.init ops) :=
  (sim_run c ops _ _ sim_init inv_init hc).2

/-- **gc_same_db_partial**: and it leaves the same database and the same pending objects:
    no change is lost to a dropped reference. -/
theorem gc_same_db_partial (c : Cfg) (ops : List Op) (hc : CalmRun c St.init ops) :
    (runGc c St.init ops).db = (run c St.init ops).db ∧
    (runGc c St.init ops).new = (run c St.init ops).new :=
  let h := (sim_run c ops _ _ sim_init inv_init hc).1
  ⟨h.db, h.new⟩

/-- the phantom: insert and flush an object, drop it (collected), load the row again,
    roll back.  The transaction only knows the collected instance (`_new` is weak), so the
    re-loaded one survives the rollback; modifying it makes the next flush fail, while the
    Session that kept the first instance alive expunged it and flushes nothing. -/
def phantomOps : List Op :=
  [.add 0 1, .flush, .drop 0, .get 0, .rollback, .len, .set 0 5, .flush]

theorem gc_unobservable_counterexample :
    outsGc ⟨1, false, true⟩ St.init phantomOps =
      [.done, .done, .done, .val (some 1), .done, .num 1, .done, .integrity] ∧
    outs ⟨1, false, true⟩ St.init phantomOps =
      [.done, .done, .done, .val (some 1), .done, .num 0, .skip, .done] := by
  decide +kernel

/-- the stale value: inside a savepoint change an object and flush, drop it (collected), load
    the row again, roll the savepoint back.  The savepoint only knows the collected instance
    (`_dirty` is weak), so the re-loaded one is not expired and keeps the value the rollback
    discarded; the Session that kept the first instance alive expires it and reads the row. -/
def staleOps : List Op :=
  [.add 0 1, .commit, .get 0, .beginNested, .set 0 5, .flush, .drop 0, .get 0, .rollbackNested, .get 0]

theorem savepoint_stale_counterexample :
    outsGc ⟨1, false, true⟩ St.init staleOps =
      [.done, .done, .val (some 1), .done, .done, .done, .done, .val (some 5), .done, .val (some 5)] ∧
    outs ⟨1, false, true⟩ St.init staleOps =
      [.done, .done, .val (some 1), .done, .done, .done, .done, .val (some 5), .done, .val (some 1)] ∧
    (runGc ⟨1, false, true⟩ St.init staleOps).db 0 = some 1 := by
  decide +kernel

/-- **collect_keeps_strong**: a modified or deleted-marked object is never collected,
    and pending objects are untouched -/
theorem collect_keeps_strong (st : St) (k : Nat) (o : Obj) (ho : st.objs k = some o)
    (hs : strong o = true) : (collect st).objs k = some o ∧ (collect st).new = st.new := by
  refine ⟨?_, rfl⟩
  rw [collect_objs, ho]
  exact if_pos (by rw [hs, Bool.or_true])

/-- **collect_flush_db**: flushing after a collection gives the same result and
    database as flushing without it -/
theorem collect_flush_db (c : Cfg) (st : St) :
    (doFlush c (collect st) = none ∧ doFlush c st = none) ∨
    ∃ g1 s1, doFlush c (collect st) = some g1 ∧ doFlush c st = some s1 ∧ g1.db = s1.db := by
  have hs : Sim (collect st) st := sim_collect ⟨rfl, rfl, rfl, rfl, fun _ => rel_refl _, rfl⟩
  rcases sim_doFlush c hs with h | ⟨g1, s1, h1, h2, h3⟩
  · exact Or.inl h
  · exact Or.inr ⟨g1, s1, h1, h2, h3.db⟩

/-- **collect_releases**: an unmodified, undeleted object that the application does not
    reference leaves the identity map -/
theorem collect_releases (st : St) (k : Nat) (o : Obj) (ho : st.objs k = some o)
    (ha : o.app = false) (hs : strong o = false) : (collect st).objs k = none := by
  rw [collect_objs, ho]
  exact if_neg (by rw [ha, hs]; decide)

theorem stepGc_objs_of_strong {c : Cfg} {st : St} {op : Op} {k : Nat} {o : Obj}
    (ho : (step c st op).1.objs k = some o) (hs : strong o = true) :
    (stepGc c st op).1.objs k = some o :=
  (collect_keeps_strong _ k o ho hs).1

/-- **partial_expire_keeps_strong**: `session.expire(obj, [exactly the modified attribute])`
    takes the history away but the state stays in `_modified` with its strong reference: the
    object is not collected, whatever the application drops, until the next flush. -/
theorem partial_expire_keeps_strong (c : Cfg) (st : St) (k : Nat) (o : Obj)
    (hl : live c st = true) (hn : st.new k = none) (ho : st.objs k = some o) (ht : o.touched = true) :
    ∃ o', (stepGc c st (.expireVal k)).1.objs k = some o' ∧ o'.touched = true := by
  -- either way the entry after the step is `o` up to `val` and `mod`
  have h : ∃ o', (step c st (.expireVal k)).1.objs k = some o' ∧ o'.touched = true := by
    rw [step_live hl]
    dsimp only [stepLive]
    rw [putSlot_objs, if_pos rfl, hn, ho]
    exact iteInduction (motive := fun r : Slot × Out => ∃ o', r.1.2 = some o' ∧ o'.touched = true)
      (fun _ => ⟨_, rfl, ht⟩) (fun _ => ⟨_, rfl, ht⟩)
  obtain ⟨o', ho', ht'⟩ := h
  exact ⟨o', stepGc_objs_of_strong ho' (by rw [strong, ht', Bool.or_true, Bool.true_or]), ht'⟩

/-- **refused_change_keeps_strong**: with autobegin=False the first change made outside a
    transaction is refused, but the state is in `_modified` by then and must be (and is)
    strongly referenced — otherwise a later flush would trip over a dead entry. -/
theorem refused_change_keeps_strong (c : Cfg) (st : St) (k : Nat) (v : Int) (o : Obj)
    (hl : live c st = false) (hnone : anyBelow c.n (fun j => touchedOpt (st.objs j)) = false)
    (hn : st.new k = none) (ho : st.objs k = some o) (ha : o.app = true) (hd : o.del = false) :
    (stepGc c st (.set k v)).2 = .raised ∧
    ∃ o', (stepGc c st (.set k v)).1.objs k = some o' ∧ o'.touched = true ∧ o'.val = o.val := by
  have e : step c st (.set k v) = putSlot st k ((none, some { o with touched := true }), .raised) := by
    rw [step_dead hl]
    dsimp only [stepDead]
    rw [hnone, if_neg Bool.false_ne_true, hn, ho]
    dsimp only [setDeadSlot]
    rw [ha, hd]
    rfl
  refine ⟨congrArg Prod.snd e, _, stepGc_objs_of_strong (o := { o with touched := true }) ?_ ?_, rfl, rfl⟩
  · rw [e, putSlot_objs, if_pos rfl]
  · rw [strong, Bool.or_true, Bool.true_or]

/-- the savepoint theorems below hold of `stepGc` and of `step` and are stated once, about
    `runB gc` -/
def stepB (gc : Bool) (c : Cfg) (s : St) (op : Op) : St × Out :=
  if gc then stepGc c s op else step c s op

def runB (gc : Bool) (c : Cfg) : St → List Op → St
  | s, [] => s
  | s, o :: os => runB gc c (stepB gc c s o).1 os

theorem stepB_fields (gc : Bool) (c : Cfg) (s : St) (op : Op) :
    (stepB gc c s op).1.db = (step c s op).1.db ∧ (stepB gc c s op).1.sp = (step c s op).1.sp ∧
    (stepB gc c s op).1.txn = (step c s op).1.txn ∧ (stepB gc c s op).2 = (step c s op).2 := by
  cases gc <;> exact ⟨rfl, rfl, rfl, rfl⟩

theorem runB_append (gc : Bool) (c : Cfg) : ∀ (a b : List Op) (s : St),
    runB gc c s (a ++ b) = runB gc c (runB gc c s a) b
  | [], _, _ => rfl
  | _ :: xs, b, _ => runB_append gc c xs b _

theorem doFlush_sp_txn (c : Cfg) (s s1 : St) (h : doFlush c s = some s1) :
    s1.sp = s.sp ∧ s1.txn = s.txn := by
  obtain ⟨_, rfl⟩ | ⟨_, _, _, _, _, e⟩ := doFlush_cases c s s1 h
  · exact ⟨rfl, rfl⟩
  · exact e

theorem strongOpt_flushObj (nw : Option (Int × Bool)) (o : Option Obj) :
    strongOpt (flushObj nw o) = false := by
  cases nw with
  | some p => rfl
  | none =>
    cases o with
    | none => rfl
    | some ob =>
      dsimp only [flushObj]
      cases ob.del <;> rfl

/-- **flush_leaves_no_work**: after a successful flush nothing is pending -/
theorem flush_leaves_no_work (c : Cfg) (s s1 : St) (h : doFlush c s = some s1) :
    hasWork c s1 = false := by
  obtain ⟨hw, rfl⟩ | ⟨_, _, hobjs, hnew, _⟩ := doFlush_cases c s s1 h
  · exact hw
  · rw [hasWork, anyBelow, List.any_eq_false]
    intro k hk
    rw [hnew, hobjs]
    dsimp only
    rw [if_pos (List.mem_range.1 hk), if_pos (List.mem_range.1 hk), strongOpt_flushObj]
    decide

/-- **begin_nested_flushes**: `begin_nested()` flushes whatever `autoflush` says — when it
    succeeds nothing is pending any more and the savepoint is the database with every earlier
    change in it -/
theorem begin_nested_flushes (c : Cfg) (s s' : St) (hl : live c s = true) (hsp : s.sp = none)
    (h : step c s .beginNested = (s', .done)) :
    ∃ s1, doFlush c s = some s1 ∧ s'.db = s1.db ∧ s'.sp = some s1.db ∧ hasWork c s' = false := by
  rw [step_live hl, stepLive_beginNested hsp] at h
  obtain ⟨s1, hf, e⟩ := flushThen_cases (by rw [h]; nofun)
  rw [e] at h
  cases h
  exact ⟨s1, hf, rfl, rfl, flush_leaves_no_work c s s1 hf⟩

/-- **flush_writes_pending_change**: a flush writes the value of a modified persistent object
    whose row exists — whether or not the application still holds the object -/
theorem flush_writes_pending_change (c : Cfg) (s s1 : St) (k : Nat) (o : Obj) (r : Int)
    (h : doFlush c s = some s1) (hk : k < c.n) (hn : s.new k = none) (ho : s.objs k = some o)
    (hm : o.mod = true) (hd : o.del = false) (hr : s.db k = some r) : s1.db k = o.val := by
  have hw : hasWork c s = true := by
    rw [hasWork, anyBelow, List.any_eq_true]
    exact ⟨k, List.mem_range.2 hk,
      by rw [ho, strongOpt, strong, hm, Bool.true_or, Bool.true_or, Bool.or_true]⟩
  obtain ⟨hw', _⟩ | ⟨_, hdb, _⟩ := doFlush_cases c s s1 h
  · rw [hw] at hw'; cases hw'
  · rw [hdb]
    dsimp only
    rw [if_pos hk, hn, ho, hr]
    dsimp only [flushRow]
    rw [hd, hm]
    rfl

/-- operations that stay inside the open savepoint: they do not end it (commit, rollback,
    release, rollback of the savepoint) and no flush among them fails -/
def InsideRun (gc : Bool) (c : Cfg) : St → List Op → Prop
  | _, [] => True
  | s, op :: rest =>
    op ≠ .commit ∧ op ≠ .rollback ∧ op ≠ .releaseNested ∧ op ≠ .rollbackNested ∧
    (step c s op).2 ≠ .integrity ∧ InsideRun gc c (stepB gc c s op).1 rest

theorem inside_step (c : Cfg) (s : St) (op : Op) (d : DB) (hsp : s.sp = some d) (hl : live c s = true)
    (h1 : op ≠ .commit) (h2 : op ≠ .rollback) (h3 : op ≠ .releaseNested) (h4 : op ≠ .rollbackNested)
    (hni : (step c s op).2 ≠ .integrity) :
    (step c s op).1.sp = some d ∧ live c (step c s op).1 = true := by
  rw [step_live hl] at hni ⊢
  unfold live at hl ⊢
  cases op with
  | beginNested =>
    dsimp only [stepLive]
    rw [hsp]
    exact ⟨hsp, hl⟩
  | flush =>
    rw [stepLive_flush] at hni ⊢
    obtain ⟨s1, hf, e⟩ := flushThen_cases hni
    obtain ⟨e1, e2⟩ := doFlush_sp_txn c s s1 hf
    rw [e]
    exact ⟨e1.trans hsp, (congrArg (c.autobegin || ·) e2).trans hl⟩
  | commit => exact absurd rfl h1
  | rollback => exact absurd rfl h2
  | releaseNested => exact absurd rfl h3
  | rollbackNested => exact absurd rfl h4
  -- get, set, del, add, drop, expire, expireVal, expireId, begin, len: touch neither `sp` nor `txn`
  | _ => exact ⟨hsp, hl⟩

theorem inside_run (gc : Bool) (c : Cfg) (d : DB) : ∀ (ops : List Op) (s : St), s.sp = some d → live c s = true →
    InsideRun gc c s ops → (runB gc c s ops).sp = some d ∧ live c (runB gc c s ops) = true
  | [], _, hsp, hl, _ => ⟨hsp, hl⟩
  | op :: rest, s, hsp, hl, ⟨h1, h2, h3, h4, hni, hrest⟩ => by
    obtain ⟨e1, e2⟩ := inside_step c s op d hsp hl h1 h2 h3 h4 hni
    obtain ⟨_, f2, f3, _⟩ := stepB_fields gc c s op
    exact inside_run gc c d rest _ (f2.trans e1) ((congrArg (c.autobegin || ·) f3).trans e2) hrest

/-- **savepoint_rollback_restores_flushed_state**: `begin_nested()`, any operations inside the
    savepoint (changes, drops, collections, flushes), then the rollback of the savepoint: the
    database is the one `begin_nested()` flushed — with or without garbage collection -/
theorem savepoint_rollback_restores_flushed_state (gc : Bool) (c : Cfg) (s s1 : St) (ops : List Op)
    (hl : live c s = true) (hsp : s.sp = none) (hf : doFlush c s = some s1)
    (hin : InsideRun gc c (stepB gc c s .beginNested).1 ops) :
    (runB gc c s (.beginNested :: ops ++ [.rollbackNested])).db = s1.db := by
  have hb : step c s .beginNested =
      ({ s1 with sp := some s1.db, spFresh := fun _ => false, spDirty := fun _ => false }, .done) := by
    rw [step_live hl, stepLive_beginNested hsp, flushThen, hf]
  obtain ⟨_, b2, b3, _⟩ := stepB_fields gc c s .beginNested
  rw [hb] at b2 b3
  obtain ⟨e1, e2⟩ := inside_run gc c s1.db ops _ b2
    ((congrArg (c.autobegin || ·) (b3.trans (doFlush_sp_txn c s s1 hf).2)).trans hl) hin
  show (runB gc c (stepB gc c s .beginNested).1 (ops ++ [.rollbackNested])).db = s1.db
  rw [runB_append]
  show (stepB gc c _ .rollbackNested).1.db = s1.db
  rw [(stepB_fields gc c _ .rollbackNested).1, step_live e2]
  dsimp only [stepLive]
  rw [e1]
  rfl

/-- **outer_change_survives_savepoint_rollback**: a change of a persistent object that is
    pending when `begin_nested()` is called is in the database after the savepoint was
    rolled back, whatever happened inside the savepoint and whether or not the application
    still holds the object (`o.app`) -/
theorem outer_change_survives_savepoint_rollback (gc : Bool) (c : Cfg) (s s1 : St) (ops : List Op)
    (k : Nat) (o : Obj) (r : Int)
    (hl : live c s = true) (hsp : s.sp = none) (hf : doFlush c s = some s1)
    (hin : InsideRun gc c (stepB gc c s .beginNested).1 ops)
    (hk : k < c.n) (hn : s.new k = none) (ho : s.objs k = some o)
    (hm : o.mod = true) (hd : o.del = false) (hr : s.db k = some r) :
    (runB gc c s (.beginNested :: ops ++ [.rollbackNested])).db k = o.val := by
  rw [savepoint_rollback_restores_flushed_state gc c s s1 ops hl hsp hf hin]
  exact flush_writes_pending_change c s s1 k o r hf hk hn ho hm hd hr

/-- the demo of the seeded change: a pending change, the reference dropped and collected, a
    savepoint with a failing step rolled back, then commit: the change is in the database -/
example :
    let c : Cfg := ⟨2, true, true⟩
    (runGc c St.init [.add 0 1, .add 1 2, .commit, .get 0, .set 0 7, .drop 0, .beginNested, .add 1 9, .flush,
      .rollbackNested, .commit]).db 0 = some 7 := by
  decide +kernel

/-- decidable form of `CalmRun`, for the examples below -/
def calmB (c : Cfg) : St → List Op → Bool
  | _, [] => true
  | s, op :: rest =>
    (match op with
     | .rollback => false
     | .rollbackNested => false
     | _ => true) && ((step c s op).2 != .integrity) && calmB c (step c s op).1 rest

theorem calmRun_of_calmB (c : Cfg) : ∀ (ops : List Op) (s : St), calmB c s ops = true → CalmRun c s ops := by
  intro ops
  induction ops with
  | nil => intro _ _; trivial
  | cons op rest ih =>
    intro s h
    simp only [calmB, Bool.and_eq_true, bne_iff_ne, ne_eq] at h
    refine ⟨⟨?_, ?_, h.1.2⟩, ih _ h.2⟩
    · intro he
      subst he
      simp at h
    · intro he
      subst he
      simp at h

/-- the hypothesis of `gc_unobservable_partial` is satisfiable by a history with drops,
    collections and flushes -/
example : CalmRun ⟨1, false, true⟩ St.init [.add 0 1, .commit, .drop 0, .get 0, .set 0 2, .drop 0, .flush, .len] :=
  calmRun_of_calmB _ _ _ (by decide +kernel)

/-- modify, drop the reference, collect, flush: the change is written; the clean object
    is released afterwards -/
example :
    let c : Cfg := ⟨1, false, true⟩
    outsGc c St.init [.add 0 1, .commit, .len, .drop 0, .len, .get 0, .set 0 2, .drop 0, .len, .flush, .len] =
      [.done, .done, .num 1, .done, .num 0, .val (some 1), .done, .done, .num 1, .done, .num 0] ∧
    (runGc c St.init [.add 0 1, .commit, .drop 0, .get 0, .set 0 2, .drop 0, .flush]).db 0 = some 2 := by
  decide +kernel

/-- autobegin=False: a refused change, the object dropped and collected (it is not: the Session
    holds it), then a proper transaction changing and dropping another object: both changes of
    state are consistent and the flush writes the second object's value -/
example :
    let c : Cfg := ⟨2, false, false⟩
    outsGc c St.init [.begin, .add 0 1, .add 1 2, .commit, .set 0 5, .drop 0, .len, .begin, .set 1 6, .drop 1,
                      .flush, .len] =
      [.done, .done, .done, .done, .raised, .done, .num 2, .done, .done, .done, .done, .num 0] ∧
    (runGc c St.init [.begin, .add 0 1, .add 1 2, .commit, .set 0 5, .drop 0, .begin, .set 1 6, .drop 1, .flush]).db 1 = some 6 ∧
    CalmRun c St.init [.begin, .add 0 1, .add 1 2, .commit, .set 0 5, .drop 0, .begin, .set 1 6, .drop 1, .flush] :=
  ⟨by decide +kernel, by decide +kernel, calmRun_of_calmB _ _ _ (by decide +kernel)⟩

/-- the two semantics really differ on `len` (the theorem's exception is needed) -/
example :
    let c : Cfg := ⟨1, false, true⟩
    outs c St.init [.add 0 1, .commit, .drop 0, .len] ≠ outsGc c St.init [.add 0 1, .commit, .drop 0, .len] := by
  decide +kernel

end SaVerif.Props.C48
