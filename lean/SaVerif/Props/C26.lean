import SaVerif.Lemmas.PoolFaultG
import SaVerif.Lemmas.RecProto
/-!
# C26 — The pool recovers from any fault without leaking or reusing dead connections

Theorems about the fault machine `SaVerif/Model/PoolFault.lean` (sequential
transcription of `_ConnectionRecord`, `_ConnectionFairy._checkout`, `_finalize_fairy`,
`Pool._invalidate` over `QueuePool`).  They quantify over ALL operation sequences
(`Op` = checkout / close / invalidate / soft invalidate / pool invalidate / GC drop /
time passing), ALL fault plans (`plan : List Nat`, one entry consumed at every
DBAPI call or checkout event, any length, any values) and all configurations
(pool_size, max_overflow, FIFO/LIFO, recycle, pre_ping, reset_on_return, listener).
The statements read a record through the model's `getRec`, the invariants of `Lemmas/PoolFault*`
through `connOf` / `inUseOf`; these are `(getRec st r).conn` / `.inUse` by definition
(`getRec_conn`), and the proofs below pass a fact about one where the other is asked.
-/
namespace SaVerif.Props.C26
open SaVerif.PoolFault

/-- configurations `QueuePool.__init__` can produce -/
def WF (c : Cfg) : Prop := c.maxOv = -1 ∨ 0 ≤ c.maxOv

/-- every holder has released its connection (closed, invalidated or garbage-collected) -/
def Released (st : St) : Prop := ∀ x ∈ st.recs, x.inUse = false

/-- the ledger never holds an open connection that no live record (idle in the queue or
    in use) owns: no leak at ANY point, not only at rest -/
theorem open_is_owned (c : Cfg) (plan : List Nat) (ops : List Op) (cn : Nat)
    (hopen : (run c (init c plan) ops).1.conns[cn]? = some true) :
    ∃ r, (getRec (run c (init c plan) ops).1 r).conn = some cn ∧
      (r ∈ (run c (init c plan) ops).1.queue ∨ (getRec (run c (init c plan) ops).1 r).inUse = true) := by
  have hi := inv_run c ops _ (inv_init c plan)
  generalize (run c (init c plan) ops).1 = st at *
  obtain ⟨r, hr⟩ := hi.g.o cn hopen
  rcases hi.p.liveConn r cn hr with hl | hl | hl
  · exact ⟨r, hr, Or.inl hl⟩
  · exact ⟨r, hr, Or.inr hl⟩
  · cases hl

/-- **quiescent_no_leak**: for every configuration, fault plan and operation
    sequence, once no record is in use `checkedout()` is 0 and every connection still
    open in the DBAPI ledger is the connection of a record idle in the pool. -/
theorem quiescent_no_leak (c : Cfg) (plan : List Nat) (ops : List Op)
    (hrel : Released (run c (init c plan) ops).1) :
    checkedout c (run c (init c plan) ops).1 = 0 ∧
    ∀ cn, (run c (init c plan) ops).1.conns[cn]? = some true →
      ∃ r ∈ (run c (init c plan) ops).1.queue,
        (getRec (run c (init c plan) ops).1 r).conn = some cn := by
  refine ⟨?_, fun cn hcn => ?_⟩
  · rw [checkedout_eq_inUse (inv_run c ops _ (inv_init c plan)).p, inUseCount_zero_of_all _ hrel]
    rfl
  · obtain ⟨r, hr, hq | hu⟩ := open_is_owned c plan ops cn hcn
    · exact ⟨r, hq, hr⟩
    · rcases getRec_mem_or_blank (run c (init c plan) ops).1 r with hm | hb
      · rw [hrel _ hm] at hu; cases hu
      · rw [hb] at hu; cases hu

theorem record_conn_open_unshared (c : Cfg) (plan : List Nat) (ops : List Op) (r r' cn : Nat)
    (h1 : (getRec (run c (init c plan) ops).1 r).conn = some cn) :
    (run c (init c plan) ops).1.conns[cn]? = some true ∧
    ((getRec (run c (init c plan) ops).1 r').conn = some cn → r = r') := by
  have hi := inv_run c ops _ (inv_init c plan)
  generalize (run c (init c plan) ops).1 = st at *
  exact ⟨hi.g.r.isOpen r cn h1, fun h2 => hi.g.r.inj r r' cn h1 h2⟩

/-- **no_stale_handout**: after any history, a successful checkout hands out a
    connection that (a) is the connection of the record it checked out, (b) is open in
    the ledger (close() was never called on it), and whose record (c) is not older than
    the pool invalidation time and (d) was not soft-invalidated since it connected;
    (e) the fairy registered under the returned handle carries exactly that pair.
    The clock is the logical one (`tickSt`: strictly increasing per `time.time()` call). -/
theorem no_stale_handout (c : Cfg) (plan : List Nat) (ops : List Op) (h r cn : Nat)
    (hco : (checkout c (run c (init c plan) ops).1).2 = CoRes.ok h r cn) :
    let st' := (checkout c (run c (init c plan) ops).1).1
    (getRec st' r).conn = some cn ∧
    st'.conns[cn]? = some true ∧
    ¬ (getRec st' r).start < st'.invTime ∧
    ¬ (getRec st' r).start < (getRec st' r).softInv ∧
    st'.fairies[h]? = some (some { rid := r, conn := some cn }) := by
  have hi := inv_run c ops _ (inv_init c plan)
  generalize (run c (init c plan) ops).1 = st at *
  obtain ⟨hgood, hf⟩ := checkout_ok_spec hi.g hi.p hco
  have hopen := (checkout_inv hi).1.g.r.isOpen r cn hgood.conn
  have hst := stale_eq_false.1 hgood.notStale
  exact ⟨hgood.conn, hopen, hst.1, hst.2, hf⟩

/-- with recycle configured, a record older than `recycle` fails the age test of
    `get_connection`: its connection is closed and the record reconnected -/
theorem recycle_reconnects (c : Cfg) (st : St) (r cn : Nat) (hc : (getRec st r).conn = some cn)
    (hrec : 0 ≤ c.recycle) (hold : c.recycle < (st.clock : Int) - (getRec st r).start) :
    getConnection c st r = connect (closeRec (tickSt st) r) r := by
  simp [getConnection, hc, hrec, hold]

/-- checkedout() is never negative and idle never exceeds pool_size, at any point -/
theorem counters_sane (c : Cfg) (plan : List Nat) (ops : List Op) :
    0 ≤ checkedout c (run c (init c plan) ops).1 ∧
    (0 < c.size → (run c (init c plan) ops).1.queue.length ≤ c.size) := by
  have hi := inv_run c ops _ (inv_init c plan)
  generalize (run c (init c plan) ops).1 = st at *
  exact ⟨checkedout_eq_inUse hi.p ▸ Int.natCast_nonneg _, hi.p.qLe⟩

/-! ## concurrent part: hand-over of an entry between concurrent checkouts

Every write of a cell another thread can see (`fairy_ref`, the queue) is one atomic step of
`SaVerif.RecProto.step`; a run of the machine is an arbitrary interleaving of any number of
checkout attempts.  The theorems hold for ALL runs. -/

theorem proto_inv_run (ls : List RecProto.Label) (s : RecProto.St)
    (h : RecProto.run RecProto.init ls = some s) : RecProto.Inv s :=
  RecProto.inv_run ls _ _ RecProto.inv_init h

/-- whoever holds an entry is designated by its `fairy_ref`: the guard of
    `_finalize_fairy` (`fairy_ref is not None` / `fairy_ref is ref`) passes for every holder -/
theorem release_never_skipped (ls : List RecProto.Label) (s : RecProto.St) (a r : Nat)
    (h : RecProto.run RecProto.init ls = some s) (hh : s.pc a = .holding r) :
    s.ref r = some a :=
  (proto_inv_run ls s h).holdRef a r hh

/-- ... hence the step that loses the entry is never enabled -/
theorem skip_never_enabled (ls : List RecProto.Label) (s : RecProto.St) (a r : Nat)
    (h : RecProto.run RecProto.init ls = some s) : RecProto.step s (.skip a r) = none := by
  simp only [RecProto.step]
  split
  · rename_i hc
    exact absurd (release_never_skipped ls s a r h hc.1) hc.2
  · rfl

/-- an entry has at most one checkout attempt responsible for it, and is then neither idle
    (visible to others) nor closed -/
theorem handover_exclusive (ls : List RecProto.Label) (s : RecProto.St) (a b r : Nat)
    (h : RecProto.run RecProto.init ls = some s)
    (ha : RecProto.Owns s a r) (hb : RecProto.Owns s b r) :
    a = b ∧ s.idle r = false ∧ s.dead r = false := by
  have hi := proto_inv_run ls s h
  obtain ⟨idle, _, dead⟩ := hi.ownState a r ha
  exact ⟨hi.excl a b r ha hb, idle, dead⟩

/-- once every holder has released, every entry ever created is idle in the pool or was
    closed: no slot is lost, under any interleaving -/
theorem proto_quiescent_no_loss (ls : List RecProto.Label) (s : RecProto.St)
    (h : RecProto.run RecProto.init ls = some s) (hq : RecProto.Quiescent s) (r : Nat)
    (hu : s.used r = true) : s.idle r = true ∨ s.dead r = true := by
  rcases (proto_inv_run ls s h).accounted r hu with h1 | h1 | ⟨a, ha⟩
  · exact Or.inr h1
  · exact Or.inl h1
  · rcases hq a with h2 | h2 <;> simp [RecProto.Owns, h2] at ha

/-- the order of the two writes in `checkin()` matters: with `fairy_ref = None` AFTER the
    entry is made visible (`RecProto.stepLate`), a concurrent checkout of the entry between
    the two writes has its `fairy_ref` wiped, its release is skipped and the entry is lost:
    everything released, entry 0 neither idle nor closed -/
theorem late_clear_loses_entry :
    ∃ s, RecProto.runLate RecProto.init
        [.create 0 0, .setref 0 0, .put 0 0, .pop 1 0, .setref 1 0, .clear 0 0, .skip 1 0] = some s ∧
      RecProto.Quiescent s ∧ s.used 0 = true ∧ s.idle 0 = false ∧ s.dead 0 = false := by
  refine ⟨_, rfl, ?_, rfl, rfl, rfl⟩
  intro a
  by_cases h1 : a = 1
  · subst h1; right; rfl
  · by_cases h0 : a = 0
    · subst h0; right; rfl
    · left; simp [RecProto.upd, RecProto.init, h0, h1]

/-- the same schedule is not a run of the real order: the early `put` is refused -/
example : RecProto.run RecProto.init [.create 0 0, .setref 0 0, .put 0 0] = none := by
  simp [RecProto.run, RecProto.step, RecProto.init, RecProto.upd]

/-- non-vacuity: two checkouts hand one entry over (A releases, B takes it and releases) -/
example : ∃ s, RecProto.run RecProto.init
    [.create 0 0, .setref 0 0, .clear 0 0, .put 0 0, .pop 1 0, .setref 1 0, .clear 1 0, .put 1 0] = some s ∧
    s.idle 0 = true := ⟨_, rfl, rfl⟩

def exCfg : Cfg :=
  { size := 1, maxOv := 1, lifo := false, recycle := -1, prePing := true, reset := 0, hasEvent := true }

/-- two checkouts, the first return hits a rollback fault (record invalidated, comes
    back empty), the second return finds the queue full (closed); the next checkout
    reconnects the empty record: everything released, nothing leaks -/
example :
    let r := run exCfg (init exCfg [0, 0, 0, 0, 1]) [.co, .co, .ci 0, .ci 1, .co, .ci 2]
    (r.2, r.1.conns, r.1.queue, checkedout exCfg r.1) =
      ([.co (.ok 0 0 0), .co (.ok 1 1 1), .done, .done, .co (.ok 2 0 2), .done],
       [false, false, true], [0], 0) := by decide

example : Released (run exCfg (init exCfg [0, 0, 0, 0, 1]) [.co, .co, .ci 0, .ci 1, .co, .ci 2]).1 := by
  unfold Released; decide

/-- a checkout whose listener raises DisconnectionError twice exhausts its attempts -/
example : (run exCfg (init exCfg [0, 1, 0, 0, 1, 0, 0]) [.co]).2 = [.co .exhausted] := by decide

/-- pool invalidation: the idle record is older than `invTime` and is reconnected
    (connection 0 closed, 2 handed out) -/
example :
    let r := run exCfg (init exCfg []) [.co, .co, .ci 0, .pinv 1, .co]
    (r.2, r.1.conns) = ([.co (.ok 0 0 0), .co (.ok 1 1 1), .done, .done, .co (.ok 2 0 2)],
      [false, false, true]) := by decide

end SaVerif.Props.C26
