import SaVerif.Lemmas.Poly
/-!
# C42 — Polymorphic queries return each row as its most specific class

Property theorems about the polymorphic loading model (`SaVerif/Model/Poly.lean`:
transcription of the row → class decision of `orm/loading.py` and of the single-table,
joined-table and concrete plans).  `storeSingle` / `storeJoined` / `storeConcrete`
(`SaVerif/Lemmas/Poly.lean`) say how a set of objects is laid out in the tables of each
inheritance kind; the theorems quantify over every class tree (given by its ancestor
chains), every set of objects and every queried class.  The result functions do not
take the with_polymorphic setting at all: it only decides which columns arrive with the
first SELECT (`primaryCols`); the values are the stored ones in every case.  Discriminator
values are explicit (`Hier.idents`, an injective assignment, `none` for `polymorphic_abstract`
classes; 0 is the falsy value).  `populate` is the state of an attribute after the row met the object
(new instance, `populate_existing` / `always_refresh`, object already in the Session); attribute access
returns `readAttr` of it.
-/
namespace SaVerif.Props.C42
open SaVerif.Poly

/-- `_decorate_polymorphic_switch`: exactly four outcomes; `v` is the discriminator value of
    the row, `d` the class whose `polymorphic_identity` it is -/
theorem decideClass_spec (h : Hier) (hw : WFH h) (c : Nat) (disc : Option Nat) :
    (disc = none → decideClass h c disc = .error .nullDiscriminator) ∧
    (∀ v, disc = some v → (∀ d, d < h.n → h.ident d ≠ some v) →
      decideClass h c disc = .error .unknownIdentity) ∧
    (∀ v d, disc = some v → d < h.n → h.ident d = some v → h.isa d c = false →
      decideClass h c disc = .error .notSubMapper) ∧
    (∀ v d, disc = some v → d < h.n → h.ident d = some v → h.isa d c = true →
      decideClass h c disc = .ok d) := by
  refine ⟨?_, ?_, ?_, ?_⟩
  · intro h1; subst h1; rfl
  · intro v h1 h2; subst h1
    cases hf : h.classOf v with
    | none => simp [decideClass, hf]
    | some d => exact absurd (classOf_some h v d hf).2 (h2 d (classOf_some h v d hf).1)
  · intro v d h1 h2 h3 h4; subst h1; simp [decideClass, classOf_ident h hw d v h2 h3, h4]
  · intro v d h1 h2 h3 h4; subst h1; simp [decideClass, classOf_ident h hw d v h2 h3, h4]

example : decideClass ⟨[[0], [0, 1], [0, 2]], [], []⟩ 1 (some 2) = .error .notSubMapper := by rfl
example : decideClass ⟨[[0], [0, 1], [0, 2]], [], []⟩ 0 (some 7) = .error .unknownIdentity := by rfl
-- identities 3, 0, 1, 2 (a falsy identity on a non-base class): value 0 names class 1
example : decideClass ⟨[[0], [0, 1], [0, 1, 2], [0, 3]], [], [some 3, some 0, some 1, some 2]⟩ 1 (some 0) = .ok 1 := by rfl
-- an abstract class has no identity
example : decideClass ⟨[[0], [0, 1], [0, 1, 2]], [], [some 0, none, some 2]⟩ 0 (some 1) = .error .unknownIdentity := by rfl

/-- **in_list_exact**: the discriminator values `Mapper._single_table_criteria_component`
    collects for class `c` are exactly the identities of the non-abstract classes of `c`'s
    subtree — whatever the values are (0 / False / '' included) -/
theorem in_list_exact (h : Hier) (c v : Nat) :
    v ∈ h.inList c ↔ ∃ d, d < h.n ∧ h.isa d c = true ∧ h.ident d = some v :=
  mem_inList h c v

/-- every non-abstract class of the subtree contributes its identity, the class itself
    included -/
theorem in_list_complete (h : Hier) (c d v : Nat) (hd : d < h.n) (hi : h.isa d c = true)
    (hv : h.ident d = some v) : v ∈ h.inList c :=
  (mem_inList h c v).2 ⟨d, hd, hi, hv⟩

/-- nothing else is in the list: no identity of a class outside the subtree, nothing for an
    abstract class -/
theorem in_list_sound (h : Hier) (hw : WFH h) (c d v : Nat) (hd : d < h.n) (hv : h.ident d = some v)
    (hi : h.isa d c = false) : v ∉ h.inList c := by
  intro hm
  obtain ⟨e, he, hie, hve⟩ := (mem_inList h c v).1 hm
  rw [hw.ident_inj e d v he hd hve hv, hi] at hie
  cases hie

/-- one entry per non-abstract class of the subtree, in class order -/
theorem in_list_length (h : Hier) (c : Nat) :
    (h.inList c).length = ((h.sub c).filter (fun d => (h.ident d).isSome)).length := by
  unfold Hier.inList
  induction h.sub c with
  | nil => rfl
  | cons x xs ih =>
    simp only [List.filterMap_cons, List.filter_cons]
    cases hx : h.ident x <;> simp [ih]

example : (⟨[[0], [0, 1], [0, 1, 2], [0, 3]], [], [some 3, some 0, some 1, some 2]⟩ : Hier).inList 1 = [0, 1] := by decide +kernel
example : (⟨[[0], [0, 1], [0, 1, 2], [0, 1, 3]], [], [some 3, none, some 0, some 2]⟩ : Hier).inList 1 = [0, 2] := by decide +kernel

theorem selSingle_store (h : Hier) (hw : WFH h) (c : Nat) (o : PObj) (ho : o.cls < h.n)
    (v : Nat) (hv : h.ident o.cls = some v)
    (hroot : (h.anc c).length ≤ 1 → h.isa o.cls c = true) (vals : List (Option Int)) :
    selSingle h c ⟨o.id, h.ident o.cls, vals⟩ = h.isa o.cls c := by
  unfold selSingle
  split
  · next hl => rw [hroot hl]
  · simp only [hv]
    cases hi : h.isa o.cls c
    · simpa using in_list_sound h hw c o.cls v ho hv hi
    · simpa using in_list_complete h c o.cls v ho hi hv

theorem decideClass_ident (h : Hier) (hw : WFH h) (c d : Nat) (hd : d < h.n)
    (hid : ∃ v, h.ident d = some v) (hi : h.isa d c = true) : decideClass h c (h.ident d) = .ok d := by
  obtain ⟨v, hv⟩ := hid
  exact (decideClass_spec h hw c _).2.2.2 v d hv hd hv hi

/-- **polymorphic_most_specific_single**: over a consistently stored single table, a query
    against any class returns exactly the objects whose class descends from it, in table
    order, each as its own class with its own attribute values.  `hroot`: for a class without
    `inherits` no criterion is rendered (`selSingle`), so every stored object has to be in its
    tree. -/
theorem polymorphic_most_specific_single (h : Hier) (hw : WFH h) (c : Nat) (objs : List PObj)
    (hcls : ∀ o ∈ objs, o.cls < h.n) (hid : ∀ o ∈ objs, ∃ v, h.ident o.cls = some v)
    (hroot : (h.anc c).length ≤ 1 → ∀ o ∈ objs, h.isa o.cls c = true) :
    querySingle h c (storeSingle h objs) =
      .ok ((objs.filter (fun o => h.isa o.cls c)).map (entOf h)) := by
  refine MapM.filter_map_mapM (α := PObj) _ (selSingle h c) (loadSingle h c) (fun o => h.isa o.cls c) (entOf h) objs
    (fun o ho => ?_) fun o ho hi => ?_
  · obtain ⟨v, hv⟩ := hid o ho
    exact selSingle_store h hw c o (hcls o ho) v hv (fun hl => hroot hl o ho) _
  · simp only [loadSingle, decideClass_ident h hw c o.cls (hcls o ho) (hid o ho) hi,
      entOfSRow_store h hw o (hcls o ho)]

/-- **subclass_filter_single**: an entity is returned iff it is a stored object of the
    queried subtree -/
theorem subclass_filter_single (h : Hier) (hw : WFH h) (c : Nat) (objs : List PObj)
    (hcls : ∀ o ∈ objs, o.cls < h.n) (hid : ∀ o ∈ objs, ∃ v, h.ident o.cls = some v)
    (hroot : (h.anc c).length ≤ 1 → ∀ o ∈ objs, h.isa o.cls c = true) :
    ∃ ents, querySingle h c (storeSingle h objs) = .ok ents ∧
      ∀ e, e ∈ ents ↔ ∃ o ∈ objs, h.isa o.cls c = true ∧ e = entOf h o := by
  refine ⟨_, polymorphic_most_specific_single h hw c objs hcls hid hroot, ?_⟩
  intro e
  simp only [List.mem_map, List.mem_filter, and_assoc, @eq_comm _ e]

def sampleH : Hier := ⟨[[0], [0, 1], [0, 2], [0, 1, 3]], [], [some 2, some 0, some 1, some 3]⟩
def sampleObjs : List PObj :=
  [⟨1, 0, fun _ => some 10⟩, ⟨2, 1, fun a => some (20 + a)⟩, ⟨3, 3, fun _ => none⟩, ⟨4, 2, fun _ => some 4⟩]

example : querySingle sampleH 1 (storeSingle sampleH sampleObjs) =
    .ok [⟨2, 1, [some 20, some 21]⟩, ⟨3, 3, [none, none, none]⟩] := by rfl

/-- an unknown identity or a NULL discriminator in the table fails a query against the
    base class with the documented error, and is filtered out of subclass queries -/
theorem single_bad_discriminator (h : Hier) (c : Nat) (r : SRow)
    (hbad : r.disc = none ∨ ∃ v, r.disc = some v ∧ h.classOf v = none) :
    ((h.anc c).length ≤ 1 → ∃ e, loadSingle h c r = .error e ∧
        (e = .nullDiscriminator ∨ e = .unknownIdentity)) ∧
    (¬ (h.anc c).length ≤ 1 → selSingle h c r = false) := by
  constructor
  · intro _
    rcases hbad with h1 | ⟨d, h1, h2⟩
    · exact ⟨.nullDiscriminator, by simp [loadSingle, decideClass, h1], Or.inl rfl⟩
    · exact ⟨.unknownIdentity, by simp [loadSingle, decideClass, h1, h2], Or.inr rfl⟩
  · intro hl
    unfold selSingle
    rw [if_neg hl]
    rcases hbad with h1 | ⟨d, h1, h2⟩
    · simp [h1]
    · simp only [h1]
      have : ¬ d ∈ h.inList c := by
        rw [mem_inList]
        rintro ⟨e, he, _, hv⟩
        exact classOf_none h d h2 e he hv
      simpa using this

/-- the extra facts about the class tree the joined plan relies on: the chain of a class
    contains the chains of its ancestors (`chain`), and `root` heads every chain -/
structure JoinedWF (h : Hier) (root : Nat) (objs : List PObj) : Prop where
  wf : WFH h
  chain : ∀ d c a, d < h.n → h.isa d c = true → a ∈ h.anc c → h.isa d a = true
  rooted : ∀ o ∈ objs, h.isa o.cls root = true
  cls_lt : ∀ o ∈ objs, o.cls < h.n
  has_ident : ∀ o ∈ objs, ∃ v, h.ident o.cls = some v
  ids : (objs.map (·.id)).Nodup

theorem subs_getD (h : Hier) (root a : Nat) (objs : List PObj) (ha : a < h.n) :
    (storeJoined h root objs).subs.getD a [] =
      (objs.filter (fun o => h.isa o.cls a)).map (fun o => (o.id, o.attr a)) :=
  getD_map_range _ _ _ _ ha

theorem base_store {h : Hier} {root : Nat} {objs : List PObj} (w : JoinedWF h root objs) :
    (storeJoined h root objs).base =
      (objs.filter (fun o => h.isa o.cls root)).map (fun o => (o.id, h.ident o.cls, o.attr root)) := by
  rw [List.filter_eq_self.2 w.rooted]
  rfl

theorem attr_store {h : Hier} {root a : Nat} {objs : List PObj} (w : JoinedWF h root objs)
    (ha : a < h.n) {o : PObj} (ho : o ∈ objs) :
    (storeJoined h root objs).attr root a o.id = if h.isa o.cls a then some (o.attr a) else none := by
  unfold JTables.attr
  split
  next hr =>
    rw [base_store w, find_unique _ _ Prod.fst (fun _ => rfl) w.ids ho, eq_of_beq hr]
    cases h.isa o.cls root <;> rfl
  · rw [subs_getD h root a objs ha, find_unique _ _ Prod.fst (fun _ => rfl) w.ids ho]
    cases h.isa o.cls a <;> rfl

theorem hasRow_store {h : Hier} {root a : Nat} {objs : List PObj} (w : JoinedWF h root objs)
    (ha : a < h.n) {o : PObj} (ho : o ∈ objs) :
    (storeJoined h root objs).hasRow root a o.id = h.isa o.cls a := by
  rw [JTables.hasRow_eq, attr_store w ha ho]
  cases h.isa o.cls a <;> rfl

theorem chain_filter {h : Hier} {root c : Nat} {objs : List PObj} (w : JoinedWF h root objs)
    (hc : c < h.n) {o : PObj} (ho : o ∈ objs) :
    ((h.anc c).all (fun a => (storeJoined h root objs).hasRow root a o.id)) = h.isa o.cls c := by
  cases hi : h.isa o.cls c
  · rw [List.all_eq_false]
    refine ⟨c, ?_, ?_⟩
    · have := w.wf.self c hc
      simpa [Hier.isa] using this
    · rw [hasRow_store w hc ho, hi]; simp
  · rw [List.all_eq_true]
    intro a ha
    rw [hasRow_store w (w.wf.anc_lt c a hc ha) ho]
    exact w.chain o.cls c a (w.cls_lt o ho) hi ha

/-- **polymorphic_most_specific_joined**: over consistently stored joined tables (distinct
    primary keys), a query against any class returns exactly the objects whose class
    descends from it, in base-table order, each as the class the discriminator names with
    the attribute values found in the tables of that class's chain. -/
theorem polymorphic_most_specific_joined (h : Hier) (root c : Nat) (objs : List PObj)
    (w : JoinedWF h root objs) (hc : c < h.n) :
    queryJoined h root c (storeJoined h root objs) =
      .ok ((objs.filter (fun o => h.isa o.cls c)).map (entOf h)) := by
  refine MapM.filter_map_mapM (α := PObj) _ _ (loadJoined h root c _) (fun o => h.isa o.cls c) (entOf h) objs
    (fun _ ho => chain_filter w hc ho) fun o ho hi => ?_
  have hm : (h.anc o.cls).mapM (fun a => (storeJoined h root objs).attr root a o.id) =
      some ((h.anc o.cls).map o.attr) :=
    MapM.mapM_eq_pure _ _ _ fun a ha =>
      (attr_store w (w.wf.anc_lt o.cls a (w.cls_lt o ho) ha) ho).trans
        (if_pos (List.contains_iff_mem.2 ha))
  simp only [loadJoined, decideClass_ident h w.wf c o.cls (w.cls_lt o ho) (w.has_ident o ho) hi,
    hm, entOf]

example : queryJoined sampleH 0 1 (storeJoined sampleH 0 sampleObjs) =
    .ok [⟨2, 1, [some 20, some 21]⟩, ⟨3, 3, [none, none, none]⟩] := by rfl

/-- a row whose discriminator names a class outside the queried subtree (the identity of
    the parent class, say) while the queried class's table holds its key: the documented
    "not a sub-mapper" error -/
theorem joined_wrong_branch (h : Hier) (hw : WFH h) (root c d v : Nat) (t : JTables)
    (r : Nat × Option Nat × Option Int)
    (hd : r.2.1 = some v) (hlt : d < h.n) (hv : h.ident d = some v) (hn : h.isa d c = false) :
    loadJoined h root c t r = .error .notSubMapper := by
  unfold loadJoined
  rw [(decideClass_spec h hw c r.2.1).2.2.1 v d hd hlt hv hn]

/-- **polymorphic_most_specific_concrete**: the union over the subtree returns, ordered by
    id, exactly the stored objects of the queried subtree, each as the class of the table
    it came from with that table's values. -/
theorem polymorphic_most_specific_concrete (h : Hier) (c : Nat) (objs : List PObj) :
    ∃ ents, queryConcrete h c (storeConcrete h objs) = .ok ents ∧ Sorted ents ∧
      ∀ e, e ∈ ents ↔ ∃ o ∈ objs, o.cls < h.n ∧ h.isa o.cls c = true ∧ e = entOf h o := by
  refine ⟨_, rfl, sorted_sortEnts _, ?_⟩
  intro e
  rw [mem_sortEnts]
  simp only [List.mem_flatMap, List.mem_map, mem_sub]
  constructor
  · rintro ⟨d, ⟨hd, hi⟩, r, hr, rfl⟩
    rw [storeConcrete, getD_map_range _ _ _ _ hd] at hr
    obtain ⟨o, ho, rfl⟩ := List.mem_map.1 hr
    obtain ⟨ho1, ho2⟩ := List.mem_filter.1 ho
    have : o.cls = d := by simpa using ho2
    subst this
    exact ⟨o, ho1, hd, hi, rfl⟩
  · rintro ⟨o, ho, hd, hi, rfl⟩
    refine ⟨o.cls, ⟨hd, hi⟩, (o.id, (h.anc o.cls).map o.attr), ?_, rfl⟩
    rw [storeConcrete, getD_map_range _ _ _ _ hd]
    exact List.mem_map.2 ⟨o, List.mem_filter.2 ⟨ho, by simp⟩, rfl⟩

example : queryConcrete sampleH 1 (storeConcrete sampleH sampleObjs) =
    .ok [⟨2, 1, [some 20, some 21]⟩, ⟨3, 3, [none, none, none]⟩] := by rfl

/-- with `with_polymorphic(C, '*')` no returned object of the subtree has a deferred column -/
theorem with_polymorphic_all_defers_nothing (h : Hier) (k : Kind) (c : Nat) (ents : List Ent)
    (hsub : ∀ e ∈ ents, e.cls < h.n ∧ h.isa e.cls c = true) :
    deferredLoads h k c .all ents = 0 := by
  have hnil : ents.filter (fun e =>
      !(h.anc e.cls).all fun a => (primaryCols h c .all).contains a) = [] := by
    rw [List.filter_eq_nil_iff]
    intro e he
    obtain ⟨h1, h2⟩ := hsub e he
    rw [Bool.not_eq_true, Bool.not_eq_false', List.all_eq_true]
    intro a ha
    exact List.contains_iff_mem.2 (List.mem_append_left _
      (List.mem_flatMap.2 ⟨e.cls, (mem_sub h c e.cls).2 ⟨h1, h2⟩, ha⟩))
  cases k with
  | concrete => rfl
  | _ => exact congrArg List.length hnil

/-- the states population leaves an attribute in: a dict entry, or the expired flag -/
def Sound (s : ASt) : Prop := s.val ≠ none ∨ s.exp = true

theorem populate_sound (created pe inRow : Bool) (rowv : Option Int) (s : ASt)
    (hs : created = false → Sound s) : Sound (populate created pe inRow rowv s) := by
  cases created <;> cases pe
  case false.false =>
    -- `_populate_partial`: a dict entry stays as it is
    unfold populate
    cases hv : s.val with
    | some v => exact hs rfl
    | none =>
      cases inRow
      · exact .inr rfl
      · exact .inl (Option.some_ne_none _)
  -- `_populate_full`
  all_goals
    cases inRow
    · exact .inr rfl
    · exact .inl (Option.some_ne_none _)

/-- **populate_existing_reads_db**: under `populate_existing` (or `always_refresh`) every
    attribute of the row's class reads the database value after the load — whether the
    statement carried its column or not, whatever state the object was in before -/
theorem populate_existing_reads_db (created inRow : Bool) (db : Option Int) (s : ASt) :
    readAttr db (populate created true inRow db s) = db := by
  cases created <;> cases inRow <;> rfl

/-- an instance created by the row reads the database values, with or without the option -/
theorem new_instance_reads_db (pe inRow : Bool) (db : Option Int) :
    readAttr db (populate true pe inRow db {}) = db := by
  cases pe <;> cases inRow <;> rfl

/-- **plain_load_keeps_reads**: without `populate_existing` a row meeting an object already
    in the Session changes nothing that attribute access can see -/
theorem plain_load_keeps_reads (inRow : Bool) (db : Option Int) (s : ASt) (hs : Sound s) :
    readAttr db (populate false false inRow db s) = readAttr db s := by
  unfold populate readAttr
  cases hv : s.val with
  | some v => simp [hv]
  | none =>
    have he : s.exp = true := by
      rcases hs with h1 | h1
      · exact absurd hv h1
      · exact h1
    cases inRow <;> simp [he]

/-- further loads of the same object (the `IN` loads of `polymorphic_load="selectin"` /
    `selectin_polymorphic`, which inherit the option) keep an attribute that reads the
    database value reading it -/
theorem later_loads_keep_db (pe inRow : Bool) (db : Option Int) (s : ASt) (hs : Sound s)
    (hr : readAttr db s = db) : readAttr db (populate false pe inRow db s) = db := by
  cases pe
  · rw [plain_load_keeps_reads inRow db s hs, hr]
  · exact populate_existing_reads_db false inRow db s

/-- **readEnt_populate_existing**: entity level — with `populate_existing` every returned
    object reads exactly the values of its row chain, for every with_polymorphic setting and
    every prior state of the Session -/
theorem readEnt_populate_existing (h : Hier) (c : Nat) (wp : WP) (pre : Nat → Option (Nat → ASt))
    (e : Ent) (hl : e.vals.length = (h.anc e.cls).length) :
    readEnt h c wp true pre e = e := by
  unfold readEnt
  cases pre e.id <;> simp only [populate_existing_reads_db, List.map_snd_zip (Nat.le_of_eq hl)]

/-- in a Session that did not hold the object the option makes no difference -/
theorem readEnt_fresh (h : Hier) (c : Nat) (wp : WP) (pe : Bool) (pre : Nat → Option (Nat → ASt))
    (e : Ent) (hl : e.vals.length = (h.anc e.cls).length) (hp : pre e.id = none) :
    readEnt h c wp pe pre e = e := by
  unfold readEnt
  simp only [hp, new_instance_reads_db, List.map_snd_zip (Nat.le_of_eq hl)]

/-- the stored objects come back with value lists of the right length, so the two theorems
    above apply to every result of `polymorphic_most_specific_*` -/
theorem entOf_vals_length (h : Hier) (o : PObj) : (entOf h o).vals.length = (h.anc (entOf h o).cls).length := by
  simp [entOf]

/-- in a fresh Session the statement count after attribute access is `deferredLoads` -/
theorem deferredLoadsSt_fresh (h : Hier) (k : Kind) (c : Nat) (wp : WP) (pe : Bool) (ents : List Ent) :
    deferredLoadsSt h k c wp pe (fun _ => none) ents = deferredLoads h k c wp ents := by
  -- a fresh attribute is re-selected exactly when the statement did not carry its column
  have hattr : ∀ b : Bool, ((populate true pe b none {}).val.isNone && (populate true pe b none {}).exp) = !b := by
    intro b; cases pe <;> cases b <;> rfl
  cases k <;> simp only [deferredLoadsSt, deferredLoads, hattr, List.not_all_eq_any_not]

end SaVerif.Props.C42
