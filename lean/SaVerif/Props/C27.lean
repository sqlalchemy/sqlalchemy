import SaVerif.Lemmas.TxnDisc
/-!
# C27 — A database disconnect invalidates the connection and blocks silent continuation

Theorems about M-TXN (`SaVerif/Model/Txn.lean`): `Connection._handle_dbapi_exception`
(`is_disconnect`, `handle_error` listeners, `invalidate_pool_on_disconnect`),
`Pool._invalidate`, `_ConnectionRecord.get_connection`, `Connection._revalidate_connection`,
`_invalid_transaction` and the PendingRollbackError checks.
-/
namespace SaVerif.Props.C27
open SaVerif.Txn

/-- the error is a disconnect: classified so by the dialect, or by a `handle_error` listener -/
def IsDisc (c : Conn) (k : FKind) : Prop := k = .disc ∨ (c.db.listener = .forceDisc ∧ k = .err)

/-- **disconnect_invalidates**: for EVERY state holding a DBAPI connection, the handling of
    an error classified as a disconnect returns the disconnect result (DBAPIError with
    `connection_invalidated=True`) and leaves the Connection invalidated (no DBAPI connection,
    reconnect allowed) with its transaction objects attached as they were. -/
theorem disconnect_invalidates (c : Conn) (k : FKind) (hd : c.hasDbapi = true)
    (hr : c.canReconnect = true) (hk : IsDisc c k) :
    (c.dbapiError k).2 = .disconnect ∧ (c.dbapiError k).1.invalidated = true ∧
    (c.dbapiError k).1.transaction = c.transaction ∧ (c.dbapiError k).1.txns = c.txns := by
  rw [dbapiError_disc c k hk, discError_spec c hd]
  simp [Conn.invalidated, hr]

/-- the pool side: unless a listener cleared `invalidate_pool_on_disconnect`, the pool's
    invalidation time moves past the birth of every connection that exists at that moment
    (so `get_connection` will recycle each of them instead of handing it out) -/
theorem disconnect_invalidates_pool (c : Conn) (k : FKind) (hd : c.hasDbapi = true)
    (hk : IsDisc c k) (hl : c.db.listener ≠ .noPoolInval) (ht : PoolTime c.db true) :
    ∀ r, some r ∈ (c.dbapiError k).1.db.idle → r.born < (c.dbapiError k).1.db.invalTime := by
  rw [dbapiError_disc c k hk, discError_spec c hd]
  have hl' : (c.db.listener == .noPoolInval) = false := by simpa using hl
  simp only [hl', Bool.false_eq_true, if_false]
  obtain ⟨_, hcur, _⟩ := ht.held rfl
  intro r hr
  have hr' : some r ∈ c.db.idle :=
    (poolInvalidate_shrinks c.db).idle r ((kill_shrinks c.db.poolInvalidate).idle r hr)
  have := (ht.idle r hr').1
  -- the held connection is of the current generation (`hcur`), so `poolInvalidate` fires and sets
  -- `invalTime := clock + 1`, above every `born ≤ clock`
  simp only [DB.kill, DB.poolInvalidate, hcur, if_true, DB.tick]
  omega

/-- **stale_never_handed_out**: after a disconnect was detected (pool invalidation not
    suppressed), through EVERY later history of API calls, close, garbage collection,
    new checkouts and extra pooled connections, the Connection never again holds a DBAPI connection that existed when
    the failure happened (their numbers are all below `nextRid` at the failure). -/
theorem stale_never_handed_out (c : Conn) (k : FKind) (hd : c.hasDbapi = true)
    (hk : IsDisc c k) (hl : c.db.listener ≠ .noPoolInval) (ht : PoolTime c.db true)
    (ops : List Op) :
    let c' := (c.dbapiError k).1.run ops
    c'.hasDbapi = true → c.db.nextRid ≤ c'.db.raw.rid := by
  intro c' hh
  have h0 : GenC c.db.nextRid (c.dbapiError k).1 := by
    have hpt : PoolTime (c.dbapiError k).1.db (c.dbapiError k).1.hasDbapi :=
      ((poolInv_gen 0).evo (dbapiError_evo (ctx := false) c k) (gen_zero (hd ▸ ht))).time
    have hstale := disconnect_invalidates_pool c k hd hk hl ht
    refine ⟨hpt, ⟨?_, fun r hr _ => hstale r hr, ?_⟩⟩
    · rw [dbapiError_disc c k hk, discError_spec c hd]
      -- `kill` and `poolInvalidate` leave `nextRid` alone
      dsimp only
      split
      · exact Nat.le_refl _
      · exact Nat.le_of_eq (poolInvalidate_nextRid c.db).symm
    · rw [dbapiError_disc c k hk, discError_spec c hd]
      intro e; cases e
  exact (run_gen ops _ h0).stale.held hh

/-- the clock discipline assumed above holds in every state reachable from a fresh engine (without
    `skip_autocommit_rollback`, `DB.init`'s default; the proof does not use that) -/
theorem pooltime_reachable (rs : ResetStyle) (ls : Listener) (eo : List Bool) (rc : Option Nat)
    (ops : List Op) :
    let c := (Conn.connect (DB.init rs ls eo rc)).run ops
    PoolTime c.db c.hasDbapi := by
  have h0 : GenC 0 (Conn.connect (DB.init rs ls eo rc)) := by
    refine (poolInv_gen 0).connectRaw (gen_zero ⟨?_, Nat.le_refl _, fun e => (by cases e)⟩)
    intro r hr; simp [DB.init] at hr
  exact (run_gen ops _ h0).time

/-- **pending_rollback_until_rollback** (one call): on an invalidated Connection whose
    transaction has not been rolled back, execute / begin / begin_nested / commit and
    commit of any transaction handle raise (PendingRollbackError or InvalidRequestError),
    the Connection stays blocked and NOTHING happens to the database or the pool. -/
theorem pending_rollback_until_rollback (c : Conn) (hb : Blocked c) (op : Op) (hu : op.uses = true) :
    (c.step op).2 ≠ .ok ∧ Blocked (c.step op).1 ∧ (c.step op).1.db = c.db :=
  blocked_step hb op hu

/-- … and therefore for every SEQUENCE of such calls: every single one raises, and at the
    end the database is exactly as it was and the Connection is still blocked. -/
theorem pending_rollback_run : ∀ (ops : List Op) (c : Conn), Blocked c → (∀ op ∈ ops, op.uses = true) →
    (∀ x ∈ c.trace ops, x.1 ≠ .ok) ∧ Blocked (c.run ops) ∧ (c.run ops).db = c.db := by
  intro ops
  induction ops with
  | nil => intro c hb _; exact ⟨fun x hx => (by cases hx), hb, rfl⟩
  | cons op ops ih =>
    intro c hb hu
    obtain ⟨h1, h2, h3⟩ := blocked_step hb op (hu op List.mem_cons_self)
    obtain ⟨i1, i2, i3⟩ := ih (c.step op).1 h2 (fun o ho => hu o (List.mem_cons_of_mem _ ho))
    refine ⟨?_, i2, i3.trans h3⟩
    intro x hx
    simp only [Conn.trace, List.mem_cons] at hx
    rcases hx with rfl | hx
    · exact h1
    · exact i1 x hx

/-- **reconnect_after_rollback**: in the blocked state (disconnect detected earlier),
    `rollback()` makes no DBAPI call, returns normally, detaches the transaction and ends
    every savepoint object; the next statement (no fault armed) then runs inside a new
    transaction on a freshly checked-out DBAPI connection.
    `PrevWF` / `RootPtr` are structural invariants of the handle table. -/
theorem reconnect_after_rollback (c : Conn) (hb : Blocked c) (hroot : RootPtr c) (hwf : PrevWF c)
    (hctx : c.ctxMgr = none) (hf : c.db.faults = []) (hl : c.db.listener ≠ .forceDisc) (s : Stmt) :
    c.rollback.2 = .ok ∧ c.rollback.1.db = c.db ∧ c.rollback.1.invalidated = true ∧
    c.rollback.1.inTransaction = false ∧ c.rollback.1.inNested = false ∧
    (let x := c.rollback.1.execute (.stmt s)
     (x.2 = .ok ∨ x.2 = .integrity) ∧ x.1.hasDbapi = true ∧ x.1.inTransaction = true ∧
       x.1.db.raw.rid = c.db.checkout.raw.rid) := by
  obtain ⟨hok, hdb, htr, hne, hgone, hrc, hcm, hinv, hnt, hnn⟩ := blocked_rollback hb hroot hwf
  refine ⟨hok, hdb, hinv, hnt, hnn, ?_⟩
  have := reconnect_execute hgone hrc htr hne (by rw [hcm]; exact hctx) (by rw [hdb]; exact hf)
    (by rw [hdb]; exact hl) s
  rw [hdb] at this
  exact this

/-- the same for every REACHABLE blocked state: the structural hypotheses are invariants
    (`wf_all`), so after any history that ends invalidated inside a transaction, `rollback()`
    un-blocks the Connection -/
theorem reconnect_after_rollback_reachable (rs : ResetStyle) (ls : Listener) (eo : List Bool) (rc : Option Nat)
    (ops : List Op) (hb : Blocked ((Conn.connect (DB.init rs ls eo rc)).run ops)) :
    let c := (Conn.connect (DB.init rs ls eo rc)).run ops
    c.rollback.2 = .ok ∧ c.rollback.1.db = c.db ∧ c.rollback.1.invalidated = true ∧
    c.rollback.1.inTransaction = false ∧ c.rollback.1.inNested = false := by
  have hw := run_wfc ops (Conn.connect (DB.init rs ls eo rc)) (wfc_empty rfl rfl rfl)
  obtain ⟨hok, hdb, _, _, _, _, _, hflags⟩ := blocked_rollback hb hw.rootPtr hw.prevWF
  exact ⟨hok, hdb, hflags⟩

/-- the connection obtained by that reconnect has no uncommitted work and no savepoints, given
    C24's invariant `PoolClean` -/
theorem reconnect_clean_connection (c : Conn) (hc : PoolClean c.db) :
    c.db.checkout.raw.working = c.db.checkout.committed ∧ c.db.checkout.raw.saves = [] :=
  ⟨(checkout_held_clean _ hc).1, (checkout_held_clean _ hc).2.1⟩

/-- **non_disconnect_leaves_pool**: a statement executed on a Connection that holds a DBAPI
    connection and fails with an error that is not a disconnect (IntegrityError, or an
    OperationalError the dialect does not classify, no reclassifying listener) leaves the
    Connection valid on the SAME DBAPI connection and the pool queue and invalidation time
    untouched — provided the error handler's own ROLLBACK (emitted when the statement failed
    before a transaction had begun) does not itself meet a dead connection
    (`handler_rollback_disconnect_invalidates` below covers that case). -/
theorem non_disconnect_leaves_pool (c : Conn) (q : Sql) (hd : c.hasDbapi = true)
    (hl : c.db.listener ≠ .forceDisc)
    (hnr : ∀ f, f ∈ c.db.faults → f.1 = .rollback → f.2 = .err)
    (hr : (c.execute q).2 = .operational ∨ (c.execute q).2 = .integrity) :
    (c.execute q).1.hasDbapi = true ∧ (c.execute q).1.db.raw.rid = c.db.raw.rid ∧
    (c.execute q).1.db.idle = c.db.idle ∧ (c.execute q).1.db.invalTime = c.db.invalTime := by
  rcases execute_poolSameUnless c q hd hl with h | h | h | h
  · exact ⟨by rw [h.hasDbapi]; exact hd, h.rid, h.idle, h.invalTime⟩
  · rcases hr with hr | hr <;> rw [h] at hr <;> cases hr
  · rcases hr with hr | hr <;> rw [h] at hr <;> cases hr
  · obtain ⟨f, hm, h1, h2⟩ := h
    exact absurd (hnr f hm h1) h2

/-- the handler itself, in any state; `hnr` excludes the case of `handler_rollback_disconnect_invalidates` -/
theorem plain_error_leaves_pool (c : Conn) (hl : c.db.listener ≠ .forceDisc)
    (hnr : ∀ f, f ∈ c.db.faults → f.1 = .rollback → f.2 = .err) :
    (c.dbapiError .err).2 = .operational ∧ (c.dbapiError .err).1.hasDbapi = c.hasDbapi ∧
    (c.dbapiError .err).1.db.idle = c.db.idle ∧ (c.dbapiError .err).1.db.invalTime = c.db.invalTime := by
  rw [dbapiError_err c hl]
  have h : PoolSame c c.plainError.1 := by
    rcases plainError_poolSame c with h | ⟨f, hm, h1, h2⟩
    · exact h
    · exact absurd (hnr f hm h1) h2
  refine ⟨?_, h.hasDbapi, h.idle, h.invalTime⟩
  exact plainError_cases (P := fun x => x.2 = .operational) c rfl (fun _ _ => rfl)
    (fun k _ _ hk hf _ => absurd (hnr _ (takeFault_some_mem hf) rfl) hk) (fun _ _ => rfl)

/-- **handler_rollback_disconnect_invalidates**: a statement fails with an ORDINARY error
    before a transaction has begun (cursor creation), the error handler emits its autorollback,
    and that ROLLBACK fails with a disconnect-classified error (re-entrant
    `_handle_dbapi_exception`): the error raised is the ordinary one, not flagged
    `connection_invalidated` — but Connection and pool end up exactly as if the disconnect
    had been met directly (so `disconnect_invalidates`, `disconnect_invalidates_pool` and
    `stale_never_handed_out` apply to what follows). -/
theorem handler_rollback_disconnect_invalidates (c : Conn) (db1 : DB) (hd : c.hasDbapi = true)
    (hr : c.canReconnect = true) (ht : c.inTransaction = false) (hs : c.db.skipsRollback = false)
    (hl : c.db.listener ≠ .forceDisc) (hf : c.db.takeFault .rollback = (some .disc, db1)) :
    (c.dbapiError .err).2 = .operational ∧ (c.dbapiError .err).1.invalidated = true ∧
    (c.dbapiError .err).1 = (({ c with db := db1 } : Conn).dbapiError .disc).1 := by
  have eplain : c.plainError = ((({ c with db := db1 } : Conn).discError).1, .operational) := by
    simp [Conn.plainError, ht, hd, hs, hf]
  have edisc : ({ c with db := db1 } : Conn).dbapiError .disc = ({ c with db := db1 } : Conn).discError :=
    dbapiError_disc _ _ (Or.inl rfl)
  rw [dbapiError_err c hl, eplain, edisc]
  refine ⟨rfl, ?_, rfl⟩
  have := disconnect_invalidates ({ c with db := db1 } : Conn) .disc hd hr (Or.inl rfl)
  rw [edisc] at this
  exact this.2.1

/-- **failed_reconnect_stays_invalidated**: when the transparent reconnect of an invalidated
    Connection fails (the creator raises — a plain error, a disconnect-classified error or a
    BaseException), the Connection simply stays invalidated: no DBAPI connection, no
    transaction, reconnect still possible, and the pool gained no usable connection. -/
theorem failed_reconnect_stays_invalidated (c : Conn) (hinv : c.invalidated = true)
    (ht : c.transaction = none) (hf : c.revalidate.2 ≠ .ok) :
    c.revalidate.1.invalidated = true ∧ c.revalidate.1.transaction = none ∧
    c.revalidate.1.txns = c.txns ∧
    (∀ r, some r ∈ c.revalidate.1.db.idle → some r ∈ c.db.idle) ∧
    c.revalidate.1.db.invalTime = c.db.invalTime ∧ c.revalidate.1.db.committed = c.db.committed := by
  revert hf
  refine revalidate_cases (P := fun x => x.2 ≠ .ok → x.1.invalidated = true ∧ x.1.transaction = none ∧
      x.1.txns = c.txns ∧ (∀ r, some r ∈ x.1.db.idle → some r ∈ c.db.idle) ∧
      x.1.db.invalTime = c.db.invalTime ∧ x.1.db.committed = c.db.committed) c
    (fun hn => absurd ⟨hinv, ht⟩ hn) (fun _ _ _ h => absurd rfl h) (fun _ _ db k r hx _ _ => ?_)
  obtain ⟨db1, hasRec, db2, hp, hfault, rfl⟩ := checkoutF_some hx
  obtain ⟨_, rfl, _⟩ := takeFault_only_faults hfault
  refine ⟨hinv, ht, rfl, ?_, ?_, ?_⟩
  · cases hasRec
    · exact hp.idle
    · exact fun r h => hp.idle r (mem_snoc_none h)
  · cases hasRec <;> exact hp.invalTime
  · cases hasRec <;> exact hp.committed

/-- **recycle_respects_invalidation**: whatever `pool_recycle` is configured (none, or any
    number of seconds — the age test and the invalidation-time test of
    `_ConnectionRecord.get_connection` are alternatives, not nested), a pooled connection is
    handed out only if it was born after the last pool invalidation. -/
theorem recycle_respects_invalidation (db : DB) (r : Raw) (h : db.checkoutPre.2.1 = some r) :
    some r ∈ db.idle ∧ db.invalTime ≤ r.born := by
  have := (checkoutPre_spec db).out r h
  exact ⟨this.1, by have := this.2; omega⟩

/-! ## where the unrestricted statement fails (finding F19)

Full statement (FALSE): "whenever rollback() has been called on a Connection whose DBAPI
connection turned out to be dead, no transaction or savepoint object remains current".
`reconnect_after_rollback` proves it when the disconnect was detected BEFORE rollback();
when it is first detected BY the ROLLBACK itself `RootTransaction._close_impl` skips the
cancellation of the savepoint objects. -/

def c0 : Conn := Conn.connect (DB.init .rollback)

theorem rollback_failure_counterexample :
    let ops : List Op := [.exec (.ins 1), .beginNested, .arm .rollback .disc, .rollback]
    ((c0.trace ops).map (·.1)).getLast? = some .disconnect ∧   -- rollback() raised the disconnect
    (c0.run ops).transaction = none ∧ (c0.run ops).invalidated = true ∧
    (c0.run ops).inNested = true ∧                              -- savepoint object still current+active
    -- the next statement reconnects and succeeds, and in_nested_transaction() is still True
    ((c0.run ops).step (.exec .sel)).2 = .ok ∧
    ((c0.run ops).step (.exec .sel)).1.inNested = true ∧
    -- its savepoint does not exist on the new DBAPI connection
    ((c0.run ops).step (.exec .sel)).1.db.raw.saves = [] ∧
    (((c0.run ops).step (.exec .sel)).1.step (.tRollback 1)).2 = .operational := by
  decide +kernel

/-- a reachable blocked state: disconnect during a statement inside a transaction with a savepoint -/
def blockedState : Conn :=
  c0.run [.warm 2, .begin, .exec (.ins 1), .beginNested, .arm .execute .disc, .exec (.ins 2)]

example : blockedState.hasDbapi = false ∧ blockedState.canReconnect = true ∧
    blockedState.transaction = some 0 := by decide +kernel
/-- the two pooled connections that existed at the failure are both stale afterwards -/
example : blockedState.db.idle.map (fun o => o.map (fun r => decide (r.born < blockedState.db.invalTime)))
    = [some true, some true, none] := by decide +kernel
/-- and after rollback the reconnect creates connection #3 rather than reusing #1 or #2 -/
example : ((blockedState.run [.rollback, .exec .sel]).db.raw.rid) = 3 := by decide +kernel
example : (c0.run [.warm 2, .begin, .exec (.ins 1)]).hasDbapi = true := by decide +kernel

/-- the history of a stale disconnect flag: disconnect on execute, rollback, a reconnect that
    fails with a disconnect-classified connect error, a reconnect that works, then a plain
    statement error — which must leave the Connection valid on the same DBAPI connection -/
def staleFlagOps : List Op :=
  [.begin, .arm .execute .disc, .exec (.ins 1), .rollback, .arm .connect .disc, .exec .sel, .exec .sel,
   .arm .execute .err, .exec (.ins 2)]

example : (c0.trace staleFlagOps).map (·.1) =
    [.ok, .ok, .disconnect, .ok, .ok, .disconnect, .ok, .ok, .operational] := by decide +kernel
example : (c0.run staleFlagOps).hasDbapi = true ∧
    (c0.run staleFlagOps).db.raw.rid = (c0.run (staleFlagOps.take 7)).db.raw.rid ∧
    (c0.run staleFlagOps).db.invalTime = (c0.run (staleFlagOps.take 7)).db.invalTime := by decide +kernel

/-- pool_recycle configured (not yet due): the connections pooled at the disconnect are still
    refused afterwards -/
def c0r : Conn := Conn.connect (DB.init .rollback .none [] (some 3600))
example : ((c0r.run [.warm 2, .arm .execute .disc, .exec (.ins 1), .rollback, .exec .sel]).db.raw.rid) = 3 := by
  decide +kernel
/-- pool_recycle due: an old pooled connection is replaced although no disconnect happened -/
def c0r2 : Conn := Conn.connect (DB.init .rollback .none [] (some 1))
example : ((c0r2.run [.warm 2, .close, .connect]).db.raw.rid) = 3 := by decide +kernel
example : ((c0.run [.warm 2, .close, .connect]).db.raw.rid) = 1 := by decide +kernel

/-- the handler's own autorollback meets the dead connection: the statement reports the
    ordinary error, the Connection is invalidated, the pooled connection #1 is stale and the
    next statement runs on a new connection #2 -/
def handlerOps : List Op := [.warm 1, .arm .cursor .err, .arm .rollback .disc, .exec .sel]
example : ((c0.trace handlerOps).map (·.1)).getLast? = some .operational ∧
    (c0.run handlerOps).invalidated = true ∧
    (c0.run handlerOps).db.idle.map (fun o => o.map (fun r => decide (r.born < (c0.run handlerOps).db.invalTime)))
      = [some true, none] ∧
    ((c0.run handlerOps).step (.exec .sel)).1.db.raw.rid = 2 := by decide +kernel

end SaVerif.Props.C27
