import SaVerif.Gen.Lifecycle
import SaVerif.Lemmas.SessNP
/-!
# C35 — object lifecycle states and events follow the documented state machine

The regenerated flag table (`Gen/Lifecycle.lean`, from orm/state.py) gives exactly one state
for every valuation (`decide` over the regenerated formulas: a source edit re-runs the proof).
The transcribed primitives that move an instance (`_after_attach`, `_detach_states`,
`_remove_newly_deleted`), called in ANY session state on an instance in the documented source
state, perform exactly the documented transition and log exactly its event.  For EVERY history
of operations every member of `session.new` is a pending instance.  The full statement ("for
every history the logged events replay to the actual state of every instance") is FALSE for
the code as it is: concrete witnesses (`*_counterexample`, `events_track_state_counterexample_*`),
each replayed on the real Session as a known finding (known_findings.d/C35.json).
-/
namespace SaVerif.Props.C35
open SaVerif.Gen.Lifecycle SaVerif.Sess

/-- the five `inspect(obj)` state flags for a valuation of
    (`key is not None`, `_attached`, `_deleted`), through the regenerated formulas -/
def flags (k a d : Bool) : List Bool :=
  [transient k a d, pending k a d, persistent k a d, deleted k a d, detached k a d]

/-- for every valuation of the three inputs exactly one of transient / pending / persistent /
    deleted / detached is true -/
theorem exactly_one_state : ∀ k a d : Bool, ((flags k a d).filter id).length = 1 := by decide +kernel

/-- `has_identity` is "persistent or detached" as its docstring says, *or deleted* -/
theorem has_identity_eq : ∀ k a d : Bool,
    has_identity k a d = (persistent k a d || detached k a d || deleted k a d) := by decide +kernel

theorem was_deleted_spec : ∀ k a d : Bool,
    (deleted k a d = true → was_deleted k a d = true) ∧
    (persistent k a d = true → was_deleted k a d = false) := by decide +kernel

/-- `_attached` needs a session id that is registered -/
theorem attached_spec : ∀ s l : Bool, attached s l = true ↔ (s = true ∧ l = true) := by decide +kernel

inductive LS where | T | P | S | D | X
  deriving DecidableEq, Repr

def lsOfFlags (k a d : Bool) : LS :=
  if transient k a d then .T else if pending k a d then .P else if persistent k a d then .S
  else if deleted k a d then .D else .X

theorem lsOfFlags_spec : ∀ k a d : Bool,
    (lsOfFlags k a d = .T ↔ transient k a d = true) ∧ (lsOfFlags k a d = .P ↔ pending k a d = true) ∧
    (lsOfFlags k a d = .S ↔ persistent k a d = true) ∧ (lsOfFlags k a d = .D ↔ deleted k a d = true) ∧
    (lsOfFlags k a d = .X ↔ detached k a d = true) := by decide +kernel

def ls (ob : Obj) : LS := lsOfFlags ob.key.isSome ob.att ob.del

/-- source and target of each lifecycle event (`none` = the instance did not exist) -/
def evSrc : Ev → Option LS
  | .t2p => some .T | .p2t => some .P | .s2t => some .S | .p2s => some .P | .x2s => some .X
  | .l2s => none | .s2d => some .S | .d2s => some .D | .d2x => some .D | .s2x => some .S

def evDst : Ev → LS
  | .t2p => .P | .p2t => .T | .s2t => .T | .p2s => .S | .x2s => .S
  | .l2s => .S | .s2d => .D | .d2s => .S | .d2x => .X | .s2x => .X

def replay : Option LS → List Ev → Option (Option LS)
  | s, [] => some s
  | s, e :: es => if evSrc e == s then replay (some (evDst e)) es else none

def evsOf (log : List (Ev × Oid)) (o : Oid) : List Ev := (log.filter (fun e => e.2 == o)).map (·.1)

/-- `_after_attach` on an instance that is not attached and does not carry `_deleted`:
    exactly one event is logged, it leaves the instance's state and enters its new state
    (transient→pending or detached→persistent). -/
theorem afterAttach_spec (σ : Sess) (o : Oid) (ho : o < σ.objs.length)
    (hatt : (getO σ o).att = false) (hdel : (getO σ o).del = false) :
    ∃ e, (afterAttach σ o).log = σ.log ++ [(e, o)] ∧ evSrc e = some (ls (getO σ o)) ∧
         evDst e = ls (getO (afterAttach σ o) o) := by
  rw [afterAttach_eq]
  refine ⟨_, (emit_setO_spec _ _ ho rfl rfl).1, ?_⟩
  rw [(emit_setO_spec _ _ ho rfl rfl).2, getO_setO_same _ _ _ ho]
  simp only [ls, hatt, hdel]
  cases (getO σ o).key.isSome <;> decide

/-- non-vacuity: attaching a fresh `Item(id=1)` -/
example : (afterAttach (newObj {} 1) 0).log = [(.t2p, 0)] := by decide +kernel

/-- one iteration of `InstanceState._detach_states` on an instance that IS attached to the
    session, whose `_deleted` flag implies an identity key, and that is not a deleted
    instance being sent to transient: exactly one event, matching the move. -/
theorem detachOne_spec (σ : Sess) (o : Oid) (toT : Bool) (ho : o < σ.objs.length)
    (hatt : (getO σ o).att = true) (hcoh : (getO σ o).del = true → (getO σ o).key.isSome = true)
    (hq : ¬ (toT = true ∧ (getO σ o).del = true)) :
    ∃ e, (detachOne toT σ o).log = σ.log ++ [(e, o)] ∧ evSrc e = some (ls (getO σ o)) ∧
         evDst e = ls (getO (detachOne toT σ o) o) := by
  rw [detachOne_eq]
  refine ⟨_, (emit_setO_spec _ _ ho rfl rfl).1, ?_⟩
  rw [(emit_setO_spec _ _ ho rfl rfl).2]
  simp only [ls, hatt, apply_ite Option.isSome, Option.isSome_none, ← Option.not_isSome]
  cases hd : (getO σ o).del with
  | true =>
    -- deleted: has a key (`hcoh`) and is not sent to transient (`hq`); deleted_to_detached
    rw [hcoh hd, show toT = false from Bool.eq_false_iff.2 fun e => hq ⟨e, hd⟩]
    decide
  | false =>
    -- pending_to_transient without a key; with one, persistent_to_transient / _to_detached by `toT`
    cases (getO σ o).key.isSome <;> cases toT <;> decide

/-- the excluded corner is a real one: a deleted instance sent to transient logs
    deleted_to_detached but ends transient (finding
    `c35-B:instance-ends-transient-but-logged-events-end-in-detached`) -/
theorem detachOne_deleted_to_transient_counterexample :
    let σ : Sess := { objs := [{ key := some 1, att := true, del := true }] }
    (detachOne true σ 0).log = [(.d2x, 0)] ∧ ls (getO (detachOne true σ 0) 0) = .T := by decide +kernel

/-- and so is the other: `_detach_states` on an instance that is no longer attached still
    logs an event (findings `c35-B:persistent_to_transient-fired-while-instance-was-not-persistent`,
    `c35-B:pending_to_transient-fired-while-instance-was-not-pending`) -/
theorem detachOne_unattached_counterexample :
    let σ : Sess := { objs := [{ key := some 1 }, { }] }
    ls (getO σ 0) = .X ∧ (detachOne true σ 0).log = [(.s2t, 0)] ∧
    ls (getO σ 1) = .T ∧ (detachOne true σ 1).log = [(.p2t, 1)] := by decide +kernel

/-- `_remove_newly_deleted` on a persistent instance: persistent→deleted with its event -/
theorem removeNewlyDeletedOne_spec (σ : Sess) (o : Oid) (ho : o < σ.objs.length)
    (hs : ls (getO σ o) = .S) :
    (removeNewlyDeletedOne σ o).log = σ.log ++ [(.s2d, o)] ∧
    ls (getO (removeNewlyDeletedOne σ o) o) = .D := by
  obtain ⟨τ, hτo, hτl, hτ⟩ := removeNewlyDeletedOne_eq σ o
  obtain ⟨hl, hg⟩ := emit_setO_spec (fun ob => { ob with del := true }) .s2d ho hτo hτl
  rw [hτ, hg]
  refine ⟨hl, ?_⟩
  revert hs
  simp only [ls]
  cases (getO σ o).key.isSome <;> cases (getO σ o).att <;> cases (getO σ o).del <;> decide

/-- after ANY history of operations (add, delete, flush incl. failures, commit, rollback,
    savepoints, expunge, close, merge, get, queries, refresh, primary-key changes,
    make_transient*) every member of `session.new` is an instance without
    identity key that is attached to the session. -/
theorem new_members_are_pending (eoc : Bool) (ops : List Op) : NP (run eoc ops) :=
  run_induction eoc ops (NP_of_new_nil rfl) NP_step

/-- in terms of the regenerated flag formulas: every member of `session.new` answers
    `inspect(obj).pending == True` (and, by `exactly_one_state`, no other state) -/
theorem new_members_flag_pending (eoc : Bool) (ops : List Op) (o : Oid) (h : o ∈ (run eoc ops).new) :
    pending (getO (run eoc ops) o).key.isSome (getO (run eoc ops) o).att (getO (run eoc ops) o).del = true ∧
    ls (getO (run eoc ops) o) = .P := by
  obtain ⟨hk, ha⟩ := new_members_are_pending eoc ops o h
  unfold ls
  rw [hk, ha]
  cases (getO (run eoc ops) o).del <;> decide

example : (run true [.new 1, .new 2, .add 0, .add 1, .flush, .new 3, .add 2]).new = [2] := by decide +kernel

/-- instance `o`'s logged events replay, from "transient" (or from nothing when the first
    event is loaded_as_persistent), exactly to its present state -/
def trackedObj (σ : Sess) (o : Oid) : Bool :=
  let evs := evsOf σ.log o
  let start : Option LS := match evs with
    | .l2s :: _ => none
    | _ => some .T
  replay start evs == some (some (ls (getO σ o)))

def tracked (σ : Sess) : Bool := (List.range σ.objs.length).all (trackedObj σ)

def usesSilentOps (ops : List Op) : Bool :=
  ops.any (fun op => match op with | .mt _ _ => true | .mtd _ => true | _ => false)

/-
FULL STATEMENT (false for the code as it is — see the counterexamples below):

  theorem events_track_state (eoc : Bool) (ops : List Op) (h : usesSilentOps ops = false) :
      tracked (run eoc ops) = true
-/

/-- non-vacuity / positive instances: ordinary histories do replay -/
example : tracked (run true [.new 1, .add 0, .flush, .delete 0, .commit]) = true := by decide +kernel
example : tracked (run true [.new 1, .new 2, .add 0, .add 1, .commit, .get 1, .delete 0, .flush,
                             .rollback, .expunge 1, .add 1, .close]) = true := by decide +kernel
example : tracked (run true [.new 1, .add 0, .nbegin, .new 2, .add 1, .flush, .nrollback, .commit]) = true := by decide +kernel

/-- `delete(obj); rollback()` without a flush logs deleted_to_persistent for an instance that
    never left the persistent state -/
theorem events_track_state_counterexample_delete_rollback :
    usesSilentOps [.new 1, .add 0, .commit, .delete 0, .rollback] = false ∧
    tracked (run true [.new 1, .add 0, .commit, .delete 0, .rollback]) = false := by decide +kernel

/-- insert + delete in one transaction, then rollback: deleted_to_detached, but transient -/
theorem events_track_state_counterexample_insert_delete_rollback :
    tracked (run true [.new 1, .add 0, .flush, .delete 0, .flush, .rollback]) = false := by decide +kernel

/-- insert, expunge, rollback: persistent_to_transient for a detached instance -/
theorem events_track_state_counterexample_expunge_rollback :
    tracked (run true [.new 1, .add 0, .flush, .expunge 0, .rollback]) = false := by decide +kernel

/-- delete of an expired instance followed by get(): persistent_to_deleted twice -/
theorem events_track_state_counterexample_delete_get :
    tracked (run true [.new 1, .add 0, .commit, .delete 0, .get 1]) = false := by decide +kernel

/-- a failed flush restores the snapshot, a later change makes rollback restore it again:
    pending_to_transient for an instance that is already transient -/
theorem events_track_state_counterexample_double_restore :
    tracked (run true [.new 1, .new 2, .new 1, .add 0, .flush, .add 2, .flush, .add 1, .rollback]) = false := by decide +kernel

/-- deleted instance expunged inside a SAVEPOINT, then commit: deleted_to_detached twice -/
theorem events_track_state_counterexample_expunge_in_savepoint :
    tracked (run true [.new 1, .add 0, .commit, .delete 0, .flush, .nbegin, .expunge 0, .commit]) = false := by decide +kernel

/-- delete() of an instance that is already in the deleted state -/
theorem events_track_state_counterexample_delete_twice :
    tracked (run true [.new 1, .add 0, .commit, .delete 0, .flush, .delete 0, .flush]) = false := by decide +kernel

/-- insert, change the primary key, flush, rollback: persistent_to_transient is logged but the
    key-switch loop restores the old key: the instance ends detached -/
theorem events_track_state_counterexample_keyswitch_rollback :
    tracked (run true [.new 1, .add 0, .flush, .setpk 0 2, .flush, .rollback]) = false ∧
    ls (getO (run true [.new 1, .add 0, .flush, .setpk 0 2, .flush, .rollback]) 0) = .X := by decide +kernel

/-- documented end states that are not reached (no event is wrong here, the transition
    itself is missing): with expire_on_commit=False a deleted instance survives commit in
    the deleted state; close() leaves a deleted instance attached -/
theorem commit_detaches_deleted_counterexample :
    ls (getO (run false [.new 1, .add 0, .commit, .delete 0, .commit]) 0) = .D ∧
    ls (getO (run true [.new 1, .add 0, .commit, .delete 0, .commit]) 0) = .X := by decide +kernel

theorem close_detaches_all_counterexample :
    ls (getO (run true [.new 1, .add 0, .commit, .delete 0, .flush, .close]) 0) = .D := by decide +kernel

end SaVerif.Props.C35
