import SaVerif.Lemmas.Evaluator
/-!
# C43 — ORM-enabled UPDATE/DELETE keep in-session objects in sync with the database

Property theorems about the evaluator model (`SaVerif/Model/Evaluator.lean`: transcription of
`orm/evaluator.py` and of the matched-object / SET loops of `orm/bulk_persistence.py`,
next to SQL three-valued semantics).

Full statement (FALSE, kept as a comment):

    theorem evaluator_eq_sql (o : Obj) (e : BExp) (he : evaluableB e = true) :
        evalPyB o e = .val (evalSqlB o.row e) ∨ evalPyB o e = .expired

It fails for six shapes of criteria and three of the UPDATE machinery; each is a guard of
the `_partial` theorems (computed by `violatedB` / `setsIndependent` / "no expired
attribute"), has a `_counterexample` below, and replays through
`Session.execute(update(...)/delete(...), synchronize_session=...)` on SQLite as a known
finding under its own key.
-/
namespace SaVerif.Props.C43
open SaVerif.Eval SaVerif.Like

/-- **evaluator_eq_sql_partial**: for every criteria tree the evaluator can compile, on
    every fully loaded object, if no guard fails the closure returns exactly the
    three-valued value SQL gives the rendered criteria on that row. -/
theorem evaluator_eq_sql_partial (o : Obj) (hxi : o.xi = []) (hxs : o.xs = []) (e : BExp)
    (he : evaluableB e = true) (hs : safeB true o.row e = true) :
    evalPyB o e = .val (evalSqlB o.row e) :=
  (agrees o hxi hxs true e he nofun hs).eq

/-- hence the objects the session treats as matched are the rows the statement matches -/
theorem evaluator_matched_eq_partial (o : Obj) (hxi : o.xi = []) (hxs : o.xs = []) (w : BExp)
    (he : evaluableB w = true) (hs : safeB true o.row w = true) :
    matchedPy o w = some (matchedSql o.row w) :=
  matched_of_rel o w (agrees o hxi hxs true w he nofun hs).rel

/-- **evaluator_matches_sql_partial**: when no NOT remains above an AND / OR, the
    AND-order guard is not needed: the evaluator may return None where SQL has FALSE, and
    the matched set is still exact. -/
theorem evaluator_matches_sql_partial (o : Obj) (hxi : o.xi = []) (hxs : o.xs = []) (w : BExp)
    (he : evaluableB w = true) (hn : notFree w = true) (hs : safeB false o.row w = true) :
    matchedPy o w = some (matchedSql o.row w) :=
  matched_of_rel o w (relB o hxi hxs w he hn hs)

/-- non-vacuity: a tree with AND, OR, NOT, IN, %, LIKE and a row with NULLs passing all guards -/
def sampleTree : BExp :=
  .not (.and [.or [.icmp .gt (.mod (.col 0) (.lit (some 3))) (.lit (some 1)), .inull false (.col 1)],
              .iin true (.col 0) [some 1, some 2],
              .like .startswith false false (.col 0) ['a', 'b'] none true])

def sampleObj : Obj := ⟨⟨[some 8, none], [some ['a', 'b', 'c']]⟩, [], []⟩

example : evaluableB sampleTree = true ∧ safeB true sampleObj.row sampleTree = true ∧
    evalSqlB sampleObj.row sampleTree = some false := by
  refine ⟨?_, by decide +kernel⟩
  simp only [sampleTree, evaluableB, evaluableL, evaluableI, evaluableS, cmpVisit]
  -- the names against the table as in `visitor_table`
  delta likeVisit
  simp only [supported_eq, Spell.key, String.toList_append, apply_ite String.toList]
  repeat rewrite [String.toList_ofList]
  rw [Spell.names_eq _ _ (by repeat' constructor)]
  decide +kernel

/-- operators without a visitor make `process()` raise UnevaluatableError: with
    'evaluate' the statement raises before executing, with 'auto' it falls back to 'fetch' -/
theorem unevaluable_ops (a : SExp) (p : List Char) (x y z : IExp) :
    evaluableB (.like .contains false false a p none false) = false ∧
    evaluableB (.like .startswith true false a p none false) = false ∧
    evaluableB (.like .startswith false true a p none false) = false ∧
    evaluableB (.between x y z) = false ∧
    evaluableB (.icmp .eq (.floordiv x y) z) = false ∧
    evaluableB (.icmp .eq (.neg x) z) = false ∧
    evaluableB (.icmp .eq (.add (.add x y) z) z) = false := by
  refine ⟨?_, ?_, ?_, ?_, ?_, ?_, ?_⟩
  · simp [evaluableB, supported_likeVisit]
  · simp [evaluableB, supported_likeVisit]
  · simp [evaluableB, supported_likeVisit]
  · simp [evaluableB, visitor_table.2.1]
  · simp [evaluableB, evaluableI, visitor_table.1]
  · simp [evaluableB, evaluableI]
  · simp [evaluableB, evaluableI, IExp.isAdd, visitor_table.2.2.1]

/-- `NOT (x > 0 AND y > 100)` on (NULL, 0): SQL TRUE, evaluator None -/
theorem and_null_before_false_counterexample :
    let e : BExp := .not (.and [.icmp .gt (.col 0) (.lit (some 0)), .icmp .gt (.col 1) (.lit (some 100))])
    let o : Obj := ⟨⟨[none, some 0], []⟩, [], []⟩
    evalSqlB o.row e = some true ∧ evalPyB o e = .val none ∧
      violatedB true o.row e = ["and-null-before-false"] := by decide +kernel

/-- `x % 3 = -1` on x = -7: SQL TRUE (truncation), evaluator False (floor-mod gives 2) -/
theorem mod_sign_counterexample :
    let e : BExp := .icmp .eq (.mod (.col 0) (.lit (some 3))) (.lit (some (-1)))
    let o : Obj := ⟨⟨[some (-7)], []⟩, [], []⟩
    evalSqlB o.row e = some true ∧ evalPyB o e = .val (some false) ∧
      violatedB true o.row e = ["mod-sign"] := by decide +kernel

/-- `x / y > 0` on (5, 0): SQL NULL, the evaluator raises ZeroDivisionError -/
theorem div_zero_counterexample :
    let e : BExp := .qcmp .gt (.col 0) (.col 1) (.lit (some 0))
    let o : Obj := ⟨⟨[some 5, some 0], []⟩, [], []⟩
    evalSqlB o.row e = none ∧ evalPyB o e = .zerodiv ∧
      violatedB true o.row e = ["div-zero"] := by decide +kernel

/-- `x NOT IN (1, NULL)` on x = 2: SQL NULL, evaluator True -/
theorem in_null_member_counterexample :
    let e : BExp := .iin true (.col 0) [some 1, none]
    let o : Obj := ⟨⟨[some 2], []⟩, [], []⟩
    evalSqlB o.row e = none ∧ evalPyB o e = .val (some true) ∧
      violatedB true o.row e = ["in-null-member"] := by decide +kernel

/-- `x NOT IN ()` on x = NULL: SQL TRUE, evaluator None -/
theorem in_empty_null_left_counterexample :
    let e : BExp := .iin true (.col 0) []
    let o : Obj := ⟨⟨[none], []⟩, [], []⟩
    evalSqlB o.row e = some true ∧ evalPyB o e = .val none ∧
      violatedB true o.row e = ["in-empty-null-left"] := by decide +kernel

/-- `s.startswith('a%')` on 'axb' (wildcard taken literally) and
    `s.endswith('_', autoescape=True)` on 'a_' (escaped text taken literally) -/
theorem like_wildcard_or_escape_counterexample :
    let e1 : BExp := .like .startswith false false (.col 0) ['a', '%'] none false
    let e2 : BExp := .like .endswith false false (.col 0) ['_'] none true
    let o1 : Obj := ⟨⟨[], [some ['a', 'x', 'b']]⟩, [], []⟩
    let o2 : Obj := ⟨⟨[], [some ['a', '_']]⟩, [], []⟩
    evalSqlB o1.row e1 = some true ∧ evalPyB o1 e1 = .val (some false) ∧
    evalSqlB o2.row e2 = some true ∧ evalPyB o2 e2 = .val (some false) ∧
      violatedB true o1.row e1 = ["like-wildcard-or-escape"] := by decide +kernel

/-- **update_fetch_sync_partial**: with 'fetch' the matched rows come from the database, so
    only the SET guards remain (the values are still computed by the evaluator). -/
theorem update_fetch_sync_partial (r : Row) (w : BExp) (sets : List (Nat × IExp))
    (hset : ∀ p ∈ sets, evaluableI p.2 = true ∧ safeI r p.2 = true)
    (hind : setsIndependent sets = true) :
    syncUpdateFetch w sets ⟨r, [], []⟩ = .ok ⟨dbUpdate w sets r, [], []⟩ := by
  simp only [syncUpdateFetch, dbUpdate]
  cases matchedSql r w
  · rfl
  · simpa using syncSets_eq_sim sets r [] hset hind

/-- **update_evaluate_sync_partial**: after a bulk UPDATE with synchronize_session='evaluate'
    a fully loaded object holds exactly the row the database now holds. -/
theorem update_evaluate_sync_partial (r : Row) (w : BExp) (sets : List (Nat × IExp))
    (he : evaluableB w = true) (hs : safeB true r w = true)
    (hset : ∀ p ∈ sets, evaluableI p.2 = true ∧ safeI r p.2 = true)
    (hind : setsIndependent sets = true) :
    syncUpdateEvaluate w sets ⟨r, [], []⟩ = .ok ⟨dbUpdate w sets r, [], []⟩ := by
  rw [syncUpdateEvaluate_val w sets _ (evaluator_eq_sql_partial ⟨r, [], []⟩ rfl rfl w he hs)]
  -- what is left is `syncUpdateFetch`, word for word
  show syncUpdateFetch w sets ⟨r, [], []⟩ = _
  exact update_fetch_sync_partial r w sets hset hind

/-- **delete_evaluate_sync_partial**: an object leaves the session iff its row is deleted. -/
theorem delete_evaluate_sync_partial (r : Row) (w : BExp)
    (he : evaluableB w = true) (hs : safeB true r w = true) :
    syncDeleteEvaluate w ⟨r, [], []⟩ = (if matchedSql r w then .removed else .kept) :=
  -- `matchedSql r w` is by definition `evalSqlB r w == some true`
  syncDeleteEvaluate_val w _ (evaluator_eq_sql_partial ⟨r, [], []⟩ rfl rfl w he hs)

/-- **expired_sound**: a result other than `_EXPIRED_OBJECT` never depended on an expired
    attribute — it is the result on the fully loaded object, whatever the database holds
    in the expired columns (`r'` = any row agreeing with the object on its loaded attributes). -/
theorem expired_sound (o : Obj) (r' : Row)
    (hi : ∀ i, o.xi.contains i = false → r'.ints.getD i none = o.row.ints.getD i none)
    (hs : ∀ i, o.xs.contains i = false → r'.strs.getD i none = o.row.strs.getD i none)
    (e : BExp) (h : evalPyB o e ≠ .expired) : evalPyB ⟨r', [], []⟩ e = evalPyB o e :=
  expired_sound_B o r' hi hs e h

/-- **delete_partially_expired_sync_partial**: bulk DELETE on a partially expired object:
    unless the object is expired as a whole, its removal follows the actual database row. -/
theorem delete_partially_expired_sync_partial (o : Obj) (r' : Row) (w : BExp)
    (hi : ∀ i, o.xi.contains i = false → r'.ints.getD i none = o.row.ints.getD i none)
    (hs : ∀ i, o.xs.contains i = false → r'.strs.getD i none = o.row.strs.getD i none)
    (he : evaluableB w = true) (hsafe : safeB true r' w = true)
    (h : syncDeleteEvaluate w o ≠ .expiredAll) :
    syncDeleteEvaluate w o = (if matchedSql r' w then .removed else .kept) := by
  have h1 := expired_sound o r' hi hs w fun hh => h (by rw [syncDeleteEvaluate, hh])
  have h2 := delete_evaluate_sync_partial r' w he hsafe
  rw [syncDeleteEvaluate] at h2 ⊢
  rwa [h1] at h2

example : syncDeleteEvaluate (.and [.icmp .gt (.col 0) (.lit (some 100)), .icmp .gt (.col 1) (.lit (some 0))])
    ⟨⟨[some 1, some 2], []⟩, [1], []⟩ = .kept := by decide +kernel

example : syncUpdateEvaluate (.icmp .gt (.col 0) (.lit (some 1))) [(1, .add (.col 0) (.lit (some 1)))]
    ⟨⟨[some 5, some 0], []⟩, [], []⟩ = .ok ⟨⟨[some 5, some 6], []⟩, [], []⟩ := by decide +kernel

/-- `SET x = y, y = x`: the session ends with (y, y), the database with (y, x) -/
theorem set_clause_sequential_counterexample :
    let sets : List (Nat × IExp) := [(0, .col 1), (1, .col 0)]
    let r : Row := ⟨[some 1, some 2], []⟩
    syncUpdateFetch (.const (some true)) sets ⟨r, [], []⟩ = .ok ⟨⟨[some 2, some 2], []⟩, [], []⟩ ∧
      dbUpdate (.const (some true)) sets r = ⟨[some 2, some 1], []⟩ ∧
      setsIndependent sets = false := by decide +kernel

/-- UPDATE … WHERE y > 100 with `y` expired on the object: the object is treated as
    matched and gets the SET value although its row (y = 2) does not match -/
theorem update_expired_where_counterexample :
    let w : BExp := .icmp .gt (.col 1) (.lit (some 100))
    let sets : List (Nat × IExp) := [(0, .lit (some 77))]
    let o : Obj := ⟨⟨[some 1, some 2], []⟩, [1], []⟩
    syncUpdateEvaluate w sets o = .ok ⟨⟨[some 77, some 2], []⟩, [1], []⟩ ∧
      dbUpdate w sets o.row = o.row ∧
      syncDeleteEvaluate w o = .expiredAll := by decide +kernel

/-- a SET value reading an expired attribute stores the `_EXPIRED_OBJECT` sentinel -/
theorem set_value_expired_counterexample :
    syncUpdateFetch (.const (some true)) [(0, .add (.col 1) (.lit (some 1)))]
      ⟨⟨[some 1, some 2], []⟩, [1], []⟩ = .sentinel := by decide +kernel

/-- **bulk_by_pk_sync**: `session.execute(update(E), [ {pk, col: value…}, … ])` with
    'evaluate' synchronisation: for any list of parameter sets — in any order, whether or
    not the object of an earlier set is loaded — every loaded, unexpired attribute of every
    in-session object still equals the database value afterwards. -/
theorem bulk_by_pk_sync (params : List BulkParam) (slots : List Slot)
    (h : ∀ s ∈ slots, SlotOk s) : ∀ s ∈ bulkByPk params slots, SlotOk s := by
  induction params generalizing slots with
  | nil => exact h
  | cons p ps ih => exact ih _ (bulkStep_ok p slots h)

/-- an unloaded target earlier in the list does not stop the later ones -/
example : bulkByPk [(2, [(0, some 9)]), (3, [(0, some 8)])]
    [⟨2, [some 1], none⟩, ⟨3, [some 1], some ([some 1], [])⟩] =
    [⟨2, [some 9], none⟩, ⟨3, [some 8], some ([some 8], [])⟩] := by decide +kernel

end SaVerif.Props.C43
