import SaVerif.Lemmas.Literal
import SaVerif.Gen.LiteralTables
/-!
# C05 — Literal rendering is equivalent to binding and cannot inject SQL

Theorems about M-STR/literals (`SaVerif/Model/Literal.lean`).  The string-literal
configurations (`SaVerif/Gen/LiteralTables.lean`) are regenerated from the working
tree on every run, so an edit to `String.literal_processor`, to MSSQL's
`_UnicodeLiteral` or to a compiler's `render_literal_value` re-runs the proofs.
-/
namespace SaVerif.Props.C05
open SaVerif.Ident SaVerif.Literal SaVerif.Gen.LiteralTables

/-- the statement text as the server receives it (DBAPI `%` formatting under
    `format`/`pyformat`) -/
def sent (c : Cfg) (t : Str) : Option Str := if dblLit c then unPercent t else some t

/-- **lex_render_string** — for every string value `s` (any code points: quotes,
    backslashes, percent signs, newlines, NUL, unicode) and any following text that
    does not start with a quote, the rendered literal is exactly one string token of
    the backend and decodes to `s`: the literal cannot end early, swallow what follows,
    or change the statement's shape. -/
theorem lex_render_string (c : Cfg) (h : wfLit c = true) (mode : Nat)
    (hm : bsLit c = (mode != 0)) (hesc : decodeEsc mode 92 = [92]) (s rest : Str)
    (hr : ∀ x t, rest = x :: t → x ≠ 39) :
    ∃ t, sent c (renderString c s) = some t ∧
      lexString mode (npreLit c) (t ++ rest) = some (s, rest) := by
  have hlex := lexStrAux_dup mode (bsLit c) hm s rest hr
  have hpre := (wfLit_sound h).pre
  refine ⟨c.pre ++ s.flatMap (dup (39 :: if bsLit c then [92] else [])) ++ [39], ?_, ?_⟩
  · rw [renderString_dup c h]
    unfold sent
    cases hd : dblLit c with
    | false => rfl
    | true =>
      -- `%` formatting passes the prefix, halves the `%%` of the body and passes the closing quote
      have hp : 37 ∉ c.pre := by rcases hpre with e | e <;> rw [e] <;> decide
      have hflt : ∀ b : Bool, (39 :: ([37] ++ if b then [92] else [])).filter (· != 37) =
          39 :: if b then [92] else [] := by decide
      simp only [if_true, unPercent, List.append_assoc]
      rw [unPercentAux_free c.pre _ hp,
        unPercentAux_dup (l := 39 :: ([37] ++ _)) (List.mem_cons_of_mem _ List.mem_cons_self), hflt]
      rfl
  · rcases hpre with e | e <;> simpa [npreLit, e, lexString] using hlex

/-- the configurations shipped, each with the escape mode of its backend's tokenizer
    (0 = quote doubling only, 1 = MySQL backslash escapes, 2 = PostgreSQL with
    standard_conforming_strings = off) — the pairing is trusted documentation -/
def configs : List (Cfg × Nat) :=
  [(default, 0), (sqlite, 0), (postgresql, 0), (postgresqlbs, 2), (pgasyncpg, 0), (mysql, 1),
   (mysqlnobs, 0), (mariadb, 1), (mssql, 0), (mssqln, 0), (oracle, 0)]

theorem configs_wf : ∀ x ∈ configs, wfLit x.1 = true ∧ bsLit x.1 = (x.2 != 0) := by decide +kernel

/-- **lex_render_string** for every shipped configuration -/
theorem lex_render_string_dialects (x : Cfg × Nat) (hx : x ∈ configs) (s rest : Str)
    (hr : ∀ y t, rest = y :: t → y ≠ 39) :
    ∃ t, sent x.1 (renderString x.1 s) = some t ∧
      lexString x.2 (npreLit x.1) (t ++ rest) = some (s, rest) :=
  lex_render_string x.1 (configs_wf x hx).1 x.2 (configs_wf x hx).2 (decodeEsc_bs x.2) s rest hr

/-- **render_int_roundtrip** — `str(int(v))` is one numeric token with value `v` -/
theorem render_int_roundtrip (i : Int) (rest : Str) (hr : ∀ x t, rest = x :: t → isDigit x = false) :
    lexInt (renderInt i ++ rest) = some (i, rest) := by
  cases i with
  | ofNat n =>
    obtain ⟨hne, hd, hv⟩ := natStr_spec n
    have htw := ListFacts.takeWhile_dropWhile_append hd hr
    simp only [renderInt]
    unfold lexInt
    split
    · rename_i u heq
      cases hn : natStr n with
      | nil => exact absurd hn hne
      | cons a t =>
        rw [hn] at heq hd
        cases heq
        exact absurd (hd 45 List.mem_cons_self) (by decide)
    · have hemp : (natStr n).isEmpty = false := by simpa using hne
      simp [htw.1, htw.2, hemp, hv]
  | negSucc n =>
    obtain ⟨hne, hd, hv⟩ := natStr_spec (n + 1)
    have htw := ListFacts.takeWhile_dropWhile_append hd hr
    have hemp : (natStr (n + 1)).isEmpty = false := by simpa using hne
    simp only [renderInt, List.cons_append, lexInt, htw.1, htw.2, hemp, hv]
    simp [Int.negSucc_eq]

/-- full statement (false): "a rendered integer is one numeric token wherever it is
    placed".  A negative literal directly after a unary minus forms `--`, which every
    backend reads as a comment to the end of the line (replayed on SQLite by the harness). -/
theorem int_after_minus_counterexample (n : Nat) :
    startsLineComment (45 :: renderInt (Int.negSucc n)) = true := by
  simp [renderInt, startsLineComment]

/-- **temporal literals** — the rendered `'…isoformat…'` text of a date, a time or a
    datetime is untouched by the compiler's backslash pass, contains no percent sign
    (so the DBAPI's formatting leaves it alone) and is one string token whose content
    is the ISO text, on every shipped configuration. -/
theorem temporal_literal_one_token (x : Cfg × Nat) (hx : x ∈ configs) (rest : Str)
    (hr : ∀ y t, rest = y :: t → y ≠ 39) (y m d h mi s us : Nat) :
    lexString x.2 false (renderDate x.1 y m d ++ rest) = some (isoDate y m d, rest) ∧
    lexString x.2 false (renderTime x.1 h mi s us ++ rest) = some (isoTime h mi s us, rest) ∧
    lexString x.2 false (renderDateTime x.1 y m d h mi s us ++ rest)
      = some (isoDate y m d ++ 32 :: isoTime h mi s us, rest) ∧
    37 ∉ renderDate x.1 y m d ∧ 37 ∉ renderTime x.1 h mi s us ∧
    37 ∉ renderDateTime x.1 y m d h mi s us := by
  obtain ⟨hw, hm⟩ := configs_wf x hx
  have hdt : ∀ c ∈ isoDate y m d ++ 32 :: isoTime h mi s us, isPlain c = true := by
    intro c hc
    simp only [List.mem_append, List.mem_cons] at hc
    rcases hc with hc | hc | hc
    · exact isoDate_plain _ _ _ c hc
    · subst hc; decide
    · exact isoTime_plain _ _ _ _ c hc
  have h1 := plain_literal x.1 hw x.2 hm (isoDate y m d) rest (isoDate_plain y m d) hr
  have h2 := plain_literal x.1 hw x.2 hm (isoTime h mi s us) rest (isoTime_plain h mi s us) hr
  have h3 := plain_literal x.1 hw x.2 hm _ rest hdt hr
  rw [← List.cons_append] at h3
  exact ⟨h1.1, h2.1, h3.1, h1.2, h2.2, h3.2⟩

theorem bool_none_keywords : ∀ x ∈ configs, ∀ b : Bool,
    (renderBool x.1 b = [116, 114, 117, 101] ∨ renderBool x.1 b = [102, 97, 108, 115, 101] ∨
     renderBool x.1 b = [49] ∨ renderBool x.1 b = [48]) ∧ renderNone x.1 = [78, 85, 76, 76] := by
  decide +kernel

/-- `_process_positional` leaves any text without the two characters `%(` untouched (the
    hypothesis is needed: `positional_pass_counterexample`) -/
theorem positional_pass_identity (repl : Str) : ∀ (fuel : Nat) (t : Str),
    hasPctParen t = false → subPyformat repl fuel t = t := by
  intro fuel
  induction fuel with
  | zero => intro t _; cases t <;> rfl
  | succ k ih =>
    intro t h
    cases t with
    | nil => rfl
    | cons c u =>
      simp only [subPyformat, matchPyformat_none _ h]
      rw [hasPctParen_cons, Bool.or_eq_false_iff] at h
      rw [ih u h.2]

/-- **literal_survives_postprocessing_partial** — on a configuration without percent
    doubling (the positional dialects: SQLite's qmark, asyncpg's numeric), a string value
    that does not contain `%(` renders to a literal that `_process_positional` leaves
    untouched, whatever else it contains.  (Full statement without the hypothesis is
    false: `positional_pass_counterexample`.) -/
theorem literal_survives_postprocessing_partial (c : Cfg) (h : wfLit c = true)
    (hd : dblLit c = false) (s : Str) (hs : hasPctParen s = false) (repl : Str) (fuel : Nat) :
    subPyformat repl fuel (renderString c s) = renderString c s := by
  apply positional_pass_identity
  have hbody : hasPctParen (s.flatMap (dup (39 :: if bsLit c then [92] else [])) ++ [39]) = false := by
    rw [hasPctParen_dup (by cases bsLit c <;> decide), hasPctParen_snoc (by decide), hs]
  rw [renderString_dup c h, hd, List.append_assoc]
  rcases (wfLit_sound h).pre with e | e <;> simp [e, hasPctParen_cons, hbody]

/-- the literal `'%(x)s'` rendered for SQLite (qmark) is rewritten to `'?'` -/
theorem positional_pass_counterexample :
    subPyformat [63] 20 (renderString sqlite [37, 40, 120, 41, 115]) = [39, 63, 39] := by
  decide +kernel

example : renderString mysql (ofS "a'b\\c%d") = ofS "'a''b\\\\c%%d'" := by
  rw [ofS_ofList, ofS_ofList]
  decide +kernel
example : lexString 1 false (ofS "'a''b\\\\c%d' AND x") = some (ofS "a'b\\c%d", ofS " AND x") := by
  rw [ofS_ofList, ofS_ofList, ofS_ofList]
  decide +kernel
example : renderString mssqln (ofS "x'") = ofS "N'x'''" := by
  rw [ofS_ofList, ofS_ofList]
  decide +kernel
example : lexInt (renderInt (-120) ++ ofS ")") = some (-120, ofS ")") := by
  rw [ofS_ofList]
  decide +kernel
example : renderInt 0 = [48] := by decide +kernel
example : renderDateTime mysql 5 1 2 3 4 5 6 = ofS "'0005-01-02 03:04:05.000006'" := by
  rw [ofS_ofList]
  decide +kernel
-- an unescaped quote would end the token early: the lexer really distinguishes
example : lexString 0 false (ofS "'a'b'") = some (ofS "a", ofS "b'") := by
  rw [ofS_ofList, ofS_ofList, ofS_ofList]
  decide +kernel
example : lexString 1 false (ofS "'a\\' OR 1=1 --'") = some (ofS "a' OR 1=1 --", []) := by
  rw [ofS_ofList, ofS_ofList]
  decide +kernel

end SaVerif.Props.C05
