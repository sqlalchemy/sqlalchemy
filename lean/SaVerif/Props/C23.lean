import SaVerif.Lemmas.TxnSim
import SaVerif.Lemmas.TxnCtx
import SaVerif.Lemmas.TxnEvo
/-!
# C23 — Connection transactions and savepoints have nested-transaction semantics

Property theorems about M-TXN (`SaVerif/Model/Txn.lean`, transcription of
Connection / RootTransaction / NestedTransaction / TransactionalContext in
`lib/sqlalchemy/engine/base.py`, `engine/util.py`) against the stack-of-scopes
specification `SaVerif/Model/TxnSpec.lean`.
-/
namespace SaVerif.Props.C23
open SaVerif.Txn

/-- what an outside observer and the API user can see of a model state, compared with the spec -/
def Observed (ri : Res × Conn) (si : Res × Spec) : Prop :=
  ri.1 = si.1 ∧                                  -- same result class (ok / which error)
  ri.2.db.committed = si.2.committed ∧            -- rows other connections see
  ri.2.db.raw.working = si.2.cur ∧                -- rows this connection sees
  ri.2.inTransaction = si.2.root.isSome ∧         -- Connection.in_transaction()
  ri.2.inNested = !si.2.scopes.isEmpty            -- Connection.in_nested_transaction()

theorem sim_observed {c : Conn} {s : Spec} (h : Sim c s) (r : Res) : Observed (r, c) (r, s) := by
  refine ⟨rfl, h.committed, h.working, ?_, ?_⟩
  · cases hr : s.root with
    | none => simp [Conn.inTransaction, h.root, hr]
    | some t => simp [sim_inTransaction h hr]
  · cases hs : s.scopes with
    | nil => simp [Conn.inNested, sim_nested_nil h hs]
    | cons sc rest =>
      obtain ⟨hn, _, _, hact, _⟩ := sim_innermost h hs
      simp [Conn.inNested, hn, hact]

theorem init_sim (rs : ResetStyle) : Sim (Conn.connect (DB.init rs)) Spec.init := by
  refine
    { dbapi := rfl, reconn := rfl, nofault := rfl, nolistener := rfl, noctx := rfl, noauto := rfl,
      kindsLen := rfl, kindsAt := (fun _ hx => by simp [Conn.connect] at hx),
      committed := rfl, working := rfl, root := rfl,
      rootOk := (fun _ ht => by simp [Spec.init] at ht), rootNone := fun _ => rfl,
      clean := fun _ => rfl, savesNone := fun _ => rfl,
      chain := .nil _,
      saves := by simp [Spec.init, specSaves],
      sorted := List.Pairwise.nil, bound := (fun p hp => by cases hp),
      others := fun _ hx => by simp [Conn.connect] at hx }

inductive Matches : List (Res × Conn) → List (Res × Spec) → Prop
  | nil : Matches [] []
  | cons {a b l₁ l₂} : Observed a b → Matches l₁ l₂ → Matches (a :: l₁) (b :: l₂)

/-- **refines_nested_spec** (general form): from ANY pair of related states, EVERY
    operation sequence the specification accepts (well-nested use: begin, begin_nested,
    statements, connection- and handle-level commit / rollback / close, including
    operations on ended handles, double commit, begin inside a transaction, failing
    statements) is matched step by step by the transcribed Connection state machine:
    same result class, same rows visible to other connections, same rows seen by the
    connection, same `in_transaction()` / `in_nested_transaction()`. -/
theorem refines_nested_spec_from :
    ∀ (ops : List Op) (c : Conn) (s : Spec) (tr : List (Res × Spec)),
      Sim c s → Spec.trace s ops = some tr → Matches (c.trace ops) tr := by
  intro ops
  induction ops with
  | nil =>
    intro c s tr _ ht
    cases ht
    exact Matches.nil
  | cons op ops ih =>
    intro c s tr h ht
    have hm := step_sim_match h op
    unfold Spec.trace at ht
    cases hst : s.step op with
    | none => rw [hst] at ht; cases ht
    | some p =>
      obtain ⟨s1, r⟩ := p
      rw [hst] at ht hm
      dsimp only at ht hm
      cases htr : Spec.trace s1 ops with
      | none => rw [htr] at ht; cases ht
      | some rest =>
        rw [htr] at ht
        cases ht
        exact Matches.cons (hm.2 ▸ sim_observed hm.1 _) (ih _ _ _ hm.1 htr)

theorem sim_run :
    ∀ (ops : List Op) (c : Conn) (s s' : Spec), Sim c s → Spec.run s ops = some s' →
      Sim (c.run ops) s' := by
  intro ops
  induction ops with
  | nil =>
    intro c s s' h hs
    cases hs
    exact h
  | cons op ops ih =>
    intro c s s' h hs
    have hm := step_sim_match h op
    unfold Spec.run at hs
    cases hst : s.step op with
    | none => rw [hst] at hs; cases hs
    | some p =>
      rw [hst] at hs hm
      exact ih _ _ s' hm.1 hs

/-- **refines_nested_spec**: the same for a fresh Connection on an empty database. -/
theorem refines_nested_spec (rs : ResetStyle) (ops : List Op) (tr : List (Res × Spec))
    (h : Spec.trace Spec.init ops = some tr) :
    Matches ((Conn.connect (DB.init rs)).trace ops) tr :=
  refines_nested_spec_from ops _ _ tr (init_sim rs) h

/-- corollary: the rows other connections see after a whole accepted history are the
    specification's committed rows (a savepoint rollback undid exactly the work since that
    savepoint, an outer rollback all uncommitted work) -/
theorem committed_after_history (rs : ResetStyle) (ops : List Op) (s' : Spec)
    (h : Spec.run Spec.init ops = some s') :
    ((Conn.connect (DB.init rs)).run ops).db.committed = s'.committed :=
  (sim_run ops _ _ s' (init_sim rs) h).committed

/-- **ended_commit_raises_no_effect**: `commit()` on a transaction object that is no
    longer active raises (PendingRollbackError while it is still the connection's current
    transaction, InvalidRequestError otherwise) and leaves the ENTIRE state unchanged —
    for every state, reachable or not, with or without armed faults. -/
theorem ended_commit_raises_no_effect (c : Conn) (h : Nat) (hi : c.act h = false) :
    (c.tCommit h).1 = c ∧
    ((c.tCommit h).2 = .pendingRollback ∨ (c.tCommit h).2 = .invalidRequest) := by
  rw [tCommit_ended c h hi]
  cases c.attached h
  · exact ⟨rfl, .inr rfl⟩
  · exact ⟨rfl, .inl rfl⟩

/-- **ended_nested_rollback_no_effect**: `rollback()` / `close()` on an ended, detached
    savepoint object returns normally and changes nothing but the warning counter — for
    every state. -/
theorem ended_nested_rollback_no_effect (c : Conn) (h : Nat) (warn : Bool)
    (hr : (c.txn h).isRoot = false) (hi : (c.txn h).active = false) (hd : c.nested ≠ some h) :
    (c.nestedCloseImpl h warn).2 = .ok ∧
    (∀ x, (c.nestedCloseImpl h warn).1.txn x = c.txn x) ∧
    (c.nestedCloseImpl h warn).1.db = c.db ∧
    (c.nestedCloseImpl h warn).1.transaction = c.transaction ∧
    (c.nestedCloseImpl h warn).1.nested = c.nested ∧
    (c.nestedCloseImpl h warn).1.ctxMgr = c.ctxMgr := by
  rw [nestedCloseImpl_ended c h warn hi hd]
  cases warn <;> exact ⟨rfl, deactivate_txn_inactive c h hi, rfl, rfl, rfl, rfl⟩

/-- `rollback()`/`close()` on an ended root transaction object: no effect *provided no
    savepoint object is current*.
    Full statement (false, see `stale_root_rollback_counterexample`):
      ∀ c h, isRoot h → ¬active h → c.transaction ≠ some h → (c.rootCloseImpl h b).1 ≈ c -/
theorem ended_root_rollback_no_effect_partial (c : Conn) (h : Nat) (b : Bool)
    (hi : c.act h = false) (hd : c.transaction ≠ some h) (hn : c.nested = none) :
    (c.rootCloseImpl h b).2 = .ok ∧
    (c.rootCloseImpl h b).1.txns = c.txns ∧
    (c.rootCloseImpl h b).1.db = c.db ∧
    (c.rootCloseImpl h b).1.transaction = c.transaction ∧
    (c.rootCloseImpl h b).1.nested = c.nested := by
  rw [rootCloseImpl_ended c h b hi hd hn]
  cases b <;> exact ⟨rfl, rfl, rfl, rfl, rfl⟩

/-- **close_rolls_back_all**: closing a Connection in any simulated state returns normally,
    leaves the rows visible to other connections unchanged, ends every transaction and
    savepoint, and the DBAPI connection goes back to the pool without uncommitted work and
    without savepoints (whatever reset_on_return is). -/
theorem close_rolls_back_all {c : Conn} {s : Spec} (h : Sim c s) :
    c.close.2 = .ok ∧ c.close.1.closed = true ∧
    c.close.1.db.committed = s.committed ∧
    c.close.1.inTransaction = false ∧ c.close.1.inNested = false ∧
    ∃ r, c.close.1.db.idle = c.db.idle ++ [some r] ∧ r.working = s.committed ∧ r.saves = [] := by
  have release_sim : ∀ {c : Conn} {s : Spec}, Sim c s → s.root = none → ∀ b : Bool,
      (c.release b).closed = true ∧ (c.release b).db.committed = s.committed ∧
      (c.release b).inTransaction = false ∧ (c.release b).inNested = false ∧
      ∃ r, (c.release b).db.idle = c.db.idle ++ [some r] ∧ r.working = s.committed ∧ r.saves = [] := by
    intro c s h hr b
    have hcl : HeldClean c.db := ⟨by rw [h.working, h.committed, h.clean hr], h.savesNone hr⟩
    simp only [Conn.release, h.dbapi, if_true, Conn.closed, Conn.inTransaction, Conn.inNested,
      show c.transaction = none from h.root.trans hr, sim_nested_none h hr]
    obtain ⟨db1, hd, ⟨hf, _⟩ | ⟨e, _, hkeep⟩⟩ := checkin_spec c.db b
    · exact absurd h.nofault hf
    · obtain ⟨⟨hwork, hsaves⟩, hcomm⟩ := hkeep hcl
      rw [e]
      refine ⟨rfl, hcomm.trans h.committed, trivial, trivial, _, congrArg (· ++ _) hd.idle, ?_, hsaves⟩
      exact (hwork.trans hcomm).trans h.committed
  cases hr : s.root with
  | some t =>
    -- the root transaction is rolled back first; what is released simulates a state without one
    obtain ⟨h', hok⟩ := sim_rootRollback h hr false
    have hcl : c.close = ((c.rootCloseImpl t false).1.release (c.act t), .ok) := by
      have e : c.tClose t = ((c.rootCloseImpl t false).1, .ok) := by
        rw [Conn.tClose, if_pos (sim_root_isRoot h hr), ← hok]
      simp only [Conn.close, show c.transaction = some t from h.root.trans hr, e, andThen_ok]
      exact releaseOrInterrupt_nofault _ _ h'.nofault
    have hidle : (c.rootCloseImpl t false).1.db.idle = c.db.idle := by
      rw [rootCloseImpl_sim h hr]
      show ({ c with db := c.db.rollback } : Conn).cancelNested.db.idle = c.db.idle
      rw [(frame_cancelNested _).db]
      rfl
    rw [hcl, ← hidle]
    exact ⟨rfl, release_sim h' rfl _⟩
  | none =>
    have hcl : c.close = (c.release false, .ok) := by
      simp only [Conn.close, show c.transaction = none from h.root.trans hr]
      exact releaseOrInterrupt_nofault _ _ h.nofault
    rw [hcl]
    exact ⟨rfl, release_sim h hr _⟩

/-- **ctx_exit_semantics** (what `__exit__` does to the transaction): without an exception
    and while the transaction is active it is `commit()` (and `rollback()` if the commit
    raises, the rollback's own error taking precedence); with an exception it is
    `rollback()`, and the result raised is exactly that call's result; on a transaction that
    has already ended and is still attached it returns normally (the detached case, a
    `close()` of the object, is not stated). -/
theorem ctx_exit_semantics (c : Conn) (h : Nat) :
    (c.act h = true → (c.exit h false).2 = (c.commitOrRollback h).2 ∧
                      (c.exit h true).2 = (c.tRollback h).2) ∧
    (c.act h = false → c.attached h = true → ∀ e, (c.exit h e).2 = .ok) := by
  refine ⟨fun ha => ?_, fun ha hat e => ?_⟩
  · simp [exit_eq, Conn.exitBody, ha, andFinally]
  · cases e <;> simp [exit_eq, Conn.exitBody, ha, hat, andFinally]

/-- **ctx_exit_restores**: leaving a `with` block (normally or by an exception, whatever the
    commit / rollback did or raised) puts the enclosing context manager back on the
    Connection and clears the slots of the transaction object. -/
theorem ctx_exit_restores (c : Conn) (h : Nat) (e : Bool) (hlt : h < c.txns.length)
    (hs : (c.txn h).subject = true) (hm : c.ctxMgr = some h) :
    (c.exit h e).1.ctxMgr = (c.txn h).outerCtx ∧
    ((c.exit h e).1.txn h).subject = false ∧ ((c.exit h e).1.txn h).outerCtx = none := by
  have hk := (exitBody_evo (ctx := false) c h e).ctxSame
  have hoob : (!(c.txn h).subject || c.ctxMgr != some h) = false := by simp [hs, hm]
  have hlt1 : h < (c.exitBody h e).1.txns.length := Nat.lt_of_lt_of_le hlt hk.len
  rw [exit_eq, hoob]
  simp only [andFinally, Conn.exitFinally, Bool.not_false, if_true]
  refine ⟨?_, ?_, ?_⟩
  · show ((c.exitBody h e).1.txn h).outerCtx = _
    exact (hk.keep h hlt).1
  -- `by exact`: the Connection is `{ … with ctxMgr := … }`, found by the rewrite; `hlt1` fits its `txns` by
  -- unfolding only
  · rw [setTxn_txn_eq _ _ _ (by exact hlt1)]
  · rw [setTxn_txn_eq _ _ _ (by exact hlt1)]

/-- entering and leaving a `with` block leaves `_trans_context_manager` as it was -/
theorem ctx_enter_exit_roundtrip (c : Conn) (h : Nat) (e : Bool) (hlt : h < c.txns.length) :
    ((c.enter h).1.exit h e).1.ctxMgr = c.ctxMgr := by
  have h1 : (c.enter h).1.ctxMgr = some h := rfl
  have hlt' : h < (c.enter h).1.txns.length := by simp [Conn.enter]; exact hlt
  have h2 : ((c.enter h).1.txn h) = { c.txn h with outerCtx := c.ctxMgr, subject := true } := by
    show (c.setTxn h _).txn h = _
    exact setTxn_txn_eq _ _ _ hlt
  have := (ctx_exit_restores (c.enter h).1 h e hlt' (by rw [h2]) h1).1
  rw [this, h2]

/-- **ctx_blocks_use_after_end**: inside a `with` block whose transaction has already ended
    (committed, rolled back, or closed inside the block) `begin()` and `begin_nested()` raise
    InvalidRequestError and change nothing ("Can't operate on closed transaction inside
    context manager"). -/
theorem ctx_blocks_use_after_end (c : Conn) (m : Nat) (hm : c.ctxMgr = some m) (ha : c.act m = false) :
    c.begin = (c, .invalidRequest) ∧ c.beginNested = (c, .invalidRequest) := by
  have hcr : c.ctxRaises = true := by simp [Conn.ctxRaises, hm, ha]
  have hb : c.begin = (c, .invalidRequest) := by
    unfold Conn.begin Conn.beginRoot
    rw [hcr, if_pos rfl, ite_self]
  refine ⟨hb, ?_⟩
  unfold Conn.beginNested Conn.autobegin
  cases ht : c.transaction with
  | none => simp [hb, andThen]
  | some t => simp [andThen, hcr]

/-- **wf_all**: in every state reachable from a fresh engine (without `skip_autocommit_rollback`, `DB.init`'s
    default; the proof does not use that) the connection's transaction pointer names a
    RootTransaction object, every `_previous_nested` link points to an older object and the
    current savepoint object exists — whatever sequence of operations (all 23 kinds, armed
    faults, misuse) led there. -/
theorem wf_all (rs : ResetStyle) (ls : Listener) (eo : List Bool) (rc : Option Nat) (ops : List Op) :
    WFc ((Conn.connect (DB.init rs ls eo rc)).run ops) :=
  run_wfc ops _ (wfc_empty rfl rfl rfl)

/-- consequence: cancelling the savepoints from any reachable state always empties
    `_nested_transaction` (the `_cancel` recursion reaches the end of the chain) -/
theorem cancel_reaches_end (rs : ResetStyle) (ls : Listener) (eo : List Bool) (rc : Option Nat) (ops : List Op) :
    ((Conn.connect (DB.init rs ls eo rc)).run ops).cancelNested.nested = none :=
  cancelNested_none (wf_all rs ls eo rc ops).prevWF

/-! ## where the unrestricted statement fails (findings F8, F18)

Full statement (FALSE): for every operation sequence `ops` over begin / begin_nested /
statements / commit / rollback / handle ops,
  `((Conn.connect db).run ops).inNested = !(Spec.init.runFull ops).scopes.isEmpty`
and the handle flags agree, where `runFull` ends the inner savepoints when an outer one is
rolled back or released and ignores `rollback()` on ended handles.
`refines_nested_spec` proves it for the histories `Spec.trace` accepts (well-nested use);
the three witnesses below are outside and are replayed on the real code by
`harness/props/c23.py` (known findings). -/

def c0 : Conn := Conn.connect (DB.init .rollback)

/-- F8: s1 = begin_nested(); s2 = begin_nested(); s1.rollback() -/
theorem out_of_order_rollback_counterexample :
    let ops : List Op := [.beginNested, .beginNested, .tRollback 1]
    (c0.run ops).inNested ≠ !(Spec.init.runFull ops).scopes.isEmpty ∧
    -- the inner savepoint object is still current and active …
    (c0.run ops).nested = some 2 ∧ (c0.run ops).act 2 = true ∧ ((c0.run ops).txn 2).sp = 2 ∧
    -- … but its SAVEPOINT no longer exists in the database,
    (c0.run ops).db.raw.saves.map (·.1) = [1] ∧
    -- so releasing it fails and the connection is wedged until both are rolled back again
    ((c0.run ops).step (.tCommit 2)).2 = .operational ∧
    (((c0.run ops).step (.tCommit 2)).1.step (.exec .sel)).2 = .pendingRollback := by
  decide +kernel

/-- F8, release form: s1.commit() while s2 is open -/
theorem out_of_order_release_counterexample :
    let ops : List Op := [.beginNested, .beginNested, .tCommit 1]
    (c0.run ops).inNested ≠ !(Spec.init.runFull ops).scopes.isEmpty ∧
    (c0.run ops).nested = some 2 ∧ (c0.run ops).act 2 = true ∧
    (c0.run ops).db.raw.saves = [] := by
  decide +kernel

/-- F18: t = begin(); …; t.commit(); s = begin_nested(); …; t.rollback() on the ENDED root
    handle cancels `s` without touching the database; `s.rollback()` then does nothing and
    the row inserted under the savepoint is committed. -/
theorem stale_root_rollback_counterexample :
    let ops : List Op := [.begin, .exec (.ins 1), .tCommit 0, .beginNested, .exec (.ins 2),
                          .tRollback 0]
    (c0.run ops).inNested ≠ !(Spec.init.runFull ops).scopes.isEmpty ∧
    (c0.run ops).act 2 = false ∧ (c0.run ops).db.raw.working = [1, 2] ∧
    ((c0.run ops).run [.tRollback 2, .commit]).db.committed = [1, 2] ∧
    (Spec.init.runFull (ops ++ [.tRollback 2, .commit])).committed = [1] := by
  decide +kernel

/-- a history with autobegin, two nested savepoints, an inner rollback, an outer release,
    a duplicate-key error, a double commit and a rollback of an ended handle is accepted by
    the specification … -/
def sampleOps : List Op :=
  [.exec (.ins 1), .beginNested, .exec (.ins 2), .beginNested, .exec (.ins 3), .tRollback 2,
   .exec (.ins 2), .tCommit 1, .tCommit 1, .tRollback 2, .commit, .commit, .begin, .begin,
   .exec (.del 1), .rollback]

example : (Spec.trace Spec.init sampleOps).isSome = true := by decide +kernel
/-- … and what it commits is rows 1 and 2 (row 3 was rolled back with its savepoint, the
    DELETE with its transaction) -/
example : (Spec.run Spec.init sampleOps).map (·.committed) = some [1, 2] := by decide +kernel
example : (c0.run sampleOps).db.committed = [1, 2] := by decide +kernel
example : (c0.trace sampleOps).map (·.1) =
    [.ok, .ok, .ok, .ok, .ok, .ok, .integrity, .ok, .invalidRequest, .ok, .ok, .ok, .ok,
     .invalidRequest, .ok, .ok] := by decide +kernel
/-- `ended_commit_raises_no_effect`'s hypothesis holds in a reachable state -/
example : (c0.run [.begin, .commit]).act 0 = false := by decide +kernel
/-- `close_rolls_back_all` applies to a state with uncommitted work under two savepoints -/
example : ((c0.run [.exec (.ins 1), .beginNested, .exec (.ins 2), .beginNested]).close).1.db.committed = []
    ∧ (c0.run [.exec (.ins 1), .beginNested, .exec (.ins 2), .beginNested]).db.raw.working = [1, 2] := by
  decide +kernel

end SaVerif.Props.C23
