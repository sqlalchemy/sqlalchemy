import SaVerif.Lemmas.LruMT
/-!
# C54 (LRUCache, continued from Props/C54) — under threads: all interleavings

The transition system of `SaVerif/Model/LruMT.lean`: any number of threads, each running any
program of `get(k)` / `cache[k] = v` / `del cache[k]`, one atomic shared access per step, NO fairness and no
bound on the number of steps.  `Reach (init …) s` ranges over every state of every
interleaving.

The sequential bound `len <= capacity*(1+threshold)` does NOT survive threads as an invariant (a
thread whose try-lock fails leaves its insert unpruned, `lru_mt_size_bound_is_tight`); what holds
in every reachable state is `len - (busy + failed) <= capacity*(1+threshold)`
(`lru_mt_size_bound`), where `busy` counts threads between their insert and the end of the
pruning they owe, and `failed` counts try-locks that failed since the last "all clear" check.
-/
namespace SaVerif.Props.C54MT
open SaVerif.LruMT

def storedPairs (progs : List (List MOp)) : List (Nat × Nat) :=
  progs.flatten.filterMap (fun op => match op with | .set k v => some (k, v) | _ => none)

theorem mem_storedPairs {progs : List (List MOp)} {k v : Nat} :
    (k, v) ∈ storedPairs progs ↔ ∃ p ∈ progs, MOp.set k v ∈ p := by
  unfold storedPairs
  rw [List.mem_filterMap]
  constructor
  · rintro ⟨op, hop, he⟩
    obtain ⟨p, hp, hm⟩ := List.mem_flatten.1 hop
    cases op <;> cases he
    exact ⟨p, hp, hm⟩
  · rintro ⟨p, hp, h⟩
    exact ⟨.set k v, List.mem_flatten.2 ⟨p, hp, h⟩, rfl⟩

theorem init_idle {cap num den : Nat} {progs : List (List MOp)} :
    ∀ th ∈ (init cap num den progs).threads, th.pc = .idle := by
  intro th hth
  obtain ⟨p, _, rfl⟩ := List.mem_map.1 hth
  rfl

theorem init_invS (cap num den : Nat) (progs : List (List MOp)) :
    InvS (storedPairs progs) (init cap num den progs) := by
  constructor
  · intro e he; cases he
  · intro th hth
    obtain ⟨p, hp, rfl⟩ := List.mem_map.1 hth
    exact ⟨fun k v h => mem_storedPairs.2 ⟨p, hp, h⟩, trivial, fun k v h => by cases h⟩

theorem init_invN (cap num den : Nat) (progs : List (List MOp)) : InvN (init cap num den progs) where
  size := by
    show 0 * den ≤ _
    rw [Nat.zero_mul]
    exact Nat.zero_le _
  extraLe := Nat.zero_le _
  mutex := holders_eq_zero fun th hth => by unfold w4; rw [init_idle th hth]

theorem reach_inv {cap num den : Nat} {progs : List (List MOp)} {s : MState}
    (h : Reach (init cap num den progs) s) : InvS (storedPairs progs) s ∧ InvN s := by
  induction h with
  | refl => exact ⟨init_invS _ _ _ _, init_invN _ _ _ _⟩
  | step t _ hs ih => exact ⟨invS_step ih.1 hs, invN_step ih.2 hs⟩

/-- **lru_mt_get_returns_stored**: in every interleaving of every set of thread programs, a
    completed `get(k)` that returned `v` returned a value stored under `k` -/
theorem lru_mt_get_returns_stored {cap num den : Nat} {progs : List (List MOp)} {s : MState}
    (h : Reach (init cap num den progs) s) (th : Thread) (hth : th ∈ s.threads) (k v : Nat)
    (hr : (k, some v) ∈ th.rets) : ∃ p ∈ progs, MOp.set k v ∈ p :=
  mem_storedPairs.1 (((reach_inv h).1.threads th hth).rets k v hr)

theorem lru_mt_data_is_stored {cap num den : Nat} {progs : List (List MOp)} {s : MState}
    (h : Reach (init cap num den progs) s) (e : MEnt) (he : e ∈ s.data) :
    (e.key, e.val) ∈ storedPairs progs := (reach_inv h).1.data e he

/-- at most one thread is inside the section the try-lock protects, and the lock flag is up
    exactly then -/
theorem lru_mt_mutex_exclusive {cap num den : Nat} {progs : List (List MOp)} {s : MState}
    (h : Reach (init cap num den progs) s) :
    holders s ≤ 1 ∧ (s.held = true ↔ holders s = 1) := by
  rw [(reach_inv h).2.mutex]
  cases s.held <;> decide

theorem lru_mt_size_bound {cap num den : Nat} {progs : List (List MOp)} {s : MState}
    (h : Reach (init cap num den progs) s) :
    within s (s.data.length - (busy s + s.failed)) :=
  within_mono (reach_inv h).2.size (Nat.sub_le_sub_left (reach_inv h).2.extraLe _)

theorem busy_zero_of_quiescent {s : MState} (hq : quiescent s = true) : busy s = 0 :=
  busy_eq_zero fun th hth => by
    have := List.all_eq_true.1 hq th hth
    rw [Bool.and_eq_true, beq_iff_eq] at this
    unfold w3
    rw [this.1]

/-- **lru_mt_quiescent_bound**: when every thread has finished, the size exceeds the bound by
    at most the number of try-locks that failed since the last completed pruning check -/
theorem lru_mt_quiescent_bound {cap num den : Nat} {progs : List (List MOp)} {s : MState}
    (h : Reach (init cap num den progs) s) (hq : quiescent s = true) :
    within s (s.data.length - s.failed) := by
  have := lru_mt_size_bound h
  rw [busy_zero_of_quiescent hq, Nat.zero_add] at this
  exact this

theorem failed_step {s s' : MState} {t : Nat} (hs : mstep s t = some s') :
    s'.failed = s.failed ∨ s'.failed = 0 ∨
      (s'.failed = s.failed + 1 ∧ s.held = true ∧ ∃ th, s.threads[t]? = some th ∧ th.pc = .m0) := by
  obtain ⟨th, _, _, hth, hst, rfl⟩ := step_of_mstep hs
  cases hst
  case m0Busy hh => exact Or.inr (Or.inr ⟨rfl, hh, _, hth, rfl⟩)
  case m1Clear => exact Or.inr (Or.inl rfl)
  -- the other 17 constructors: `failed` is not written
  all_goals exact Or.inl rfl

theorem threads_length_step {s s' : MState} {t : Nat} (hs : mstep s t = some s') :
    s'.threads.length = s.threads.length := by
  obtain ⟨_, _, _, _, hst, rfl⟩ := step_of_mstep hs
  cases hst <;> exact List.length_set

theorem single_thread_failed_zero {cap num den : Nat} {prog : List MOp} {s : MState}
    (h : Reach (init cap num den [prog]) s) : s.threads.length = 1 ∧ s.failed = 0 := by
  induction h with
  | refl => exact ⟨rfl, rfl⟩
  | @step s1 s2 t hr hs ih =>
    have hlen := threads_length_step hs
    refine ⟨by rw [hlen]; exact ih.1, ?_⟩
    rcases failed_step hs with h1 | h1 | ⟨_, hheld, th, hth, hpc⟩
    · rw [h1]; exact ih.2
    · exact h1
    · -- impossible: the only thread is at m0, so nobody holds the mutex
      exfalso
      have hm := (reach_inv hr).2.mutex
      rw [hheld] at hm
      simp only [if_true] at hm
      obtain ⟨a, hts⟩ := List.length_eq_one_iff.1 ih.1
      have hz : holders s1 = 0 := holders_eq_zero fun x hx => by
        rw [hts] at hx hth
        obtain rfl := List.mem_singleton.1 hx
        cases t with
        | zero => cases hth; unfold w4; rw [hpc]
        | succ n => cases hth
      rw [hz] at hm
      cases hm

/-- **lru_mt_single_thread_bound**: one thread ⇒ the sequential size bound holds whenever the
    thread owes no pruning (`busy s = 0`: at every operation boundary, and in between except from
    its insert to its "all clear") -/
theorem lru_mt_single_thread_bound {cap num den : Nat} {prog : List MOp} {s : MState}
    (h : Reach (init cap num den [prog]) s) (hidle : busy s = 0) : within s s.data.length := by
  have := lru_mt_size_bound h
  rw [hidle, (single_thread_failed_zero h).2] at this
  exact this

theorem runSched_reach (sched : List Nat) : ∀ s0 s : MState, Reach s0 s → Reach s0 (runSched s sched) := by
  induction sched with
  | nil => intro s0 s h; exact h
  | cons t ts ih =>
    intro s0 s h
    unfold runSched
    cases hm : mstep s t with
    | none => exact ih s0 s h
    | some s' => exact ih s0 s' (Reach.step t h hm)

/-- **lru_mt_size_bound_is_tight**: capacity 1, threshold 0, two threads each storing one new
    key: there is an interleaving that ends quiescent with 2 entries (> 1 = the bound) and one
    failed try-lock — the sequential invariant is really lost under threads -/
theorem lru_mt_size_bound_is_tight :
    ∃ s, Reach (init 1 0 1 [[.set 1 1], [.set 2 2]]) s ∧ quiescent s = true ∧
      s.data.length = 2 ∧ s.failed = 1 ∧ ¬ within s s.data.length := by
  -- thread 0 runs to `m4` (it holds the mutex and has done its check), thread 1 inserts and fails
  -- the try-lock, thread 0 releases
  refine ⟨runSched (init 1 0 1 [[.set 1 1], [.set 2 2]]) [0, 0, 0, 0, 0, 0, 1, 1, 1, 1, 1, 0],
    runSched_reach _ _ _ Reach.refl, ?_⟩
  unfold within
  decide +kernel

example : quiescent (runSched (init 2 1 2 [[.set 1 1, .get 1], [.set 2 2, .get 1]])
    [0, 1, 0, 1, 0, 1, 0, 1, 0, 1, 0, 1, 0, 1, 0, 1, 0, 1, 0, 1, 0, 1, 0, 1, 0, 1]) = true := by decide +kernel

end SaVerif.Props.C54MT
