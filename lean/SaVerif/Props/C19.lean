import SaVerif.Lemmas.Topo
import SaVerif.Lemmas.TopoCycles
import SaVerif.Lemmas.TopoCyclesComplete
/-!
# C19 — Dependency sorting is a correct topological order; cycles exactly reported

Property theorems about M-TOPO (`SaVerif/Model/Topo.lean`, transcription of
`lib/sqlalchemy/util/topological.py`).  Besides the model the statements mention `HasCycle`
(below) and `OnCycle` (`SaVerif/Lemmas/TopoCycles.lean`).
-/
namespace SaVerif.Props.C19
open SaVerif.Topo

/-- the model's fuel `items.length` is never what stops the loop (termination of
    `while todo_set`) -/
theorem sortAux_fuel (ts : List Edge) :
    ∀ (f1 f2 : Nat) (todo : List Node), todo.length ≤ f1 → todo.length ≤ f2 →
      sortAux ts f1 todo = sortAux ts f2 todo := by
  intro f1
  induction f1 with
  | zero =>
    intro f2 todo h1 _
    rw [List.eq_nil_of_length_eq_zero (Nat.le_zero.1 h1), sortAux_nil, sortAux_nil]
  | succ n ih =>
    intro f2 todo h1 h2
    cases todo with
    | nil => rw [sortAux_nil, sortAux_nil]
    | cons a l =>
      cases f2 with
      | zero => cases h2
      | succ m =>
        rw [sortAux_succ_cons, sortAux_succ_cons]
        split
        · rfl
        · rename_i hlay
          have hlt := remaining_length_lt hlay
          rw [ih m _ (Nat.le_of_lt_succ (Nat.lt_of_lt_of_le hlt h1))
            (Nat.le_of_lt_succ (Nat.lt_of_lt_of_le hlt h2))]

/-- **sort_perm**: the output of `sort` is a permutation of the items (each item
    exactly once when the items are distinct; duplicates are kept as given). -/
theorem sort_perm (ts : List Edge) (items out : List Node)
    (h : sort ts items = some out) : out.Perm items := by
  obtain ⟨ls, hl, rfl⟩ := layers_of_sort h
  exact hl.perm

theorem sort_nodup (ts : List Edge) (items out : List Node) (hn : items.Nodup)
    (h : sort ts items = some out) : out.Nodup :=
  (sort_perm ts items out h).nodup_iff.2 hn

/-- **sort_respects**: for every dependency pair whose two ends are items, the
    parent's (first) position is strictly before the child's. -/
theorem sort_respects (ts : List Edge) (items out : List Node) (p c : Node)
    (h : sort ts items = some out) (hpc : (p, c) ∈ ts) (hp : p ∈ items) (hc : c ∈ items) :
    out.idxOf p < out.idxOf c := by
  obtain ⟨ls, hl, rfl⟩ := layers_of_sort h
  exact hl.idxOf_lt hpc hp hc

theorem sort_selfloop_raises (ts : List Edge) (items : List Node) (n : Node)
    (hn : (n, n) ∈ ts) (hi : n ∈ items) : sort ts items = none := by
  cases h : sort ts items with
  | none => rfl
  | some out => exact absurd (sort_respects ts items out n n h hn hi hi) (Nat.lt_irrefl _)

/-- **subsets_independent**: no dependency pair has both ends in one subset. -/
theorem subsets_independent (ts : List Edge) (items : List Node) (out : List (List Node))
    (h : sortAsSubsets ts items = some out) (s : List Node) (hs : s ∈ out)
    (p c : Node) (hpc : (p, c) ∈ ts) : ¬ (p ∈ s ∧ c ∈ s) :=
  fun ⟨hp, hc⟩ => (layers_of_sortAux _ _ _ h).independent hs hpc hp hc

/-- **sort_deterministic**: the model has no set iteration order and no hashing; that the
    implementation is a function of the two input lists as well is left to the correspondence
    check. -/
theorem sort_deterministic (ts : List Edge) (items : List Node) (o1 o2 : Option (List Node))
    (h1 : sort ts items = o1) (h2 : sort ts items = o2) : o1 = o2 := h1 ▸ h2

def Dep (ts : List Edge) (items : List Node) (a b : Node) : Prop :=
  (a, b) ∈ ts ∧ a ∈ items ∧ b ∈ items

inductive Path (R : Node → Node → Prop) : Node → Node → Prop
  | single {a b : Node} : R a b → Path R a b
  | cons {a b c : Node} : R a b → Path R b c → Path R a c

/-- a self-dependency is a cycle of length one -/
def HasCycle (ts : List Edge) (items : List Node) : Prop :=
  ∃ n, Path (Dep ts items) n n

theorem Path.mono {R R' : Node → Node → Prop} (h : ∀ a b, R a b → R' a b) {a b : Node}
    (p : Path R a b) : Path R' a b := by
  induction p with
  | single r => exact .single (h _ _ r)
  | cons r _ ih => exact .cons (h _ _ r) ih

theorem Path.snoc {R : Node → Node → Prop} {a b c : Node} (p : Path R a b) (e : R b c) :
    Path R a c := by
  induction p with
  | single r => exact .cons r (.single e)
  | cons r _ ih => exact .cons r (ih e)

theorem onCycle_path (ts : List Edge) (x : Node) (h : OnCycle ts x) :
    Path (fun a b => (a, b) ∈ ts) x x := by
  obtain ⟨y, hxy, hr⟩ := h
  have key : ∀ {b : Node}, Reach ts y b → Path (fun a b => (a, b) ∈ ts) x b := by
    intro b hb
    induction hb with
    | refl => exact .single hxy
    | tail _ e ih => exact ih.snoc e
  exact key hr

/-- **sort_ok_acyclic**: if `sort` returns, the dependencies among the items are acyclic:
    positions in the output strictly increase along a path. -/
theorem sort_ok_acyclic (ts : List Edge) (items out : List Node)
    (h : sort ts items = some out) : ¬ HasCycle ts items := by
  have lt : ∀ {a b : Node}, Path (Dep ts items) a b → out.idxOf a < out.idxOf b := by
    intro a b p
    induction p with
    | single r => exact sort_respects ts items out _ _ h r.1 r.2.1 r.2.2
    | cons r _ ih => exact Nat.lt_trans (sort_respects ts items out _ _ h r.1 r.2.1 r.2.2) ih
  exact fun ⟨n, p⟩ => Nat.lt_irrefl _ (lt p)

/-- **sort_raises_cycle**: if `sort` raises CircularDependencyError, the dependencies among the
    items contain a cycle: the loop is stuck on a set `S` of items closed under taking a parent,
    and the pigeonhole lemma, applied to the edges inside `S`, finds the cycle there. -/
theorem sort_raises_cycle (ts : List Edge) (items : List Node)
    (h : sort ts items = none) : HasCycle ts items := by
  obtain ⟨S, hS, hsub, hpar⟩ := sort_none_stuck h
  have hin : ∀ {a b : Node}, (a, b) ∈ ts.filter (fun e => S.contains e.1 && S.contains e.2) ↔
      (a, b) ∈ ts ∧ a ∈ S ∧ b ∈ S := by
    simp only [List.mem_filter, Bool.and_eq_true, List.contains_eq_mem, decide_eq_true_eq,
      implies_true]
  obtain ⟨x, _, hx⟩ := closed_set_has_cycle hS fun n hn =>
    let ⟨p, hp, e⟩ := hpar n hn
    ⟨p, hp, hin.2 ⟨e, hp, hn⟩⟩
  exact ⟨x, (onCycle_path _ x hx).mono fun a b r =>
    ⟨(hin.1 r).1, hsub a (hin.1 r).2.1, hsub b (hin.1 r).2.2⟩⟩

/-- **sort_error_iff_cycle**: `sort` fails with a circular-dependency error
    exactly when the dependencies among the items contain a cycle. -/
theorem sort_error_iff_cycle (ts : List Edge) (items : List Node) :
    sort ts items = none ↔ HasCycle ts items := by
  constructor
  · exact sort_raises_cycle ts items
  · intro hc
    cases h : sort ts items with
    | none => rfl
    | some out => exact absurd hc (sort_ok_acyclic ts items out h)

theorem find_cycles_sound (ts : List Edge) (x : Node) (h : x ∈ findCycles ts) :
    OnCycle ts x := by
  unfold findCycles at h
  rw [List.mem_eraseDups] at h
  exact List.foldlRecOn (motive := fun out => ∀ x ∈ out, OnCycle ts x) (b := []) _ _ nofun
    (fun out hout n _ => findCyclesFrom_sound _ n out hout) x h

theorem find_cycles_complete (ts : List Edge) (x : Node) (h : OnCycle ts x) :
    x ∈ findCycles ts := by
  unfold findCycles
  rw [List.mem_eraseDups]
  have hnodes : ∀ p c, (p, c) ∈ ts → p ∈ parentNodes ts := fun p c e => mem_parentNodes.2 ⟨c, e⟩
  have ⟨y, hxy, _⟩ := h
  exact foldl_findCyclesFrom_complete _ hnodes x h _ _ (hnodes _ _ hxy)

/-- **find_cycles_exact**: `find_cycles` reports exactly the nodes on a cycle. -/
theorem find_cycles_exact (ts : List Edge) (x : Node) :
    x ∈ findCycles ts ↔ OnCycle ts x :=
  ⟨find_cycles_sound ts x, find_cycles_complete ts x⟩

example : sort [(2, 1), (3, 2)] [1, 2, 3] = some [3, 2, 1] := by decide +kernel
example : sort [(2, 1), (1, 2)] [1, 2, 3] = none := by decide +kernel
example : HasCycle [(2, 1), (1, 2)] [1, 2, 3] :=
  ⟨1, .cons (b := 2) ⟨by decide, by decide, by decide⟩ (.single ⟨by decide, by decide, by decide⟩)⟩
example : sortAsSubsets [(1, 2)] [4, 1, 2, 3] = some [[4, 1, 3], [2]] := by decide +kernel
example : 2 ∈ findCycles [(1, 2), (2, 1), (2, 3), (3, 3)] := by decide +kernel
/-- the hypothesis of `find_cycles_complete` is satisfiable, and the conclusion is
    not trivially true: node 4 (only reachable from the cycles) is not reported -/
example : OnCycle [(1, 2), (2, 1), (2, 3), (3, 3), (3, 4)] 1 :=
  ⟨2, by decide, .tail (.refl _) (by decide)⟩
example : 1 ∈ findCycles [(1, 2), (2, 1), (2, 3), (3, 3), (3, 4)] :=
  find_cycles_complete _ _ ⟨2, by decide, .tail (.refl _) (by decide)⟩
theorem not_reported_example : 4 ∉ findCycles [(1, 2), (2, 1), (2, 3), (3, 3), (3, 4)] := by
  decide +kernel
example : 4 ∉ findCycles [(1, 2), (2, 1), (2, 3), (3, 3), (3, 4)] := not_reported_example
example : ¬ OnCycle [(1, 2), (2, 1), (2, 3), (3, 3), (3, 4)] 4 :=
  fun h => not_reported_example ((find_cycles_exact _ _).2 h)

end SaVerif.Props.C19
