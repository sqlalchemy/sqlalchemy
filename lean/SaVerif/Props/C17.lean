import SaVerif.Model.Lambda
/-!
# C17 — lambda statements never reuse stale closure values

Theorems about the lambda cache (`SaVerif/Model/Lambda.lean`).  An invocation fills the template
cached under the structural part of the closure with the current literal values; as long as every
cached template is what the user function yields for its key (`CacheInv`, `ChainInv`), that is the
directly built statement.  The counterexamples show what `Stable` and the whole path in a chain's
key are needed for.
-/
namespace SaVerif.Props.C17
open SaVerif.Lambda

/-- the closure keeps the shape of the first one: same length, same classification,
    and no `None` (which the lambda binds but the direct build renders `IS NULL`) -/
def Stable (ks : List Bool) (vals : List CV) : Prop :=
  vals.map lambdaBound = ks ∧ ∀ v ∈ vals, v ≠ CV.none

theorem bound_eq_of_no_none (vals : List CV) (h : ∀ v ∈ vals, v ≠ CV.none) :
    vals.map directBound = vals.map lambdaBound := by
  apply List.map_congr_left
  intro v hv
  cases v with
  | lit x => rfl
  | obj i => rfl
  | none => exact absurd rfl (h _ hv)

def CacheInv (G : List CV → Tmpl) (cache : List (List CV × Tmpl)) : Prop :=
  ∀ k t, clookup k cache = some t → t = G k

theorem CacheInv.cons {G : List CV → Tmpl} {cache : List (List CV × Tmpl)} (h : CacheInv G cache)
    (key : List CV) : CacheInv G ((key, G key) :: cache) := by
  intro k t hkt
  simp only [clookup] at hkt
  split at hkt
  · next he => rw [← he, ← Option.some.inj hkt]
  · exact h k t hkt

theorem invoke_eq_direct (G : List CV → Tmpl) (ks : List Bool) (st : State)
    (hinv : CacheInv G st.cache) (ha : st.analysis = none ∨ st.analysis = some ks)
    (vals : List CV) (hs : Stable ks vals) :
    (invoke G st vals).1.2 = direct G vals ∧
      CacheInv G (invoke G st vals).2.cache ∧ (invoke G st vals).2.analysis = some ks := by
  obtain ⟨hk, hn⟩ := hs
  have hks : analysisKinds st vals = ks := by
    rcases ha with h | h <;> simp [analysisKinds, h, hk]
  have hd : vals.map directBound = ks := by rw [bound_eq_of_no_none vals hn, hk]
  unfold invoke direct
  simp only [hks, hd]
  cases hl : clookup (structPart ks vals) st.cache with
  | some tm =>
    have := hinv _ _ hl
    subst this
    exact ⟨rfl, hinv, rfl⟩
  | none => exact ⟨rfl, hinv.cons _, rfl⟩

/-- for ANY history of closures that keep the shape
    of the first one (any length, any values, any order of structural variants, any
    user function parametric in its literals), every invocation through the lambda
    cache produces exactly the directly built statement for the CURRENT closure values:
    no value of an earlier invocation survives, and a structural change selects a
    different cached form. -/
theorem lambda_invocation_eq_direct (G : List CV → Tmpl) (ks : List Bool) :
    ∀ (hist : List (List CV)) (st : State), CacheInv G st.cache →
      (st.analysis = none ∨ st.analysis = some ks) → (∀ v ∈ hist, Stable ks v) →
      (runHistory G st hist).map (·.2) = hist.map (direct G) := by
  intro hist
  induction hist with
  | nil => intro _ _ _ _; rfl
  | cons v r ih =>
    intro st hinv ha hs
    obtain ⟨hout, hinv', hana⟩ := invoke_eq_direct G ks st hinv ha v (hs v (by simp))
    simp only [runHistory, List.map_cons, hout]
    rw [ih _ hinv' (Or.inr hana) (fun x hx => hs x (by simp [hx]))]

theorem second_invocation_hits (G : List CV → Tmpl) (vals : List CV) :
    ((runHistory G { analysis := none, cache := [] } [vals, vals]).map (·.1)) = [false, true] := by
  simp [runHistory, invoke, clookup, analysisKinds]

/-- a closure value `None` is bound by the lambda (`y = ?`) while the direct statement is structurally
    different (`y IS NULL`) (finding `closure-value-none-bound-instead-of-is-null`) -/
theorem none_counterexample :
    let G : List CV → Tmpl := fun k => if k.contains CV.none then [.txt 1] else [.txt 0, .slot 0]
    (runHistory G { analysis := none, cache := [] } [[CV.none]]).map (·.2) ≠ [direct G [CV.none]] := by
  decide

/-- a variable that changes kind after the analysis was made is mis-classified -/
theorem kind_change_counterexample :
    let G : List CV → Tmpl := fun k => .txt k.length :: [.slot 0]
    (runHistory G { analysis := none, cache := [] } [[CV.lit 5], [CV.obj 3]]).map (·.2) ≠
      [direct G [CV.lit 5], direct G [CV.obj 3]] := by
  decide

def ChainInv (kf : List Nat → List Nat) (G : List Nat → List CV → Tmpl) (cache : ChainCache) : Prop :=
  ∀ k sv t, cclookup (k, sv) cache = some t → ∀ p, kf p = k → t = G p sv

theorem ChainInv.cons {kf : List Nat → List Nat} {G : List Nat → List CV → Tmpl} {cache : ChainCache}
    (hinj : ∀ p q, kf p = kf q → p = q) (h : ChainInv kf G cache) (p : List Nat) (sv : List CV) :
    ChainInv kf G (((kf p, sv), G p sv) :: cache) := by
  intro k sv' t hk q hq
  simp only [cclookup] at hk
  split at hk
  · next he =>
    -- the new entry answers: its key is `kf q`, so by injectivity it was made for the path `q`
    obtain ⟨h1, rfl⟩ := Prod.mk.inj he
    obtain rfl : p = q := hinj p q (h1.trans hq.symm)
    exact (Option.some.inj hk).symm
  · exact h k sv' t hk q hq

/-- for ANY history of lambda chains (any lengths, optional
    middle links, alternative roots, any interleaving), if the key function applied to the
    path of code objects is injective (the real `tracker_key` is the identity on paths),
    every construction yields the statement built directly by the same links with the
    current values. -/
theorem chain_invocation_eq_direct (kf : List Nat → List Nat)
    (hinj : ∀ p q, kf p = kf q → p = q) (G : List Nat → List CV → Tmpl) :
    ∀ (hist : List (List Nat × List CV × List CV)) (cache : ChainCache), ChainInv kf G cache →
      (runChains kf G cache hist).map (·.2) =
        hist.map (fun c => directChain G c.1 c.2.1 c.2.2) := by
  intro hist
  induction hist with
  | nil => intro _ _; rfl
  | cons c r ih =>
    intro cache hinv
    obtain ⟨p, sv, lits⟩ := c
    cases hl : cclookup (kf p, sv) cache with
    | some tm =>
      have := hinv (kf p) sv tm hl p rfl
      subst this
      have hstep : invokeChain kf G cache p sv lits = ((true, fill (G p sv) lits), cache) := by
        simp [invokeChain, hl]
      simp only [runChains, hstep, List.map_cons]
      rw [ih cache hinv]
      rfl
    | none =>
      have hstep : invokeChain kf G cache p sv lits =
          ((false, fill (G p sv) lits), ((kf p, sv), G p sv) :: cache) := by
        simp [invokeChain, hl]
      simp only [runChains, hstep, List.map_cons]
      rw [ih _ (hinv.cons hinj p sv)]
      rfl

theorem fullKey_injective : ∀ p q, fullKey p = fullKey q → p = q := fun _ _ h => h

/-- with the key truncated to (parent code, own code) two chains that differ only in an
    optional earlier link share one entry: the second gets the first one's statement -/
theorem truncated_key_counterexample :
    let G : List Nat → List CV → Tmpl := fun p _ => p.map Tok.txt
    (runChains truncKey G [] [([1, 2, 3, 4], [], []), ([1, 3, 4], [], [])]).map (·.2) ≠
      [directChain G [1, 2, 3, 4] [] [], directChain G [1, 3, 4] [] []] := by
  decide

example : Stable [false, true, true] [CV.obj 2, CV.lit 7, CV.lit 9] := by
  refine ⟨rfl, ?_⟩
  intro v hv; simp at hv; rcases hv with rfl | rfl | rfl <;> simp

end SaVerif.Props.C17
