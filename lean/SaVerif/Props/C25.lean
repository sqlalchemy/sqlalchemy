import SaVerif.Lemmas.PoolInv
/-!
# C25 — The pool never hands one connection to two holders and respects its limits

Theorems about M-POOL (`SaVerif/Model/Pool.lean`): the labelled transition system
transcribed from `QueuePool._do_get / _do_return_conn / _inc_overflow /
_dec_overflow` over `util.queue.Queue`.  Every theorem is about *all* reachable
states: any number of threads, any pool_size / max_overflow, FIFO or LIFO, any
interleaving of the atomic steps (including the unlocked reads of `_overflow`).

The harness (`harness/props/c25.py`) checks that every event trace of the real code
under a deterministic scheduler is a run of this LTS (`run … = .ok s`), so by
`inv_of_run` the invariants hold at every point of every such execution.
-/
namespace SaVerif.Props.C25
open SaVerif.Pool

/-- configurations `QueuePool.__init__` can produce: `_max_overflow` is `-1`
    (unlimited; forced when `pool_size == 0`) or a non-negative bound -/
def WF (c : Cfg) : Prop := c.maxOv = -1 ∨ 0 ≤ c.maxOv

structure Inv (c : Cfg) (s : State) : Prop where
  /-- `pool_size + _overflow` = idle + checked out + in flight -/
  acct : s.overflow + c.size = s.queue.length + s.out.length + slotSum s
  lockOwner : LockOwner s
  readValid : ReadValid c s
  limit : c.maxOv ≠ -1 → s.overflow ≤ c.maxOv
  idleLe : 0 < c.size → s.queue.length ≤ c.size
  excl : ∀ r, occ r s ≤ 1
  /-- records not yet created occur nowhere; this is what lets `excl` survive `c0_cr` -/
  fresh : ∀ r, s.nextId ≤ r → occ r s = 0

theorem inv_init (c : Cfg) (hc : WF c) (n : Nat) : Inv c (init c n) := by
  have hz : ∀ f : Pc → Nat, f Pc.idle = 0 → sumMap f (List.replicate n Pc.idle) = 0 :=
    fun f h => sumMap_eq_zero_of_all f _ fun pc hp => (List.eq_of_mem_replicate hp) ▸ h
  have hidle : ∀ t pc, (init c n).pcs[t]? = some pc → pc = Pc.idle :=
    fun t pc h => List.eq_of_mem_replicate (List.mem_of_getElem? h)
  constructor
  case acct => simp [init, slotSum, hz slots rfl]; omega
  case lockOwner =>
    intro t pc h hh
    cases hidle t pc h
    cases hh
  case readValid =>
    intro _ t v h
    cases hidle t _ h
  case limit =>
    intro hm
    simp only [init]
    rcases hc with h | h
    · exact absurd h hm
    · omega
  case idleLe => intro _; simp [init]
  case excl => intro r; simp [occ, init, hz (fun pc => (transit pc).count r) (by simp [transit])]
  case fresh => intro r _; simp [occ, init, hz (fun pc => (transit pc).count r) (by simp [transit])]

theorem inv_step (c : Cfg) (s s' : State) (t : Nat) (l : Label)
    (h : Inv c s) (hs : step c s t l = some s') : Inv c s' := by
  refine
    { acct := acct_step h.acct hs, lockOwner := lockOwner_step h.lockOwner hs,
      readValid := readValid_step h.lockOwner h.readValid hs, limit := limit_step h.readValid h.limit hs,
      idleLe := idleLe_step h.idleLe hs, excl := fun r => ?_, fresh := fun r hr => ?_ }
  · obtain ⟨_, hle | ⟨hnew, _, hsucc⟩⟩ := occ_step r hs
    · exact Nat.le_trans hle (h.excl r)
    · rw [hsucc, h.fresh r (Nat.le_of_eq hnew.symm)]
      exact Nat.le_refl 1
  · obtain ⟨hnext, hle | ⟨hnew, hn, _⟩⟩ := occ_step r hs
    · exact Nat.le_zero.1 (h.fresh r (Nat.le_trans hnext hr) ▸ hle)
    · rw [hn, hnew] at hr
      exact absurd hr (Nat.not_succ_le_self _)

theorem inv_reach (c : Cfg) (hc : WF c) (n : Nat) (s : State) (hr : Reach c n s) : Inv c s := by
  induction hr with
  | init => exact inv_init c hc n
  | step _ hs ih => exact inv_step c _ _ _ _ ih hs

theorem reach_of_run (c : Cfg) (n : Nat) :
    ∀ (ls : List (Nat × Label)) (s s' : State) (i : Nat),
      Reach c n s → run c s ls i = .ok s' → Reach c n s' := by
  intro ls
  induction ls with
  | nil => intro s s' i hr h; simp [run] at h; cases h; exact hr
  | cons a rest ih =>
    intro s s' i hr h
    obtain ⟨t, l⟩ := a
    simp only [run] at h
    split at h
    · rename_i s1 hs
      exact ih s1 s' (i + 1) (Reach.step hr hs) h
    · cases h

/-- every trace accepted by the driver (`pool run …` answering `ok`) ends in a state
    satisfying the invariant; prefixes of accepted traces are accepted, so it holds
    at every point of the observed execution -/
theorem inv_of_run (c : Cfg) (hc : WF c) (n : Nat) (ls : List (Nat × Label)) (s : State)
    (h : run c (init c n) ls 0 = .ok s) : Inv c s :=
  inv_reach c hc n s (reach_of_run c n ls _ _ 0 Reach.init h)

/-- **overflow_le_max**: with a limit configured, `_overflow` never exceeds
    `_max_overflow`, under any interleaving (the check in `_inc_overflow` is made under
    `_overflow_lock` and every writer takes that lock). -/
theorem overflow_le_max (c : Cfg) (hc : WF c) (n : Nat) (s : State) (hr : Reach c n s)
    (hlim : c.maxOv ≠ -1) : s.overflow ≤ c.maxOv :=
  (inv_reach c hc n s hr).limit hlim

/-- **open_le_size_plus_overflow**: idle + checked-out + in-flight records (every
    open DBAPI connection belongs to exactly one of them) never exceed
    `pool_size + max_overflow`. -/
theorem open_le_size_plus_overflow (c : Cfg) (hc : WF c) (n : Nat) (s : State)
    (hr : Reach c n s) (hlim : c.maxOv ≠ -1) :
    ((s.queue.length + s.out.length + slotSum s : Nat) : Int) ≤ c.size + c.maxOv := by
  have hi := inv_reach c hc n s hr
  have h1 := hi.acct
  have h2 := hi.limit hlim
  omega

/-- **idle_le_size**: never more than `pool_size` idle connections. -/
theorem idle_le_size (c : Cfg) (hc : WF c) (n : Nat) (s : State) (hr : Reach c n s)
    (hsz : 0 < c.size) : s.queue.length ≤ c.size :=
  (inv_reach c hc n s hr).idleLe hsz

/-- **exclusive_holders**: a record is in at most one place — idle in the queue,
    held by a checkout, or in transit inside `_do_return_conn` — and at most once
    there. -/
theorem exclusive_holders (c : Cfg) (hc : WF c) (n : Nat) (s : State) (hr : Reach c n s)
    (r : Rec) : occ r s ≤ 1 :=
  (inv_reach c hc n s hr).excl r

theorem held_not_idle (c : Cfg) (hc : WF c) (n : Nat) (s : State) (hr : Reach c n s)
    (r : Rec) (hheld : r ∈ s.out) : s.out.count r = 1 ∧ r ∉ s.queue := by
  have h := exclusive_holders c hc n s hr r
  have h1 : 1 ≤ s.out.count r := List.one_le_count_iff.2 hheld
  unfold occ at h
  refine ⟨by omega, ?_⟩
  intro hq
  have : 1 ≤ s.queue.count r := List.one_le_count_iff.2 hq
  omega

theorem queue_nodup (c : Cfg) (hc : WF c) (n : Nat) (s : State) (hr : Reach c n s) :
    s.queue.Nodup := by
  rw [List.nodup_iff_count]
  intro r
  have h := exclusive_holders c hc n s hr r
  unfold occ at h
  omega

/-- **checkedout_eq_live**: whenever no thread is inside a pool method,
    `checkedout()` (= `maxsize - qsize + _overflow`) is the number of live checkouts. -/
theorem checkedout_eq_live (c : Cfg) (hc : WF c) (n : Nat) (s : State) (hr : Reach c n s)
    (hq : quiescent s) : checkedout c s = s.out.length := by
  have h1 := (inv_reach c hc n s hr).acct
  have h0 : slotSum s = 0 :=
    sumMap_eq_zero_of_all slots s.pcs (fun pc hp => by rw [hq pc hp]; rfl)
  unfold checkedout
  omega

/-- **lock_mutex**: at most one thread is inside a critical section of
    `_overflow_lock`. -/
theorem lock_mutex (c : Cfg) (hc : WF c) (n : Nat) (s : State) (hr : Reach c n s)
    (t u : Nat) (pt pu : Pc) (ht : s.pcs[t]? = some pt) (hu : s.pcs[u]? = some pu)
    (h1 : holds pt = true) (h2 : holds pu = true) : t = u := by
  have hl := (inv_reach c hc n s hr).lockOwner
  have a := hl t pt ht h1
  have b := hl u pu hu h2
  rw [a] at b
  cases b; rfl

theorem empty_only_when_empty (c : Cfg) (s s' : State) (t : Nat)
    (h : step c s t Label.qe = some s') : s.queue = [] := by
  obtain ⟨old, new, sh, hold, htr, rfl⟩ := step_eq h
  cases htr
  assumption

/-- **waiter_served**: a getter inside `Queue.get` (blocking or not) facing a
    non-empty queue can take a connection and can *not* time out / see Empty: the
    Empty step is enabled only on an empty queue. -/
theorem waiter_served (c : Cfg) (s : State) (t : Nat) (w : Bool)
    (hpc : s.pcs[t]? = some (Pc.gq w)) (hq : s.queue ≠ []) :
    (∃ r s', step c s t (Label.pop r) = some s') ∧ step c s t Label.qe = none := by
  obtain ⟨r, rest, hp⟩ := popRest_of_ne_nil c.lifo s.queue hq
  constructor
  · refine ⟨r, ?_⟩
    unfold step Pool.trans
    simp only [hpc, hp]
    exact ⟨_, rfl⟩
  · cases h : step c s t Label.qe with
    | none => rfl
    | some s' => exact absurd (empty_only_when_empty c s s' t h) hq

/-- a connection returned while a getter waits enables that getter (and disables
    its timeout) in the very next state -/
theorem put_serves_waiter (c : Cfg) (s s' : State) (u t : Nat) (r : Rec) (w : Bool)
    (hput : step c s u (Label.put r) = some s') (hne : t ≠ u)
    (hpc : s.pcs[t]? = some (Pc.gq w)) :
    (∃ r' s'', step c s' t (Label.pop r') = some s'') ∧ step c s' t Label.qe = none := by
  obtain ⟨old, new, sh, hold, htr, rfl⟩ := step_eq hput
  have hpc' : (s.pcs.set u new)[t]? = some (Pc.gq w) := by
    rw [List.getElem?_set_ne (Ne.symm hne)]; exact hpc
  apply waiter_served c _ t w hpc'
  cases htr
  exact List.append_ne_nil_of_right_ne_nil _ (List.cons_ne_nil _ _)

/-- TimeoutError is raised only by a getter that blocked (`wait = True`) and then
    re-read `_overflow ≥ _max_overflow` -/
theorem timeout_only_when_exhausted (c : Cfg) (s s' : State) (t : Nat)
    (h : step c s t Label.to = some s') :
    ∃ v, s.pcs[t]? = some (Pc.ge1 true v) ∧ c.maxOv ≤ v := by
  obtain ⟨old, new, sh, hold, htr, rfl⟩ := step_eq h
  cases htr
  rename_i w v hg
  obtain ⟨h1, rfl⟩ := hg
  exact ⟨v, hold, h1⟩

def exCfg : Cfg := { size := 1, maxOv := 1, lifo := false }

/-- thread 0 and thread 1 both check out (two creations, overflow reaches the
    limit), thread 0 returns (queued), thread 1 returns (Full → close → dec). -/
def exTrace : List (Nat × Label) :=
  [(0, .cg), (0, .rv (-1)), (0, .qg false), (0, .qe), (0, .rv (-1)), (0, .ci), (0, .la),
   (1, .cg), (1, .rv (-1)), (1, .qg false), (1, .qe), (1, .rv (-1)), (1, .ci),
   (0, .rv (-1)), (0, .rmw (-1) 0), (0, .lr), (0, .cr 0),
   (1, .la), (1, .rv 0), (1, .rmw 0 1), (1, .lr), (1, .cr 1),
   (0, .cp 0), (0, .put 0), (1, .cp 1), (1, .qf), (1, .cl), (1, .cd), (1, .la),
   (1, .rmw 1 0), (1, .lr)]

example : WF exCfg := Or.inr (by decide)

example : (run exCfg (init exCfg 2) exTrace 0).toOption.map
    (fun s => (s.overflow, s.queue, s.out, s.pcs)) = some (0, [0], [], [Pc.idle, Pc.idle]) := by
  decide +kernel

/-- mid-run: both records checked out, `_overflow` at its limit, the invariant's
    hypotheses are satisfiable by a non-trivial state -/
example : (run exCfg (init exCfg 2) (exTrace.take 22) 0).toOption.map
    (fun s => (s.overflow, s.queue, s.out.length, checkedout exCfg s)) = some (1, [], 2, 2) := by
  decide +kernel

/-- a third checkout at the limit waits (`qg true`) and, with the queue still empty,
    may time out; after a `put` it may not (waiter_served is not vacuous) -/
example : (run exCfg (init exCfg 3)
    (exTrace.take 22 ++ [(2, .cg), (2, .rv 1), (2, .qg true), (0, .cp 0), (0, .put 0), (2, .qe)]) 0).toOption
    = none := by decide +kernel

example : (run exCfg (init exCfg 3)
    (exTrace.take 22 ++ [(2, .cg), (2, .rv 1), (2, .qg true), (0, .cp 0), (0, .put 0), (2, .pop 0)]) 0).toOption.map
    (fun s => (s.queue, s.out.length)) = some ([], 2) := by decide +kernel

/-- the LTS rejects an increment that skips the lock (what a racy `_inc_overflow`
    would produce) -/
example : (run exCfg (init exCfg 2)
    [(0, .cg), (0, .rv (-1)), (0, .qg false), (0, .qe), (0, .rv (-1)), (0, .ci), (0, .rmw (-1) 0)] 0).toOption
    = none := by decide +kernel

end SaVerif.Props.C25
