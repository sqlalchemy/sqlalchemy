import SaVerif.Lemmas.Defaults
import SaVerif.Lemmas.ListFacts
/-!
# C13 — Column defaults and onupdate fire exactly when the value is omitted

Property theorems about the default-firing model (`SaVerif/Model/Defaults.lean`,
transcription of `crud._scan_cols` dispositions and
`DefaultExecutionContext._process_execute_defaults`).

The full statement ("for every executemany, every row, every column: the default is
applied iff that row omits the column, a supplied value is never overridden") is FALSE
of the code and of the model: the statement is compiled for the keys of the *first*
parameter set and the prefetch defaults are then assigned into *every* parameter set
(finding F16).  What is proved is the full statement under the forced hypothesis that all
parameter sets have the first set's keys (`Homogeneous`; always true of a single execute), its
negation on a concrete witness, and the same for UPDATE/onupdate.
-/
namespace SaVerif.Props.C13
open SaVerif.Defaults

def Homogeneous (ncols : Nat) (ps : List Params) : Prop :=
  ∀ p ∈ ps, p.length = ncols ∧ keysOf p = keysOf (ps.headD [])

/-- value the property demands in cell `(i, c)` of an INSERT: the supplied value
    (including NULL) when the row supplies the column, the column's default otherwise -/
def wantInsert (k : Kind) (pv : Option Val) (i : Nat) (x : Int) : Val :=
  match pv with
  | some v => v
  | none => defaultValue k i x

/-- the same for an UPDATE of a row holding `old`: without an onupdate the column keeps it -/
def wantUpdate (k : Kind) (pv : Option Val) (i : Nat) (x : Int) (old : Val) : Val :=
  match pv with
  | some v => v
  | none =>
    match k with
    | .none | .server _ => old
    | _ => defaultValue k i x

theorem Homogeneous.keys_length {n : Nat} {ps : List Params} (h : Homogeneous n ps)
    (hne : ps ≠ []) : (keysOf (ps.headD [])).length = n := by
  cases ps with
  | nil => exact absurd rfl hne
  | cons p rest => rw [List.headD_cons, keysOf, List.length_map, (h p List.mem_cons_self).1]

theorem Homogeneous.keys_getD {n : Nat} {ps : List Params} (h : Homogeneous n ps) {i : Nat}
    (hi : i < ps.length) (c : Nat) :
    (keysOf (ps.headD [])).getD c false = ((ps.getD i []).getD c none).isSome := by
  rw [← (h _ (List.getElem_eq_getD [] ▸ List.getElem_mem hi)).2, keysOf_getD]

theorem expectCellU_eq_wantUpdate (k : Kind) (pv : Option Val) (i : Nat) (x : Int) (o : Val) :
    expectCellU k pv.isSome pv (i * expectInc k pv.isSome) x o = wantUpdate k pv i x o := by
  cases pv with
  | some v => rfl
  | none => cases k <;> simp [expectCellU, wantUpdate, expectInc, defaultValue]

theorem wantUpdate_server (k : Kind) (pv : Option Val) (i : Nat) (x : Int) :
    wantUpdate k pv i x (serverCell k) = wantInsert k pv i x := by
  cases pv with
  | some v => rfl
  | none => cases k <;> rfl

/-- **default_fires_iff_omitted_partial** (INSERT, single or executemany): under the
    forced hypothesis that every parameter set has the first set's keys,
    * the execution raises nothing,
    * every cell holds the supplied value if the row supplies the column (NULL included:
      `supplied_none_kept`) and the default otherwise (`callable b` returns `b + i` in
      row `i`, i.e. it has run exactly once for each earlier row; of a context default only
      that the cell is not NULL: what the function read, `x`, is left free),
    * each column's Python callable ran exactly once per row if the column is omitted and
      never if it is supplied. -/
theorem default_fires_iff_omitted_partial (kinds : List Kind) (ps : List Params)
    (hne : ps ≠ []) (hhom : Homogeneous kinds.length ps) :
    ∃ rows counts, execInsert kinds ps = .ok (rows, counts) ∧ rows.length = ps.length ∧
      (∀ i (_ : i < ps.length) c (_ : c < kinds.length), ∃ x,
        (rows.getD i [])[c]? = some (wantInsert kinds[c] ((ps.getD i []).getD c none) i x)) ∧
      (∀ c (_ : c < kinds.length),
        counts.getD c 0 = ps.length * expectInc kinds[c] ((keysOf (ps.headD [])).getD c false)) := by
  obtain ⟨curs, counts', hrun, hlen, _, hcnt, hrows⟩ :=
    runRows_update_spec kinds (keysOf (ps.headD [])) (hhom.keys_length hne) ps
      (kinds.map (fun _ => 0)) (List.length_map _) fun p hp => (hhom p hp).2
  refine ⟨curs.map (storeInsert (kinds.zip (disps kinds (keysOf (ps.headD []))))), counts', ?_,
    (List.length_map _).trans hlen, fun i hi c hc => ?_, fun c hc => ?_⟩
  · simp only [execInsert, hrun]
  · obtain ⟨x, h⟩ := hrows i hi c hc
    have h := h (serverRow kinds)
    rw [getD_zeros, Nat.zero_add, hhom.keys_getD hi, expectCellU_eq_wantUpdate,
      serverRow_getD kinds c hc, wantUpdate_server] at h
    exact ⟨x, by rw [← h, ListFacts.getD_map (hlen ▸ hi) [], storeInsert_eq_storeUpdate]⟩
  · rw [hcnt c hc, getD_zeros, Nat.zero_add]

/-- **default_fires_iff_omitted_single**: for ONE parameter set the statement holds with
    no hypothesis on the keys at all. -/
theorem default_fires_iff_omitted_single (kinds : List Kind) (p : Params)
    (hlen : p.length = kinds.length) :
    ∃ row counts, execInsert kinds [p] = .ok ([row], counts) ∧
      (∀ c (_ : c < kinds.length), ∃ x,
        row[c]? = some (wantInsert kinds[c] (p.getD c none) 0 x)) ∧
      (∀ c (_ : c < kinds.length),
        counts.getD c 0 = expectInc kinds[c] ((p.getD c none).isSome)) := by
  obtain ⟨rows, counts, hexec, hl, hcells, hcnt⟩ :=
    default_fires_iff_omitted_partial kinds [p] (List.cons_ne_nil _ _) fun q hq => by
      rw [List.mem_singleton.1 hq]
      exact ⟨hlen, rfl⟩
  match rows, hl with
  | [row], _ =>
    exact ⟨row, counts, hexec, hcells 0 Nat.zero_lt_one, fun c hc =>
      (hcnt c hc).trans (by rw [keysOf_getD]; exact Nat.one_mul _)⟩

/-- **supplied_none_kept**: an explicitly supplied NULL is stored as NULL whatever the
    column's default (under the same hypothesis). -/
theorem supplied_none_kept (kinds : List Kind) (ps : List Params)
    (hne : ps ≠ []) (hhom : Homogeneous kinds.length ps)
    (i c : Nat) (hi : i < ps.length) (hc : c < kinds.length)
    (hnull : (ps.getD i []).getD c none = some none) :
    ∃ rows counts, execInsert kinds ps = .ok (rows, counts) ∧ (rows.getD i [])[c]? = some none := by
  obtain ⟨rows, counts, hexec, _, hcells, _⟩ := default_fires_iff_omitted_partial kinds ps hne hhom
  obtain ⟨x, h⟩ := hcells i hi c hc
  exact ⟨rows, counts, hexec, by rw [h, hnull]; rfl⟩

/-- **default_fires_counterexample** (F16): the hypothesis is needed.  Column 1 has the
    scalar default 7; the first parameter set omits it, the second supplies 5 — and 7 is
    stored for the second row: a supplied value is overridden. -/
theorem default_fires_counterexample :
    ∃ (kinds : List Kind) (ps : List Params) (rows : List (List Val)) (counts : List Nat),
      execInsert kinds ps = .ok (rows, counts) ∧
      (ps.getD 1 []).getD 1 none = some (some 5) ∧ (rows.getD 1 []).getD 1 none = some 7 :=
  ⟨[.none, .scalar 7], [[some (some 1), none], [some (some 2), some (some 5)]],
    [[some 1, some 7], [some 2, some 7]], [0, 0], by decide +kernel, rfl, rfl⟩

/-- the reverse order is not silent: the later set lacks a key of the statement -/
theorem later_omission_raises :
    execInsert [.none, .scalar 7] [[some (some 1), some (some 5)], [some (some 2), none]]
      = .error .valueRequired := by decide +kernel

/-- **onupdate_fires_iff_omitted_partial**: same statement for UPDATE — a column in the
    SET parameters keeps the supplied value (NULL included); a column left out gets its
    onupdate value (Python scalar / callable / SQL expression; of a context function only a
    non-NULL value, `x` being free) or, with no onupdate, keeps its old value; callables run
    once per row exactly when omitted. -/
theorem onupdate_fires_iff_omitted_partial (onupd : List Kind) (ps : List Params)
    (olds : List (List Val)) (hne : ps ≠ []) (hhom : Homogeneous onupd.length ps)
    (hol : olds.length = ps.length) (hos : ∀ o ∈ olds, o.length = onupd.length) :
    ∃ rows counts, execUpdate onupd ps olds = .ok (rows, counts) ∧
      (∀ i (_ : i < ps.length) c (_ : c < onupd.length), ∃ x,
        (rows.getD i [])[c]? =
          some (wantUpdate onupd[c] ((ps.getD i []).getD c none) i x ((olds.getD i []).getD c none))) ∧
      (∀ c (_ : c < onupd.length),
        counts.getD c 0 = ps.length * expectInc onupd[c] ((keysOf (ps.headD [])).getD c false)) := by
  obtain ⟨curs, counts', hrun, hlen, _, hcnt, hrows⟩ :=
    runRows_update_spec onupd (keysOf (ps.headD [])) (hhom.keys_length hne) ps
      (onupd.map (fun _ => 0)) (List.length_map _) fun p hp => (hhom p hp).2
  refine ⟨List.zipWith (storeUpdate (onupd.zip (disps onupd (keysOf (ps.headD []))))) curs olds,
    counts', ?_, fun i hi c hc => ?_, fun c hc => ?_⟩
  · simp only [execUpdate, hrun]
  · obtain ⟨x, h⟩ := hrows i hi c hc
    have h := h (olds.getD i [])
    rw [getD_zeros, Nat.zero_add, hhom.keys_getD hi, expectCellU_eq_wantUpdate] at h
    exact ⟨x, by rw [← h, getD_zipWith (hlen ▸ hi) (hol ▸ hi)]⟩
  · rw [hcnt c hc, getD_zeros, Nat.zero_add]

/-- F16 for UPDATE: the second parameter set supplies column 1 (onupdate scalar 70), the
    first does not — 70 is stored over the supplied 5 -/
theorem onupdate_fires_counterexample :
    execUpdate [.none, .scalar 70] [[some (some 1), none], [some (some 2), some (some 5)]]
        [[some 0, some 0], [some 0, some 0]]
      = .ok ([[some 1, some 70], [some 2, some 70]], [0, 0]) := by decide +kernel

theorem pkPlan_retrievable (k : PkKind) (c : PkCtx) (hn : needPks c = true) (hk : k ≠ .plain)
    (ha : k = .autoinc → c.postfetchLastrowid = true ∨
      (c.insertReturning = true ∧ c.tableImplicitReturning = true)) :
    pkRetrievable (pkPlan k false c) = true := by
  unfold pkRetrievable
  dsimp only [pkPlan]
  rw [if_neg Bool.false_ne_true, if_pos hn]
  cases k with
  | plain => exact absurd rfl hk
  -- a Python default is pre-executed with or without implicit RETURNING
  | pydefault => cases implicitReturning .pydefault c <;> rfl
  -- an SQL default is in RETURNING if that is implicit, pre-executed otherwise
  | sqlexpr => cases implicitReturning .sqlexpr c <;> rfl
  | autoinc =>
    cases hir : implicitReturning .autoinc c with
    | true => rfl
    | false =>
      -- without implicit RETURNING only `cursor.lastrowid` is left
      obtain hp | ⟨h1, h2⟩ := ha rfl
      · exact hp
      · -- dialect and table allow RETURNING, so it is off only because lastrowid was preferred
        unfold implicitReturning postfetchLastrowid0 at hir
        rw [hn, h1, h2] at hir
        cases hb : c.postfetchLastrowid with
        | true => rfl
        | false => rw [hb] at hir; exact nomatch hir

/-- **pk_retrievable**: over every combination of the ten dialect / table / statement flags
    and every kind of primary-key generator: when the statement wants primary keys
    (`need_pks`) and the key is generated (not user supplied, some generator exists), the
    plan always provides a way to obtain it — a pre-executed default, RETURNING, or
    `cursor.lastrowid` — provided the dialect offers one of the two server-side routes for
    a database-generated key. -/
theorem pk_retrievable :
    ∀ (k : PkKind) (a b c d e f g h i j : Bool),
      let ctx : PkCtx := ⟨a, b, c, d, e, f, g, h, i, j⟩
      needPks ctx = true → k ≠ .plain →
      (k = .autoinc → b = true ∨ (a = true ∧ f = true)) →
      pkRetrievable (pkPlan k false ctx) = true :=
  fun k a b c d e f g h i j => pkPlan_retrievable k ⟨a, b, c, d, e, f, g, h, i, j⟩

theorem pkPlan_single_route (k : PkKind) (sup : Bool) (c : PkCtx) (v : Bool) :
    ¬ ((pkPlan k sup c v).inReturning = true ∧ (pkPlan k sup c v).lastrowid = true) ∧
    ¬ ((pkPlan k sup c v).prefetch = true ∧
        ((pkPlan k sup c v).inReturning = true ∨ (pkPlan k sup c v).inlineSql = true)) := by
  unfold pkPlan
  -- true whatever the two flags are: for a supplied key `inReturning` carries `!plr` and `lastrowid`
  -- `plr`; every other branch of `pkPlan` sets one of the two routes to `false` outright
  generalize implicitReturning k c = ir
  generalize postfetchLastrowid0 k c = plr0
  cases sup
  · cases needPks c <;> cases ir <;> cases k <;> simp
  · cases plr0 <;> cases ir <;> simp

/-- a key is never obtained twice: RETURNING and lastrowid are exclusive, and a
    pre-executed default never also asks the database for the key -/
theorem pk_single_route :
    ∀ (k : PkKind) (sup a b c d e f g h i j : Bool),
      let p := pkPlan k sup ⟨a, b, c, d, e, f, g, h, i, j⟩
      ¬ (p.inReturning = true ∧ p.lastrowid = true) ∧
      ¬ (p.prefetch = true ∧ (p.inReturning = true ∨ p.inlineSql = true)) :=
  fun k sup a b c d e f g h i j => pkPlan_single_route k sup ⟨a, b, c, d, e, f, g, h, i, j⟩ false

theorem pk_supplied_is_bound :
    ∀ (k : PkKind) (a b c d e f g h i j : Bool),
      let p := pkPlan k true ⟨a, b, c, d, e, f, g, h, i, j⟩
      p.bound = true ∧ p.prefetch = false ∧ p.inlineSql = false :=
  fun _ _ _ _ _ _ _ _ _ _ _ => ⟨rfl, rfl, rfl⟩

example : execInsert [.none, .scalar 7, .callable 100, .context 0 1000, .sqlexpr 9, .server 3]
    [[some (some 1), none, none, none, none, none], [some none, none, none, none, none, none]]
    = .ok ([[some 1, some 7, some 100, some 1001, some 9, some 3],
            [none, some 7, some 101, some 1000, some 9, some 3]], [0, 0, 2, 2, 0, 0]) := by decide +kernel
example : execInsert [.scalar 7, .callable 100] [[some none, some (some 4)]]
    = .ok ([[none, some 4]], [0, 0]) := by decide +kernel
example : Homogeneous 2 [[some (some 1), none], [some none, none]] := by
  intro p hp
  simp only [List.mem_cons, List.not_mem_nil, or_false] at hp
  rcases hp with rfl | rfl <;> exact ⟨rfl, rfl⟩

end SaVerif.Props.C13
