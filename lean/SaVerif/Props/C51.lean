import SaVerif.Model.Pickle
import SaVerif.Gen.PickleTables
/-!
# C51 — Pickling and serializer round-trips preserve state and results

Two general lemmas, one about `__getstate__`/`__setstate__`
pairs (`saved_and_restored_survives`) and one about state handed to `__init__` by position
(`positional_roundtrip`), and `decide` over the key tables regenerated by `ast` from the working
tree.  The differential oracle in `harness/props/c51.py` carries the claim.
-/
namespace SaVerif.Props.C51
open SaVerif.Pickle SaVerif.Gen.PickleTables

theorem lookup_getstate (saved : List String) (st : State) (f : String) :
    (getstate saved st).lookup f = if f ∈ saved then st f else none := by
  induction saved with
  | nil => rfl
  | cons x xs ih =>
    rw [getstate] at ih
    rw [getstate, List.filterMap_cons]
    by_cases hx : f = x
    · subst hx
      cases hv : st f with
      | none => rw [Option.map_none, ih, hv, ite_self, ite_self]
      | some v => simp
    · have hb : (f == x) = false := by simpa using hx
      cases st x with
      | none => simp [ih, hx]
      | some v => simp [List.lookup_cons, hb, ih, hx]

theorem roundtrip_eq (saved restored : List String) (st : State) (f : String) :
    roundtrip saved restored st f = if survives saved restored f then st f else none := by
  rw [roundtrip, setstate, lookup_getstate, survives, Bool.and_comm]
  cases restored.contains f <;> simp

/-- for any key tables and any object state, a field that
    `__getstate__` writes and `__setstate__` reads has the same value after the round trip
    (pickle being the identity on the state dict) -/
theorem saved_and_restored_survives (saved restored : List String) (st : State) (f : String)
    (hs : f ∈ saved) (hr : f ∈ restored) : roundtrip saved restored st f = st f := by
  rw [roundtrip_eq, if_pos (by simp [survives, hs, hr])]

theorem not_restored_is_lost (saved restored : List String) (st : State) (f : String)
    (hr : f ∉ restored) : roundtrip saved restored st f = none := by
  rw [roundtrip_eq, if_neg (by simp [survives, hr])]

def obsInstanceState : List String :=
  ["instance", "committed_state", "expired_attributes", "_pending_mutations", "modified", "expired",
   "callables", "key", "parents", "load_options", "info", "load_path"]
def obsRow : List String := ["_parent", "_data"]
def obsSimpleResultMetaData : List String := ["_keys", "_translated_indexes", "_ambiguous_keys"]
def obsCursorResultMetaData : List String := ["_keymap", "_keys", "_translated_indexes"]
def obsMetaData : List String :=
  ["tables", "schema", "schemas", "sequences", "fk_memos", "naming_convention", "objects"]
def obsCollectionAdapter : List String := ["key", "owner_state", "data", "invalidated", "empty"]

/-- every observable field of each of the six classes is written by `__getstate__` and read by `__setstate__`,
    and `__setstate__` reads no key that `__getstate__` does not write -/
theorem observable_fields_saved_and_restored :
    (subset obsInstanceState savedInstanceState && subset obsInstanceState restoredInstanceState
      && subset restoredInstanceState savedInstanceState) = true ∧
    (subset obsRow savedRow && subset obsRow restoredRow && subset restoredRow savedRow) = true ∧
    (subset obsSimpleResultMetaData savedSimpleResultMetaData
      && subset obsSimpleResultMetaData restoredSimpleResultMetaData
      && subset restoredSimpleResultMetaData savedSimpleResultMetaData) = true ∧
    (subset obsCursorResultMetaData savedCursorResultMetaData
      && subset obsCursorResultMetaData restoredCursorResultMetaData
      && subset restoredCursorResultMetaData savedCursorResultMetaData) = true ∧
    (subset obsMetaData savedMetaData && subset obsMetaData restoredMetaData
      && subset restoredMetaData savedMetaData) = true ∧
    (subset obsCollectionAdapter savedCollectionAdapter && subset obsCollectionAdapter restoredCollectionAdapter
      && subset restoredCollectionAdapter savedCollectionAdapter) = true := by
  decide +kernel

theorem subset_mem {sub sup : List String} (h : subset sub sup = true) {f : String} (hf : f ∈ sub) :
    f ∈ sup := by
  simp only [subset, List.all_eq_true] at h
  simpa using h f hf

theorem roundtrip_of_subsets {obs saved restored : List String}
    (h : (subset obs saved && subset obs restored && subset restored saved) = true)
    (st : State) (f : String) (hf : f ∈ obs) : roundtrip saved restored st f = st f := by
  simp only [Bool.and_eq_true] at h
  obtain ⟨⟨hsaved, hrestored⟩, -⟩ := h
  exact saved_and_restored_survives _ _ st f (subset_mem hsaved hf) (subset_mem hrestored hf)

theorem instance_state_roundtrip (st : State) (f : String) (hf : f ∈ obsInstanceState) :
    roundtrip savedInstanceState restoredInstanceState st f = st f :=
  roundtrip_of_subsets observable_fields_saved_and_restored.1 st f hf

theorem metadata_roundtrip (st : State) (f : String) (hf : f ∈ obsMetaData) :
    roundtrip savedMetaData restoredMetaData st f = st f := by
  obtain ⟨-, -, -, -, hMetaData, -⟩ := observable_fields_saved_and_restored
  exact roundtrip_of_subsets hMetaData st f hf

theorem row_roundtrip (st : State) (f : String) (hf : f ∈ obsRow) :
    roundtrip savedRow restoredRow st f = st f :=
  roundtrip_of_subsets observable_fields_saved_and_restored.2.1 st f hf

/-- `__init__(*args)`: the i-th argument lands in the i-th parameter -/
def bindPositional : List String → List Nat → List (String × Nat)
  | p :: ps, a :: as => (p, a) :: bindPositional ps as
  | _, _ => []

/-- if the state keys are handed to `__init__` in the order of the
    parameters they belong to (`params = keys.map rename`, parameters distinct), then the
    parameter of every key receives exactly that key's value — for any values -/
theorem positional_roundtrip (rename : String → String) :
    ∀ (keys : List String) (vals : List Nat) (i : Nat) (k : String) (v : Nat),
      ((keys.map rename).Nodup) → keys[i]? = some k → vals[i]? = some v →
      (bindPositional (keys.map rename) vals).lookup (rename k) = some v := by
  intro keys
  induction keys with
  | nil => intro vals i k v _ hk _; simp at hk
  | cons k0 ks ih =>
    intro vals i k v hnd hk hv
    cases vals with
    | nil => simp at hv
    | cons v0 vs =>
      simp only [List.map_cons, List.nodup_cons] at hnd
      cases i with
      | zero =>
        simp only [List.getElem?_cons_zero, Option.some.injEq] at hk hv
        subst hk; subst hv
        simp [bindPositional]
      | succ j =>
        simp only [List.getElem?_cons_succ] at hk hv
        have hmem : rename k ∈ ks.map rename := List.mem_map_of_mem (List.mem_of_getElem? hk)
        have hne : rename k ≠ rename k0 := fun h => hnd.1 (h ▸ hmem)
        simp only [List.map_cons, bindPositional, List.lookup, beq_false_of_ne hne]
        exact ih vs j k v hnd.2 hk hv

/-- state key ↦ `AliasedInsp.__init__` parameter it belongs to (from `__getstate__`: which
    attribute each key saves, and `__init__`: which parameter sets that attribute) -/
def aliasedRename : String → String
  | "mapper" => "inspected"
  | "alias" => "selectable"
  | "with_polymorphic_discriminator" => "polymorphic_on"
  | "base_alias" => "_base_alias"
  | "use_mapper_path" => "_use_mapper_path"
  | k => k

/-- `AliasedInsp.__setstate__` passes every saved key, each in the position of the `__init__` parameter it belongs to
    (tables regenerated by ast on every run: swapping two arguments breaks this `decide`) -/
theorem aliased_insp_setstate_order :
    aliasedSetstateArgs.map aliasedRename = aliasedInitParams ∧
    subset aliasedSetstateArgs aliasedSaved = true ∧ subset aliasedSaved aliasedSetstateArgs = true ∧
    aliasedInitParams.Nodup := by
  decide +kernel

/-- every AliasedInsp field (adapt_on_names, represents_outer_join, …) is handed back to
    the parameter that sets it, for any values -/
theorem aliased_insp_roundtrip (vals : List Nat) (i : Nat) (k : String) (v : Nat)
    (hk : aliasedSetstateArgs[i]? = some k) (hv : vals[i]? = some v) :
    (bindPositional aliasedInitParams vals).lookup (aliasedRename k) = some v := by
  obtain ⟨hparams, -, -, hnd⟩ := aliased_insp_setstate_order
  rw [← hparams] at hnd ⊢
  exact positional_roundtrip aliasedRename aliasedSetstateArgs vals i k v hnd hk hv

/-- `__setstate__` computes `identity_token` from `self.key`; what it sees depends on whether
    the statement runs after `key` was restored from the state dict -/
def derivedAfter (orderOK : Bool) (restoredKey : Option Nat) : Option Nat :=
  if orderOK then restoredKey else none

/-- the derivation exists and comes
    after the restoration of `key` (ast check of statement order, regenerated on every run), hence
    the unpickled state's identity token is the one inside its key, for every key -/
theorem identity_token_follows_key :
    identityTokenDerived = true ∧ identityTokenAfterKey = true ∧
    ∀ k : Option Nat, derivedAfter identityTokenAfterKey k = k := by
  have hafter : identityTokenAfterKey = true := by decide
  exact ⟨by decide, hafter, fun k => by simp [derivedAfter, hafter]⟩

example : derivedAfter false (some 3) = none := rfl

/-! a state with set and unset fields; a dropped field really is lost -/
example :
    let st : State := fun f => if f == "key" then some 7 else if f == "modified" then some 1 else none
    roundtrip savedInstanceState restoredInstanceState st "key" = some 7 ∧
    roundtrip savedInstanceState restoredInstanceState st "session_id" = none := by
  decide +kernel

end SaVerif.Props.C51
