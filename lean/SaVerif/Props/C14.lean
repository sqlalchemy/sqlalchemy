import SaVerif.Lemmas.DdlRun
/-!
# C14 — DDL is emitted in dependency order for any foreign-key graph

Property theorems about M-DDL (`SaVerif/Model/Ddl.lean`, transcription of
`lib/sqlalchemy/sql/ddl.py` on top of M-TOPO).  All theorems hold for every number of
tables, every FK graph (self references, cycles, several constraints to one target,
`use_alter`, unnamed constraints, `add_is_dependent_on` edges, an `extra_dependencies`
argument) and every backend content the hypotheses allow; the acceptance theorems for
`create_all` are for a dialect with `supports_alter` only (`emitCreate true`: with `false` a cycle
stays inline and the strict backend rejects it).  A theorem with a parameter `cyc`
holds for any function in the place of `find_cycles` that meets the hypotheses the theorem puts
on `cyc`; the others speak of the model's `findCycles`.
-/
namespace SaVerif.Props.C14
open SaVerif.Topo SaVerif.Ddl

/-- **inline constraints are safe** (CREATE side, `filter_fn=None`): a constraint that is
    not handed to ALTER has its referred table sorted strictly before its own table;
    `use_alter` constraints are always handed to ALTER; no constraint is lost or
    duplicated in the ALTER list. -/
theorem sort_tables_and_constraints_inline_ordered (cyc : List Edge → List Nat)
    (extraArg : List Edge) (tables : List Tbl) (s : Sorted) (hn : (ids tables).Nodup)
    (h : sortTCWith cyc fltCreate extraArg tables = some s) :
    (∀ t ∈ tables, ∀ f ∈ t.fkcs, (t.id, f) ∉ s.remaining → f.ref ≠ t.id → f.ref ∈ ids tables →
        s.order.idxOf f.ref < s.order.idxOf t.id) ∧
    (∀ t ∈ tables, ∀ f ∈ t.fkcs, f.useAlter = true → (t.id, f) ∈ s.remaining) ∧
    s.remaining.Nodup ∧
    (∀ r ∈ s.remaining, ∃ t ∈ tables, t.id = r.1 ∧ r.2 ∈ t.fkcs) := by
  have sp := sortTCWith_spec hn (noShared_create _ _) h
  refine ⟨sp.inlineOrdered, ?_, sp.remNodup, ?_⟩
  · intro t ht f hf hu
    exact sp.deferredIn t ht f hf ((deferred_fltCreate f).trans hu)
  · intro r hr
    obtain ⟨t, ht, hid, hf, _⟩ := sp.remReal r hr
    exact ⟨t, ht, hid, hf⟩

/-- `add_is_dependent_on` / `extra_dependencies` edges are never given up -/
theorem sort_tables_and_constraints_fixed_ordered (cyc : List Edge → List Nat) (flt : Filter)
    (extraArg : List Edge) (tables : List Tbl) (s : Sorted)
    (h : sortTCWith cyc flt extraArg tables = some s)
    (e : Edge) (he : e ∈ fixedDeps extraArg tables) (h1 : e.1 ∈ ids tables) (h2 : e.2 ∈ ids tables) :
    s.order.idxOf e.1 < s.order.idxOf e.2 :=
  sortTCWith_fixedOrdered h he h1 h2

/-- **sorted_tables_respects_acyclic_deps**: for every foreign key (not `use_alter`, not a
    self reference) whose owning table is not reported on a cycle, the referred table
    comes first.  (For a table on a cycle the documented behaviour is that *all* its
    foreign keys are ignored.) -/
theorem sorted_tables_respects_acyclic_deps (cyc : List Edge → List Nat) (tables : List Tbl)
    (out : List Nat) (h : (sortTCWith cyc fltCreate [] tables).map (·.order) = some out)
    (t : Tbl) (ht : t ∈ tables) (f : Fkc) (hf : f ∈ t.fkcs) (hua : f.useAlter = false)
    (hne : f.ref ≠ t.id) (hin : f.ref ∈ ids tables)
    (hnc : t.id ∉ cyc (fixedDeps [] tables ++ mutable0 fltCreate tables)) :
    out.idxOf f.ref < out.idxOf t.id := by
  obtain ⟨s, hs, rfl⟩ := Option.map_eq_some_iff.1 h
  obtain ⟨st, hinv, hsort, _⟩ := sortTCWith_some hs
  have hm : (f.ref, t.id) ∈ mutable0 fltCreate tables :=
    mem_mutable0.2 ⟨t, ht, f, hf, (deferred_fltCreate f).trans hua, hne, rfl⟩
  have hkeep := hinv (fun st => (f.ref, t.id) ∈ st.2) hm fun _ _ hP => breakEdge_keep_noncycle hP hnc
  exact Props.C19.sort_respects _ _ _ _ _ hsort (List.mem_append_right _ hkeep) hin
    (mem_ids.2 ⟨t, ht, rfl⟩)

theorem sorted_tables_perm (tables : List Tbl) (out : List Nat)
    (h : sortTables tables = some out) : out.Perm (ids tables) := by
  obtain ⟨s, hs, rfl⟩ := Option.map_eq_some_iff.1 h
  exact sortTCWith_perm hs

/-- **second_sort_total**: with `filter_fn=None` and no fixed dependencies,
    `sort_tables_and_constraints` never raises, provided `find_cycles` reports at least one
    member of every non-empty set of tables in which each table has a parent inside the
    set (true of the exact set of nodes on cycles, which is what the model's `findCycles`
    reports: C19's `find_cycles_exact`; the model's `findCycles` is tied to the real
    `find_cycles` by the C19 correspondence check). -/
theorem second_sort_total (cyc : List Edge → List Nat) (tables : List Tbl)
    (hn : (ids tables).Nodup) (hnoextra : ∀ t ∈ tables, t.extra = [])
    (hC : ∀ S : List Nat, S ≠ [] →
        (∀ n ∈ S, ∃ p ∈ S, (p, n) ∈ mutable0 fltCreate tables) →
        ∃ x ∈ S, x ∈ cyc (mutable0 fltCreate tables)) :
    ∃ s, sortTCWith cyc fltCreate [] tables = some s := by
  unfold sortTCWith
  simp only [fixedDeps_nil hnoextra, List.nil_append]
  split
  · exact ⟨_, rfl⟩
  · split
    · exact ⟨_, rfl⟩
    · rename_i hsort2
      exfalso
      obtain ⟨S, hne, _, hclosed⟩ := sort_none_stuck hsort2
      have hsub : ∀ n ∈ S, ∃ p ∈ S, (p, n) ∈ mutable0 fltCreate tables := by
        intro n hn'
        obtain ⟨p, hp, he⟩ := hclosed n hn'
        exact ⟨p, hp, foldl_breakEdge_snd_sub _ _ _ he⟩
      obtain ⟨x, hxS, hxc⟩ := hC S hne hsub
      obtain ⟨p, _, he⟩ := hclosed x hxS
      have hm := foldl_breakEdge_snd_sub _ _ _ he
      exact foldl_breakEdge_removes hn _ _ (p, x) hm hm hxc he

/-- **second_sort_total_of_exact_cycles**: the same with the natural hypothesis on
    `find_cycles`: it reports every table that lies on a dependency cycle. -/
theorem second_sort_total_of_exact_cycles (cyc : List Edge → List Nat) (tables : List Tbl)
    (hn : (ids tables).Nodup) (hnoextra : ∀ t ∈ tables, t.extra = [])
    (hcyc : ∀ x, OnCycle (mutable0 fltCreate tables) x → x ∈ cyc (mutable0 fltCreate tables)) :
    ∃ s, sortTCWith cyc fltCreate [] tables = some s := by
  apply second_sort_total cyc tables hn hnoextra
  intro S hne hclosed
  obtain ⟨x, hx, hon⟩ := closed_set_has_cycle hne hclosed
  exact ⟨x, hx, hcyc x hon⟩

/-- **second_sort_total_unconditional**: for the real `find_cycles` (C19's
    `find_cycles_exact` discharges the hypothesis): with `filter_fn=None` and no
    `add_is_dependent_on` edges, `sort_tables_and_constraints` — hence create_all's sort
    and `sorted_tables` — never raises, whatever the foreign-key graph. -/
theorem second_sort_total_unconditional (tables : List Tbl)
    (hn : (ids tables).Nodup) (hnoextra : ∀ t ∈ tables, t.extra = []) :
    ∃ s, sortTC fltCreate [] tables = some s :=
  second_sort_total_of_exact_cycles findCycles tables hn hnoextra
    (fun x hx => (Props.C19.find_cycles_exact _ x).2 hx)

/-- t1 ↔ t2 -/
def cexIsolatedPre : List Tbl :=
  [⟨1, [⟨10, 2, false, true⟩], [], []⟩, ⟨2, [⟨11, 1, false, true⟩], [], []⟩]

example : OnCycle [(1, 2), (2, 1)] 1 := ⟨2, by decide, .tail (.refl 2) (by decide)⟩
example : ∃ s, sortTC fltCreate [] cexIsolatedPre = some s :=
  second_sort_total_unconditional _ (by decide) (by decide)

/-- **create_all_accepted**: on a backend that enforces referenced-table existence, the DDL
    `SchemaGenerator.visit_metadata` emits with `supports_alter` for the tables `tables` (those that passed
    `_can_create_table`) is accepted statement by statement, and afterwards every table,
    every declared foreign key constraint and every index exists; nothing else changes.
    Hypotheses: table keys distinct; the tables are new and the backend holds no constraint
    of a table it does not hold (adding an existing constraint is rejected); every referred
    table is either being created or already present; and the constraints disabled by an earlier
    `AddConstraint(isolate_from_table=True)` are again handed to ALTER (see
    `create_all_counterexample_isolated`). -/
theorem create_all_accepted (cyc : List Edge → List Nat) (extraArg : List Edge)
    (tables : List Tbl) (db : DB) (disabled : List FkRef) (s : Sorted)
    (hn : (ids tables).Nodup)
    (hnew : ∀ t ∈ tables, t.id ∉ db.tables)
    (hwf : ∀ r ∈ db.fks, r.1 ∈ db.tables)
    (hclosed : ∀ t ∈ tables, ∀ f ∈ t.fkcs, f.ref ∈ db.tables ∨ f.ref ∈ ids tables)
    (hs : sortTCWith cyc fltCreate extraArg tables = some s)
    (hdis : ∀ r ∈ disabled, r.1 ∈ ids tables → r ∈ s.remaining) :
    ∃ db', run db (emitCreate true disabled tables s) = some db' ∧
      db'.tables = db.tables ++ s.order ∧
      (∀ t ∈ tables, t.id ∈ db'.tables) ∧
      (∀ r, r ∈ db'.fks ↔ r ∈ db.fks ∨ ∃ t ∈ tables, t.id = r.1 ∧ r.2 ∈ t.fkcs) ∧
      (∀ x, x ∈ db'.idx ↔ x ∈ db.idx ∨ ∃ t ∈ tables, t.id = x.1 ∧ x.2 ∈ t.indexes) := by
  have sp := sortTCWith_spec hn (noShared_create _ _) hs
  have hin : ∀ {t : Tbl}, t ∈ tables → t.id ∈ s.order :=
    fun ht => sp.perm.mem_iff.2 (mem_ids.2 ⟨_, ht, rfl⟩)
  have hts : ∀ {t : Tbl}, t ∈ tblsOf tables s.order ↔ t ∈ tables :=
    (mem_tblsOf hn).trans (and_iff_left_of_imp hin)
  have hmap : (tblsOf tables s.order).map (·.id) = s.order :=
    tblsOf_map_id fun i hi => sp.perm.mem_iff.1 hi
  have hrun1 : run db ((tblsOf tables s.order).flatMap (createTableOps true disabled s)) =
      some (createdDB (createInline true disabled s) db (tblsOf tables s.order)) := by
    refine run_creates (createInline true disabled s) _ db (by rw [hmap]; exact sp.perm.nodup_iff.2 hn)
      (fun t ht => hnew t (hts.1 ht)) fun t ht f hf => ?_
    obtain ⟨hff, ⟨hnr, _⟩, _⟩ := mem_createInline_true.1 hf
    by_cases hself : f.ref = t.id
    · exact .inl hself
    · rw [hmap]
      exact .inr ((hclosed t (hts.1 ht) f hff).imp_right
        (sp.inlineOrdered t (hts.1 ht) f hff hnr hself))
  have htabs : (createdDB (createInline true disabled s) db (tblsOf tables s.order)).tables =
      db.tables ++ s.order := by rw [createdDB_tables, hmap]
  have hrun2 := run_adds s.remaining
      (createdDB (createInline true disabled s) db (tblsOf tables s.order)) sp.remNodup (by
    intro r hr
    obtain ⟨t, ht, hid, hf, _⟩ := sp.remReal r hr
    rw [htabs]
    refine ⟨List.mem_append_right _ (hid ▸ hin ht),
      List.mem_append.2 ((hclosed t ht r.2 hf).imp_right sp.perm.mem_iff.2), fun hm => ?_⟩
    rcases mem_createdDB_fks.1 hm with hdb | ⟨t', _, hid', hf'⟩
    · exact hnew t ht (hid ▸ hwf r hdb)
    · -- an inline constraint is not in the ALTER list
      obtain ⟨_, ⟨hnr, _⟩, _⟩ := mem_createInline_true.1 hf'
      exact hnr (hid' ▸ hr))
  refine ⟨_,
    Eq.trans ?_ hrun2,
    htabs,
    fun t ht => htabs ▸ List.mem_append_right _ (hin ht),
    fun r => ?_,
    fun x => ?_⟩
  · rw [emitCreate, run_append, hrun1, Option.bind_some, if_pos rfl]
  · simp only [List.mem_append, mem_createdDB_fks, hts]
    constructor
    · rintro ((h | ⟨t, ht, hid, hf⟩) | h)
      · exact .inl h
      · exact .inr ⟨t, ht, hid, (mem_createInline_true.1 hf).1⟩
      · obtain ⟨t, ht, hid, hf, _⟩ := sp.remReal r h
        exact .inr ⟨t, ht, hid, hf⟩
    · rintro (h | ⟨t, ht, hid, hf⟩)
      · exact .inl (.inl h)
      · by_cases hrem : r ∈ s.remaining
        · exact .inr hrem
        · obtain ⟨_, f⟩ := r
          subst hid
          refine .inl (.inr ⟨t, ht, rfl, mem_createInline_true.2 ⟨hf, ⟨hrem, ?_⟩, ?_⟩⟩)
          · -- a `use_alter` constraint would be in the ALTER list
            exact Bool.eq_false_iff.2 fun hu =>
              hrem (sp.deferredIn t ht f hf ((deferred_fltCreate f).trans hu))
          · intro hd
            exact hrem (hdis _ hd (mem_ids.2 ⟨t, ht, rfl⟩))
  · simp only [mem_createdDB_idx, hts]

/-- `MetaData.create_all(checkfirst=True)` as a whole with `supports_alter`, on a MetaData none of
    whose constraints has been isolated yet: the tables already present are
    skipped, and the rest is accepted by the strict backend provided every referred table
    belongs to the MetaData or exists. -/
theorem create_all_checkfirst_accepted (tables : List Tbl) (db : DB)
    (hn : (ids tables).Nodup)
    (hwf : ∀ r ∈ db.fks, r.1 ∈ db.tables)
    (hclosed : ∀ t ∈ tables, ∀ f ∈ t.fkcs, f.ref ∈ db.tables ∨ f.ref ∈ ids tables)
    (ops : List Op) (dis' : List FkRef)
    (iso : Bool)
    (h : createAllWith iso true true db.tables [] tables = some (ops, dis')) :
    ∃ db', run db ops = some db' ∧
      (∀ t ∈ tables, t.id ∈ db'.tables) ∧
      (∀ t ∈ tables, t.id ∉ db.tables → ∀ f ∈ t.fkcs, (t.id, f) ∈ db'.fks) := by
  rw [createAllWith_eq] at h
  simp only [toCreate, if_true] at h
  obtain ⟨s, hs, h⟩ := Option.map_eq_some_iff.1 h
  cases h
  have hcand : ∀ {t : Tbl}, t ∈ tables.filter (fun t => !db.tables.contains t.id) ↔
      t ∈ tables ∧ t.id ∉ db.tables :=
    List.mem_filter.trans (and_congr_right fun _ => ListFacts.not_contains_iff)
  have hcclosed : ∀ t ∈ tables.filter (fun t => !db.tables.contains t.id), ∀ f ∈ t.fkcs,
      f.ref ∈ db.tables ∨ f.ref ∈ ids (tables.filter (fun t => !db.tables.contains t.id)) := by
    intro t ht f hf
    by_cases hdb : f.ref ∈ db.tables
    · exact .inl hdb
    · rcases hclosed t (hcand.1 ht).1 f hf with h1 | h1
      · exact .inl h1
      · obtain ⟨t', ht', hid'⟩ := mem_ids.1 h1
        exact .inr (mem_ids.2 ⟨t', hcand.2 ⟨ht', by rw [hid']; exact hdb⟩, hid'⟩)
  obtain ⟨db', hrun, htabs, htab, hfks, _⟩ :=
    create_all_accepted findCycles [] _ db [] s ((List.filter_sublist.map _).nodup hn)
      (fun t ht => (hcand.1 ht).2) hwf hcclosed hs nofun
  refine ⟨db', hrun, fun t ht => ?_, fun t ht hdb f hf =>
    (hfks (t.id, f)).2 (.inr ⟨t, hcand.2 ⟨ht, hdb⟩, rfl, hf⟩)⟩
  by_cases hdb : t.id ∈ db.tables
  · exact htabs ▸ List.mem_append_left _ hdb
  · exact htab t (hcand.2 ⟨ht, hdb⟩)

/-- **create_all twice**: with checkfirst, when every table already exists nothing at all is
    emitted (in particular no ALTER TABLE ADD CONSTRAINT for the constraints of existing tables)
    and the MetaData state is unchanged -/
theorem create_all_checkfirst_noop (iso sa : Bool) (present : List Nat) (disabled : List FkRef)
    (tables : List Tbl) (hall : ∀ t ∈ tables, t.id ∈ present) :
    createAllWith iso sa true present disabled tables = some ([], disabled) := by
  have hcand : toCreate true present tables = [] :=
    List.filter_eq_nil_iff.2 fun t ht h => ListFacts.not_contains_iff.1 h (hall t ht)
  rw [createAllWith_eq, hcand, sortTC_nil]
  simp only [Option.map_some, List.append_nil, ite_self]
  cases sa <;> rfl

/-- if `SchemaGenerator` did not isolate the constraints it ALTERs, create_all would leave
    the MetaData's constraints untouched (the state `disabled` never grows) -/
theorem create_all_no_isolation (sa cf : Bool) (present : List Nat) (disabled : List FkRef)
    (tables : List Tbl) (ops : List Op) (dis' : List FkRef)
    (h : createAllWith false sa cf present disabled tables = some (ops, dis')) : dis' = disabled := by
  rw [createAllWith_eq, Bool.and_false] at h
  obtain ⟨s, -, h⟩ := Option.map_eq_some_iff.1 h
  cases h
  rfl

/-
Full statement (FALSE, see `drop_all_counterexample_shared_target`):

  theorem drop_all_accepted ... (no `hshare`) :
    sortTCWith cyc (fltDrop true) [] tables = some s → run db (emitDrop true s) = some db' ∧ ...
-/

/-- **drop_all_accepted_partial**: when `SchemaDropper.visit_metadata`'s sort succeeds
    (no CircularDependencyError, which is the documented outcome for a cycle of unnamed
    constraints), every `use_alter` constraint has a name (otherwise the documented
    CompileError), the backend holds exactly the declared constraints of these tables
    and no outside table references them, then the emitted DROP CONSTRAINT / DROP TABLE
    sequence is accepted by the strict backend and removes the tables, their constraints
    and indexes, and nothing else — under the guard `NoShared`: no table on a reported
    cycle owns a constraint that stays inline (unnamed) and a named one to the same target. -/
theorem drop_all_accepted_partial (cyc : List Edge → List Nat) (tables : List Tbl) (db : DB)
    (s : Sorted) (hn : (ids tables).Nodup)
    (hshare : NoShared (fltDrop true) tables
        (cyc (fixedDeps [] tables ++ mutable0 (fltDrop true) tables)))
    (hnamed : ∀ t ∈ tables, ∀ f ∈ t.fkcs, f.useAlter = true → f.named = true)
    (hpres : ∀ t ∈ tables, t.id ∈ db.tables)
    (hfks : ∀ t ∈ tables, ∀ f ∈ t.fkcs, (t.id, f) ∈ db.fks)
    (hown : ∀ r ∈ db.fks, r.1 ∈ ids tables → ∃ t ∈ tables, t.id = r.1 ∧ r.2 ∈ t.fkcs)
    (hout : ∀ r ∈ db.fks, r.1 ∉ ids tables → r.2.ref ∉ ids tables)
    (hs : sortTCWith cyc (fltDrop true) [] tables = some s) :
    ∃ db', run db (emitDrop true s) = some db' ∧
      (∀ i, i ∈ db'.tables ↔ i ∈ db.tables ∧ i ∉ ids tables) ∧
      (∀ r, r ∈ db'.fks ↔ r ∈ db.fks ∧ r.1 ∉ ids tables) ∧
      (∀ x, x ∈ db'.idx ↔ x ∈ db.idx ∧ x.1 ∉ ids tables) := by
  have sp := sortTCWith_spec hn hshare hs
  have hord : ∀ {i : Nat}, i ∈ s.order ↔ i ∈ ids tables := sp.perm.mem_iff
  have hnc : ∀ {i : Nat}, (!s.order.contains i) = true ↔ i ∉ ids tables :=
    ListFacts.not_contains_iff.trans (not_congr hord)
  have hrunA := run_dropConstraints s.remaining db sp.remNodup fun r hr => by
    obtain ⟨t, ht, hid, hf, hk⟩ := sp.remReal r hr
    rw [deferred_fltDrop, removable_fltDrop_true] at hk
    have := hfks t ht r.2 hf
    rw [hid] at this
    exact ⟨hk.elim (hnamed t ht r.2 hf) id, this⟩
  have hrunB := run_dropTables s.order
    ⟨db.tables, db.fks.filter (fun r => !s.remaining.contains r), db.idx⟩ (sp.perm.nodup_iff.2 hn)
    (fun i hi => by
      obtain ⟨tb, htb, hid⟩ := mem_ids.1 (hord.1 hi)
      exact hid ▸ hpres tb htb)
    (fun r hr => by
      obtain ⟨hrdb, hrnr⟩ := List.mem_filter.1 hr
      refine ⟨fun hin => ?_, fun hnin hc => hout r hrdb (mt hord.2 hnin) (hord.1 hc)⟩
      obtain ⟨t, ht, hid, hf⟩ := hown r hrdb (hord.1 hin)
      by_cases hself : r.2.ref = r.1
      · exact .inl hself
      · by_cases hrin : r.2.ref ∈ ids tables
        · -- a constraint that stays inline keeps its edge in the sort
          have := sp.inlineOrdered t ht r.2 hf
          rw [hid] at this
          exact .inr (.inr (this (ListFacts.not_contains_iff.1 hrnr) hself hrin))
        · exact .inr (.inl (mt hord.1 hrin)))
  refine ⟨_,
    Eq.trans ?_ hrunB,
    fun i => by simp only [List.mem_filter, hnc],
    fun r => ?_,
    fun x => by simp only [List.mem_filter, hnc]⟩
  · rw [emitDrop, run_append, if_pos rfl, hrunA]
    rfl
  · refine List.mem_filter.trans ⟨fun h => ⟨(List.mem_filter.1 h.1).1, hnc.1 h.2⟩, fun h => ?_⟩
    refine ⟨List.mem_filter.2 ⟨h.1, ListFacts.not_contains_iff.2 fun hrem => ?_⟩, hnc.2 h.2⟩
    obtain ⟨t, ht, hid, _⟩ := sp.remReal r hrem
    exact h.2 (mem_ids.2 ⟨t, ht, hid⟩)

/-! Counterexamples: genuine defects, replayed on the real code by `harness/props/c14.py`. -/

/-- t1 —fk10 (named)→ t2, t1 —fk12 (unnamed)→ t2, t2 —fk11 (named)→ t1 -/
def cexShared : List Tbl :=
  [⟨1, [⟨10, 2, false, true⟩, ⟨12, 2, false, false⟩], [], []⟩, ⟨2, [⟨11, 1, false, true⟩], [], []⟩]

/-- **drop_all_counterexample_shared_target**: create_all is accepted, then drop_all's sort
    succeeds (`some ops2`) but its DDL is rejected by the strict backend (`run … = none`:
    DROP TABLE t2 while the unnamed constraint of t1 still references it).  The full
    `drop_all_accepted` (without `NoShared`) is false. -/
theorem drop_all_counterexample_shared_target :
    ((createAllWith true true false [] [] cexShared).bind fun p1 =>
      (run DB.empty p1.1).bind fun db1 =>
        (dropAll true false db1.tables cexShared).map fun ops2 => run db1 ops2) = some none := by
  decide +kernel

/-- t1 —fk10→ t2, t2 —fk11→ t1 (both named); the same tables as `cexIsolatedPre` -/
def cexIsolated : List Tbl :=
  [⟨1, [⟨10, 2, false, true⟩], [], []⟩, ⟨2, [⟨11, 1, false, true⟩], [], []⟩]

/-- **create_all_counterexample_isolated**: after one create_all of a cycle (both
    constraints ALTERed, hence isolated), t2 disappears out of band; create_all with
    checkfirst re-creates t2 — accepted, but WITHOUT its constraint (final `fks = []`):
    the hypothesis `hdis` of `create_all_accepted` cannot be dropped. -/
theorem create_all_counterexample_isolated :
    ((createAllWith true true true [] [] cexIsolated).bind fun p1 =>
      (createAllWith true true true [1] p1.2 cexIsolated).bind fun p2 => run ⟨[1], [], []⟩ p2.1)
      = some ⟨[1, 2], [], []⟩ := by
  decide +kernel

/-- a cycle with a tail and a self reference: accepted, everything present -/
def exTables : List Tbl :=
  [⟨3, [⟨30, 1, false, true⟩], [], [7]⟩, ⟨1, [⟨10, 2, false, true⟩, ⟨13, 1, false, false⟩], [], []⟩,
   ⟨2, [⟨20, 1, false, false⟩, ⟨21, 4, true, true⟩], [], [8, 9]⟩, ⟨4, [], [], []⟩]

example : (sortTC fltCreate [] exTables).map (·.order) = some [1, 2, 4, 3] := by decide +kernel
example : ((sortTC fltCreate [] exTables).map (·.remaining)).map (·.length) = some 4 := by decide +kernel
example : ((createAllWith true true false [] [] exTables).bind fun p => run DB.empty p.1).map
    (fun d => (d.tables, d.fks.length, d.idx)) = some ([1, 2, 4, 3], 5, [(2, 8), (2, 9), (3, 7)]) := by
  decide +kernel
/-- a cycle whose members are all named: created and dropped without error -/
example : ((createAllWith true true false [] [] cexIsolated).bind fun p1 =>
      (run DB.empty p1.1).bind fun db1 =>
        (dropAll true false db1.tables cexIsolated).bind fun ops2 => run db1 ops2)
      = some ⟨[], [], []⟩ := by
  decide +kernel

end SaVerif.Props.C14
