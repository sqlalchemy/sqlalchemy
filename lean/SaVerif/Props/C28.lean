import SaVerif.Lemmas.ExecOnce
import SaVerif.Lemmas.EventOps2
/-!
# C28 — Event listeners fire exactly as registered

Two models:
* `SaVerif/Model/ExecOnce.lean`: `exec_once` / `_exec_once_impl` / `_get_exec_once_mutex`
  as an LTS with per-thread program counters (any number of threads, every
  interleaving);
* `SaVerif/Model/Event.lean`: the listener registry (class-level deques with lazy
  `update_subclass`, instance collections, registry keys, `once` wrappers).

Full statement wanted for exec_once:

    theorem exec_once_at_most_once (n) (s) (hr : Reach false n s) : s.runs ≤ 1

(`false` = the code as it is on a GIL build: `util.mini_gil` is a `nullcontext`, so
the lazy creation of `_exec_once_mutex` is check / create / assign in three steps).
It is FALSE: `exec_once_counterexample`.  What holds is `exec_once_at_most_once_partial`
(the creation is atomic, as on free-threaded builds where `mini_gil` is an RLock).
-/
namespace SaVerif.Props.C28
open SaVerif.ExecOnce

/-- **exec_once_at_most_once_partial**: if the mutex is created atomically, then for
    any number of threads calling `exec_once` concurrently and any interleaving of
    their steps the listeners are entered at most once. -/
theorem exec_once_at_most_once_partial (n : Nat) (s : State) (hr : Reach true n s) : s.runs ≤ 1 := by
  have h := inv_reach n s hr
  cases hf : s.flag with
  | true => exact Nat.le_of_eq (h.runsSet hf)
  | false =>
    rw [h.runsUnset hf]
    exact Nat.le_trans (sumMap_mono inRun_le_crit s.pcs) (h.critHeld ▸ h.oneHolder)

/-- at most one thread is inside the critical section -/
theorem exec_once_mutex (n : Nat) (s : State) (hr : Reach true n s) : sumMap crit s.pcs ≤ 1 := by
  have h := inv_reach n s hr
  rw [h.critHeld]
  exact h.oneHolder

/-- the other half of exactly-once: when all threads are done and the listeners ran, the flag is
    set, so later callers skip them -/
theorem exec_once_flag_set (n : Nat) (s : State) (hr : Reach true n s) (hrun : 0 < s.runs)
    (hq : ∀ pc ∈ s.pcs, pc = Pc.done) : s.flag = true := by
  cases hf : s.flag with
  | true => rfl
  | false =>
    have hz : sumMap inRun s.pcs = 0 := ListFacts.sum_map_eq_zero fun pc hp => by rw [hq pc hp]; rfl
    rw [(inv_reach n s hr).runsUnset hf, hz] at hrun
    exact absurd hrun (Nat.lt_irrefl 0)

/-- the two-thread schedule found by the harness (and reproduced with real threads):
    both threads see `_exec_once_mutex is None`, each creates its own Lock, both enter -/
def raceTrace : List (Nat × Label) :=
  [(0, .rdFlag false), (1, .rdFlag false), (0, .rdMutex none), (1, .rdMutex none),
   (0, .mk 0), (1, .mk 1), (0, .asg), (1, .asg), (0, .acq), (1, .acq),
   (0, .rdFlag2 false), (1, .rdFlag2 false)]

/-- **exec_once_counterexample**: with the non-atomic lazy creation (the code on GIL
    builds) two threads run the listeners twice. -/
theorem exec_once_counterexample :
    ∃ s, run false (init 2) raceTrace = some s ∧ s.runs = 2 := by
  refine ⟨_, rfl, ?_⟩
  decide +kernel

/-- the negation of the full statement, as a reachable state of the real-code LTS -/
theorem exec_once_at_most_once_fails : ∃ s, Reach false 2 s ∧ ¬ s.runs ≤ 1 := by
  obtain ⟨s, hrun, hr2⟩ := exec_once_counterexample
  exact ⟨s, reach_of_run false 2 _ _ _ Reach.init hrun, by omega⟩

/-- non-vacuity of the partial theorem: a 2-thread run where one thread executes the
    listeners and the other finds the flag set -/
example : (run true (init 2)
    [(0, .rdFlag false), (1, .rdFlag false), (0, .init 0), (1, .rdMutex (some 0)), (1, .rdMutexRet 0), (0, .acq),
     (0, .rdFlag2 false), (0, .ret), (0, .setFlag), (0, .rel), (1, .acq), (1, .rdFlag2 true),
     (1, .rel)]).map (fun s => (s.runs, s.flag, s.pcs)) = some (1, true, [Pc.done, Pc.done]) := by
  decide +kernel

section registry
open SaVerif.Event

/-- a `once=True` listener that has fired is not called again -/
theorem once_fired_not_called (l : Lsn) :
    ∀ (ls : List Lsn) (st : St) (info : LInfo), st.lsn[l]? = some info → info.once = true →
      info.fired = true → (∀ x ∈ ls, x = l) → (callAll st ls).2 = [] := by
  intro ls
  induction ls with
  | nil => intro st info _ _ _ _; rfl
  | cons a rest ih =>
    intro st info h1 h2 h3 hall
    have ha := hall a (by simp)
    subst ha
    simp only [callAll, h1, h2, h3, if_true]
    exact ih st info h1 h2 h3 (fun x hx => hall x (by simp [hx]))

/-- dispatching twice in a row: a once-listener contributes to the first call list only -/
example :
    (run (init 2) [.newinst 0, .listen (.cls 0) 0 false 1, .listen (.cls 0) 1 false 0, .fire 0, .fire 0]).2
      = [.done, .done, .done, .calls [0, 1], .calls [1]] := by decide +kernel

/-- **double_listen_counterexample**: `listen(C, f)` twice on a class is not
    de-duplicated (instances: "doubles are eliminated"): f fires twice, one `remove`
    leaves one copy firing, and that copy can never be removed (the key is gone). -/
theorem double_listen_counterexample :
    (run (init 1) [.newinst 0, .listen (.cls 0) 0 false 0, .listen (.cls 0) 0 false 0, .fire 0,
                   .remove (.cls 0) 0, .fire 0, .remove (.cls 0) 0, .fire 0]).2
      = [.done, .done, .done, .calls [0, 0], .done, .calls [0], .noSuchListener, .calls [0]] := by
  decide +kernel

/-- the same on an instance target behaves as specified -/
example :
    (run (init 1) [.newinst 0, .listen (.inst 0) 0 false 0, .listen (.inst 0) 0 false 0, .fire 0,
                   .remove (.inst 0) 0, .fire 0, .remove (.inst 0) 0]).2
      = [.done, .done, .done, .calls [0], .done, .calls [], .noSuchListener] := by decide +kernel

/-- **related_classes_order_counterexample**: f registered on Base, g on Base, f again
    on the subclass A; removing A's registration deletes the *first* f of A's deque, so
    Base's f now fires after g on instances of A (registration order: f, g). -/
theorem related_classes_order_counterexample :
    (run (init 2) [.subclass 0, .newinst 1, .listen (.cls 0) 0 false 0, .listen (.cls 0) 1 false 0,
                   .listen (.cls 1) 0 false 0, .fire 0, .remove (.cls 1) 0, .fire 0]).2
      = [.done, .done, .done, .done, .done, .calls [0, 1, 0], .done, .calls [1, 0]] := by decide +kernel

/-- a subclass created after the listeners were registered, and an instance created
    later still, see the same listeners in the same order (lazy `update_subclass`) -/
example :
    (run (init 3) [.listen (.cls 0) 0 false 0, .listen (.cls 0) 1 true 0, .subclass 0, .subclass 1,
                   .listen (.cls 1) 2 false 0, .newinst 2, .fire 0, .remove (.cls 0) 0, .fire 0]).2
      = [.done, .done, .done, .done, .done, .done, .calls [1, 0, 2], .done, .calls [1, 2]] := by decide +kernel

/-! ## dispatch_eq_spec

The spec lists `specDeque`, `specColl` are those of `Lemmas/Event.lean`.

Full statement wanted: for EVERY op sequence, `fire i` calls exactly
`specDeque st (class of i) ++ specColl st i`.  It is false (`double_listen_counterexample`,
`related_classes_order_counterexample` above).  What holds, for every op sequence over a
class tree that grows at any time (`subclass`), instances created at any time, insert /
once / named options, removals, is the statement below under `RunOk`:
a class-level `listen` (a) does not repeat a live key and (b), when it registers the bare
function (no once/named wrapper), that function object is not currently listening on any
class.  The second `listen` of `double_listen_counterexample` fails (a), and (b) with it; the third
of `related_classes_order_counterexample` fails (b) only. -/

def OpOk (n : Nat) (st : St) : Op → Prop
  | .listen (.cls c) fn _ wrap =>
    fn < n ∧ hasKey st (.cls c) fn = false ∧ (wrap = 0 → ∀ x ∈ clsEntries st, x.lsn ≠ fn)
  | .listen (.inst _) fn _ _ => fn < n
  | _ => True

def RunOk (n : Nat) : St → List Op → Prop
  | _, [] => True
  | st, op :: ops => OpOk n st op ∧ RunOk n (exec st op).1 ops

theorem einv_init (n : Nat) : EInv n (Event.init n) := by
  have hpar : ∀ k, parentOf (Event.init n) k = none := fun k => by cases k <;> rfl
  have hdq : ∀ k, dequeOf (Event.init n) k = none := fun k => by cases k <;> rfl
  have hreg : ∀ e, e ∉ (Event.init n).reg := fun _ => List.not_mem_nil
  refine ⟨⟨fun k p hp => (nomatch (hpar k).symm.trans hp), rfl,
      fun k d hd => (nomatch (hdq k).symm.trans hd), fun e he => absurd he (hreg e)⟩,
    ⟨List.nodup_nil, fun _ => List.nodup_nil, fun e he => absurd he (hreg e), fun e he => absurd he (hreg e),
      fun e he => absurd he (hreg e), ?_⟩, fun i => rfl, nofun⟩
  show n ≤ ((List.range n).map _).length
  rw [List.length_map, List.length_range]
  exact Nat.le_refl n

theorem einv_exec (n : Nat) (st : St) (op : Op) (h : EInv n st) (hok : OpOk n st op) :
    EInv n (exec st op).1 := by
  cases op with
  | listen t fn ins wrap =>
    cases t with
    | cls c =>
      obtain ⟨hfn, hkey, hdist⟩ := hok
      rw [exec_listenCls]
      split
      · -- `(_, _).1` is reduced first: unifying it as it stands unfolds `listenCls`
        dsimp only
        exact listenCls_inv h c fn ins wrap ‹_› hfn hkey hdist
      · exact h
    | inst i =>
      rw [exec_listenInst]
      split
      · dsimp only
        exact listenInst_inv h i fn ins wrap ‹_› hok
      · exact h
  | remove t fn => exact (remove_inv h t fn).1
  | subclass p =>
    rw [exec_subclass]
    split
    · dsimp only
      exact subclass_inv h p ‹_›
    · exact h
  | newinst c =>
    rw [exec_newinst]
    split
    · exact newinst_inv h c ‹_›
    · exact h
  | fire i =>
    rw [exec_fire]
    split
    · exact h
    · exact h.core (callAll_core _ st)

theorem einv_run (n : Nat) : ∀ (ops : List Op) (st : St), EInv n st → RunOk n st ops →
    EInv n (Event.run st ops).1 := by
  intro ops
  induction ops with
  | nil => intro st h _; simpa [Event.run] using h
  | cons op ops ih =>
    intro st h hok
    have : (Event.run st (op :: ops)).1 = (Event.run (exec st op).1 ops).1 := by simp [Event.run]
    rw [this]
    exact ih _ (einv_exec n st op h hok.1) hok.2

/-- **dispatch_eq_spec_partial**: after any admissible op sequence, for every instance the
    listeners that a dispatch walks through -- the class-level deque of its class followed by
    its own collection -- are exactly the spec lists. -/
theorem dispatch_eq_spec_partial (n : Nat) (ops : List Op) (hok : RunOk n (Event.init n) ops)
    (i : Nat) (x : Inst) (hx : (Event.run (Event.init n) ops).1.insts[i]? = some x) :
    (dequeOf (Event.run (Event.init n) ops).1 x.cls).getD [] ++ x.coll.getD [] =
      specDeque (Event.run (Event.init n) ops).1 x.cls ++ specColl (Event.run (Event.init n) ops).1 i :=
  (einv_run n ops _ (einv_init n) hok).dispatch_eq hx

/-- ... hence `fire i` reports exactly the calls of the spec lists (once-wrappers that
    already fired excluded, as for any list) -/
theorem fire_eq_spec (n : Nat) (ops : List Op) (hok : RunOk n (Event.init n) ops)
    (i : Nat) (x : Inst) (hx : (Event.run (Event.init n) ops).1.insts[i]? = some x) :
    (exec (Event.run (Event.init n) ops).1 (.fire i)).2 =
      .calls (callAll (Event.run (Event.init n) ops).1
        (specDeque (Event.run (Event.init n) ops).1 x.cls ++
         specColl (Event.run (Event.init n) ops).1 i)).2 := by
  have := dispatch_eq_spec_partial n ops hok i x hx
  rw [exec_fire, hx, ← this]

/-- in an admissible run `remove` of a live key never fails and a dead key is reported -/
theorem remove_ok (n : Nat) (ops : List Op) (hok : RunOk n (Event.init n) ops) (t : Target) (fn : Nat) :
    (exec (Event.run (Event.init n) ops).1 (.remove t fn)).2 =
      if hasKey (Event.run (Event.init n) ops).1 t fn then .done else .noSuchListener :=
  (remove_inv (einv_run n ops _ (einv_init n) hok) t fn).2

/-- non-vacuity of `RunOk`: a run with a class created late, insert, once, an instance
    listener, a removal -/
example : RunOk 3 (Event.init 3)
    [.listen (.cls 0) 0 false 0, .listen (.cls 0) 1 true 1, .subclass 0, .subclass 1,
     .listen (.cls 1) 2 false 0, .newinst 2, .listen (.inst 0) 0 true 2, .fire 0,
     .remove (.cls 0) 0, .fire 0] := by
  simp only [RunOk, OpOk]
  decide +kernel

/-- `RunOk` excludes the two counterexample sequences -/
example : ¬ RunOk 1 (Event.init 1)
    [.newinst 0, .listen (.cls 0) 0 false 0, .listen (.cls 0) 0 false 0, .fire 0] := by
  simp only [RunOk, OpOk]
  decide +kernel

example : ¬ RunOk 2 (Event.init 2)
    [.subclass 0, .newinst 1, .listen (.cls 0) 0 false 0, .listen (.cls 0) 1 false 0,
     .listen (.cls 1) 0 false 0, .fire 0] := by
  simp only [RunOk, OpOk]
  decide +kernel

end registry

end SaVerif.Props.C28
