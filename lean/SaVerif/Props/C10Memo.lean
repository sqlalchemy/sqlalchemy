import SaVerif.Lemmas.ResultMemo
import SaVerif.Gen.ResultPolicy
/-!
# C10 (memoized getters) — reconfiguring a Result mid-stream takes effect

`Model/ResultMemo.lean` is the facade as it really is: `_onerow_getter`, `_manyrow_getter`,
`_iterator_getter`, `_row_getter`, `_unique_strategy` are computed once from the configuration
at first use and reused until an `@_generative` method pops them.  Which methods are generative
is read off the source (`Gen/ResultPolicy.lean`, regenerated by ast on every run);
`result_policy_generative`, on which `result_reconfiguration_takes_effect` rests, is the statement
that fails to build when `@_generative` is removed from `yield_per`, `unique` or `_column_slices`.
-/
namespace SaVerif.Props.C10Memo
open SaVerif.Result

variable {σ : Type}

theorem reset_core2 (h : MHandle) (b : Bool) : (h.core.reset b).core = h.core :=
  reset_core h.core b

/-- **mrun_refines**: over any source that refines the bare list, any op sequence (including
    `unique` / `yield_per` / `columns` / `scalars` / `mappings` after partial consumption) whose run
    raises no flag returns the outputs and flags it returns over the list (that the memos and the
    shared filter sets agree after every call is `mstep_refines`). -/
theorem mrun_refines {O : SrcOps σ} {good : σ → Prop} {abs : σ → Plain} (R : Refines O good abs)
    (pol : Policy) (use : Bool) :
    ∀ (ops : List Op) (st : MSt σ), good st.src → (∀ x ∈ mrun O pol use st ops, x.2 = false) →
      mrun Plain.ops pol use (absM abs st) ops = mrun O pol use st ops := by
  intro ops
  induction ops with
  | nil => intro st _ _; rfl
  | cons op ops ih =>
    intro st hg hz
    have h := mstep_refines R pol use st op hg (hz _ List.mem_cons_self)
    simp only [mrun]
    rw [h.1, ih (mstep O pol use st op).2 h.2 fun x hx => hz x (List.mem_cons_of_mem _ hx)]

/-- the run in which every call starts from an empty memo, i.e. reads the current configuration -/
def prun (O : SrcOps σ) (pol : Policy) (st : MSt σ) : List Op → List Out
  | [] => []
  | op :: ops =>
    match mstep O pol true (forget st) op with
    | (o, st') => o.1 :: prun O pol st' ops

theorem prun_congr (O : SrcOps σ) (pol : Policy) (ops : List Op) (a b : MSt σ) (h : forget a = forget b) :
    prun O pol a ops = prun O pol b ops := by
  cases ops with
  | nil => rfl
  | cons op ops => unfold prun; rw [h]

/-- **mrun_transparent**: a run that starts with a fresh memo and raises no flag returns,
    call by call, what the facade would return if every call read the current configuration:
    reconfiguration after partial consumption takes effect -/
theorem mrun_transparent (O : SrcOps σ) (pol : Policy) :
    ∀ (ops : List Op) (st : MSt σ), st.fresh → (∀ x ∈ mrun O pol true st ops, x.2 = false) →
      (mrun O pol true st ops).map (·.1) = prun O pol st ops := by
  intro ops
  induction ops with
  | nil => intro st _ _; rfl
  | cons op ops ih =>
    intro st hf hz
    simp only [mrun] at hz
    have hz0 : (mstep O pol true st op).1.2 = false := hz _ (by simp)
    have h := mstep_transparent O pol st op hf hz0
    simp only [mrun, prun, List.map_cons]
    rw [h.1, ih (mstep O pol true st op).2 h.2.2 (fun x hx => hz x (by simp [hx])),
      prun_congr O pol ops _ _ h.2.1]

/-- the real strategies + the real memoization vs. the bare list read afresh on every call -/
theorem src_mrun_plain (pol : Policy) (ops : List Op) (st : MSt Src) (hg : st.src.good) (hf : st.fresh)
    (hz : ∀ x ∈ mrun Src.ops pol true st ops, x.2 = false) :
    (mrun Src.ops pol true st ops).map (·.1) = prun Plain.ops pol (absM Src.abs st) ops := by
  have h1 := mrun_refines src_refines pol true ops st hg hz
  have hf' : (absM Src.abs st).fresh := hf
  have hz' : ∀ x ∈ mrun Plain.ops pol true (absM Src.abs st) ops, x.2 = false := by rw [h1]; exact hz
  rw [← h1]
  exact mrun_transparent Plain.ops pol ops _ hf' hz'

open SaVerif.Gen.ResultPolicy in
/-- every reconfiguration method of the Result classes carries `@_generative` (regenerated
    from engine/result.py and engine/cursor.py; `decide` re-runs when the source changes) -/
theorem result_policy_generative :
    (policy.resultUnique && policy.resultYieldPer && policy.cursorYieldPer && policy.chunkedYieldPer
      && policy.columnSlices && policy.filterYieldPer) = true := by
  decide +kernel

theorem reconfiguration_takes_effect (O : SrcOps σ) (pol : Policy) (st : MSt σ)
    (hp : (pol.resultUnique && pol.resultYieldPer && pol.cursorYieldPer && pol.chunkedYieldPer
      && pol.columnSlices && pol.filterYieldPer) = true) :
    (∀ u, (mstep O pol true st (.unique .r u)).1.2 = false) ∧
    (∀ idxs, (mstep O pol true st (.columns .r idxs)).1.2 = false) ∧
    (st.v = none → ∀ n, (mstep O pol true st (.yieldPer .r n)).1.2 = O.ypLossy st.src) ∧
    (∀ hv, st.v = some hv → ∀ n, (mstep O pol true st (.yieldPer .v n)).1.2 = O.ypLossy st.src) := by
  simp only [Bool.and_eq_true] at hp
  obtain ⟨⟨⟨⟨⟨hUnique, hResultYp⟩, hCursorYp⟩, hChunkedYp⟩, hSlices⟩, hFilterYp⟩ := hp
  have hry : ∀ k, pol.rYieldPer k = true := by
    intro k
    unfold Policy.rYieldPer
    split
    · exact hCursorYp
    · split
      · exact hChunkedYp
      · exact hResultYp
  refine ⟨fun u => ?_, fun idxs => ?_, fun hv n => ?_, fun hv0 hv n => ?_⟩
  · show (!pol.resultUnique && _) = false
    rw [hUnique]
    rfl
  · dsimp only [mstep]
    rw [hSlices]
    split
    · rfl
    · split <;> rfl
  · dsimp only [mstep]
    rw [hry, hv]
    cases O.ypLossy st.src <;> cases st.r.memo.many <;> rfl
  · dsimp only [mstep, isR]
    rw [hry, hv, hFilterYp]
    cases O.ypLossy st.src <;> rfl

open SaVerif.Gen.ResultPolicy in
/-- **result_reconfiguration_takes_effect**: on a Result (no view in play) `unique`, `columns`
    and `yield_per` never raise the stale-memo flag, whatever was fetched before (the flag left
    to `yield_per` is `ypLossy`); `yield_per` through a view resets both objects.  These are flags
    of one call: `mrun_transparent` wants every flag of the run `false`.  With `mrun_transparent`:
    `fetchmany()` after a mid-stream `yield_per(k)` delivers `k` rows, whatever was fetched
    before. -/
theorem result_reconfiguration_takes_effect (O : SrcOps σ) (st : MSt σ) :
    (∀ u, (mstep O policy true st (.unique .r u)).1.2 = false) ∧
    (∀ idxs, (mstep O policy true st (.columns .r idxs)).1.2 = false) ∧
    (st.v = none → ∀ n, (mstep O policy true st (.yieldPer .r n)).1.2 = O.ypLossy st.src) ∧
    (∀ hv, st.v = some hv → ∀ n, (mstep O policy true st (.yieldPer .v n)).1.2 = O.ypLossy st.src) :=
  reconfiguration_takes_effect O policy st result_policy_generative

/-
Full statement (FALSE for views, see below): for every handle `unique()` never raises the
stale-memo flag.  `ScalarResult.unique` / `MappingResult.unique` are plain methods.
-/
open SaVerif.Gen.ResultPolicy in
/-- **finding view-unique-after-fetch-ignored**: `s = r.scalars(); s.fetchmany(1); s.unique();
    s.fetchmany(5)` — the memoized many-row getter keeps the unfiltered configuration and
    duplicates are delivered; reading the current configuration would de-duplicate -/
theorem view_unique_stale_counterexample :
    let st : MSt Plain := MSt.init { rem := [[1], [1], [2], [2], [3]], hard := false, d1 := false } false 1 0
    let ops := [Op.scalars 0, .fetchmany .v (some 1), .unique .v .ident, .fetchmany .v (some 5)]
    (mrun Plain.ops policy true st ops).map (·.1) =
      [.unit, .items [.scalar 1], .unit, .items [.scalar 1, .scalar 2, .scalar 2, .scalar 3]] ∧
    prun Plain.ops policy st ops =
      [.unit, .items [.scalar 1], .unit, .items [.scalar 1, .scalar 2, .scalar 3]] ∧
    (mrun Plain.ops policy true st ops).map (·.2) = [false, false, true, false] := by
  decide +kernel

/-- `yield_per(0)` ("below 1 fetches all rows for the next buffer") then a size-less
    `fetchmany()` / `partitions()`: `_fetchmany_impl(0)` delivers nothing, which is what a size of 0
    asks for — the rows stay available (decision: not a violation; flagged as hazard because a
    size of 0 is driver-defined on a plain DBAPI cursor) -/
theorem yield_per_zero_counterexample :
    let st : MSt Src := MSt.init (Src.mkBuffered 5 [[1], [2], [3]]) false 1 1
    mrun Src.ops SaVerif.Gen.ResultPolicy.policy true st
        [.yieldPer .r 0, .fetchmany .r none, .partitions .r none 3, .fetchall .r] =
      [(.unit, false), (.items [], true), (.parts [], true), (.items [.row [1], .row [2], .row [3]], false)] := by
  decide +kernel

/-- on `FullyBufferedCursorFetchStrategy` the rows do not stay available after `yield_per(0)` and a
    size-less `fetchmany()`: its `fetchmany(0)` takes the empty batch for exhaustion and soft-closes,
    the buffered rows are discarded (finding `fully-buffered-fetchmany-zero-closes-result`); over
    the bare list they are still there -/
theorem fully_buffered_zero_counterexample :
    let ops := [Op.yieldPer .r 0, .fetchmany .r none, .fetchall .r]
    (mrun Src.ops SaVerif.Gen.ResultPolicy.policy true (MSt.init (Src.mkFull [[1], [2], [3]]) false 1 1) ops).map (·.1) =
      [.unit, .items [], .items []] ∧
    (mrun Plain.ops SaVerif.Gen.ResultPolicy.policy true
        (MSt.init { rem := [[1], [2], [3]], hard := false, d1 := false } false 1 1) ops).map (·.1) =
      [.unit, .items [], .items [.row [1], .row [2], .row [3]]] := by
  decide +kernel

/-! non-vacuity: a fresh start; a flag-free run that reconfigures three times mid-stream -/
example : (MSt.init (Src.mkDefault [[1], [2]]) false 1 1).fresh := by
  refine ⟨empty_fresh _ _ rfl, ?_⟩
  intro hv hx; cases hx

example :
    let st : MSt Src := MSt.init (Src.mkDefault ((List.range 12).map (fun i => [i % 4]))) false 1 1
    let ops := [Op.fetchmany .r (some 2), .yieldPer .r 3, .fetchmany .r none, .unique .r .ident,
                .partitions .r none 1, .columns .r [0, 0], .fetchone .r]
    (∀ x ∈ mrun Src.ops SaVerif.Gen.ResultPolicy.policy true st ops, x.2 = false) ∧
    (mrun Src.ops SaVerif.Gen.ResultPolicy.policy true st ops).map (·.1) =
      [.items [.row [0], .row [1]], .unit, .items [.row [2], .row [3], .row [0]], .unit,
       .parts [[.row [1], .row [2], .row [3]]], .unit, .item (.row [0, 0])] := by
  decide +kernel

end SaVerif.Props.C10Memo
