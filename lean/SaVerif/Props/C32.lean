import SaVerif.Lemmas.SessDb
import SaVerif.Lemmas.SessNew
/-!
# C32 — a failed flush leaves the database untouched and the session recoverable

About the transcribed failure path of `Session._flush` (Model/Sess.lean: `flush` →
`flushFailed` = `transaction.rollback(_capture_exception=True)` of the flush
subtransaction → the nearest boundary transaction is rolled back in the database, left
DEACTIVE, `_restore_snapshot`), for EVERY session state: the rows and `session.new`.  That the
boundary transaction is left inactive and `rollback()` then ends it is shown on the history of
the first `example` only.
-/
namespace SaVerif.Props.C32
open SaVerif.Sess

/-- `_restore_snapshot` changes neither the rows visible to the connection nor the committed rows. -/
theorem restore_snapshot_keeps_rows (σ : Sess) (dirtyOnly : Bool) :
    (restoreSnapshot σ dirtyOnly).1.db = σ.db ∧ (restoreSnapshot σ dirtyOnly).1.committed = σ.committed :=
  Prod.mk.inj (rows_restoreSnapshot σ dirtyOnly)

/-- After the failure path the connection shows exactly the rows of the transaction boundary (the
    committed rows, or the SAVEPOINT snapshot for a nested transaction), and the committed rows are
    what they were. -/
theorem failed_flush_restores_rows (σ : Sess) (t : Txn) (ts : List Txn) (h : σ.txns = t :: ts) :
    (flushFailed σ).db = (if t.nested then t.snap else σ.committed) ∧
    (flushFailed σ).committed = σ.committed :=
  Prod.mk.inj ((frame_rows.flushFailed_tail rows_restoreSnapshot h).trans (rows_restoreSnapshot _ _))

/-- `session.new` is empty after a failed flush (every pending instance was expunged), also when
    the restoration itself raised. -/
theorem failed_flush_empties_new (σ : Sess) (h : σ.txns ≠ []) : (flushFailed σ).new = [] :=
  new_flushFailed σ h

/-- two pending instances with one primary key: the INSERT fails; the row inserted earlier in
    the transaction is rolled back with it, both instances are transient again, the session is
    inactive until rollback() -/
example :
    let σ := run true [.new 1, .new 1, .add 0, .flush, .add 1]
    (flush σ).2 = some .integrity ∧ σ.db = [1] ∧ (flush σ).1.db = [] ∧ (flush σ).1.new = [] ∧
    (flush σ).1.txns.map (·.active) = [false] ∧
    (rollback (flush σ).1).2 = none ∧ (rollback (flush σ).1).1.txns = [] := by decide +kernel

/-- inside a SAVEPOINT the rows go back to the SAVEPOINT snapshot, not to the committed rows -/
example :
    let σ := run true [.new 1, .new 2, .new 2, .add 0, .nbegin, .add 1, .flush, .add 2]
    (flush σ).2 = some .integrity ∧ σ.db = [1, 2] ∧ (flush σ).1.db = [1] ∧ (flush σ).1.committed = [] := by
  decide +kernel

end SaVerif.Props.C32
