import SaVerif.Lemmas.SessImap
import SaVerif.Lemmas.Lookup
/-!
# C34 — the identity map holds at most one object per row

Model: `SaVerif/Model/Sess.lean` (transcription of orm/identity.py, the identity lookups of
orm/loading.py and Session.get/merge/refresh, flush with primary-key switches).
What does NOT hold for the code as it is: identity-map entries are not always attached
instances, and a "persistent" instance is not always the identity map's instance for its key
(the two `*_counterexample`s, both replayed on the real Session).
-/
namespace SaVerif.Props.C34
open SaVerif.Sess

/-- After ANY history of operations (add, delete, flush, commit, rollback, savepoints, expunge,
    close, merge, get, queries with and without populate_existing, refresh, primary-key changes,
    make_transient*, failed flushes included) no identity key occurs twice in
    `session.identity_map`. -/
theorem identity_unique (eoc : Bool) (ops : List Op) : KN (run eoc ops) :=
  run_induction eoc ops List.nodup_nil KN_step

theorem identity_unique_prefix (eoc : Bool) (ops : List Op) (n : Nat) : KN (run eoc (ops.take n)) :=
  identity_unique eoc _

theorem identity_map_functional (σ : Sess) (h : KN σ) (k : Nat) (o1 o2 : Oid)
    (h1 : (k, o1) ∈ σ.imap) (h2 : (k, o2) ∈ σ.imap) : o1 = o2 :=
  congrArg Prod.snd (Lookup.eq_of_key_eq h h2 h1 rfl)

/-- non-vacuity: a history that loads, switches a primary key, reloads -/
example : (run true [.new 1, .new 2, .add 0, .add 1, .commit, .setpk 0 3, .flush, .query false, .get 3]).imap
    = [(2, 1), (3, 0)] := by decide +kernel

/-- `Session.get(Item, k)` with the instance present in the identity map and not expired returns
    it and leaves the whole session state, the statement counter included, untouched. -/
theorem get_no_sql_when_present (σ : Sess) (k : Nat) (o : Oid)
    (hp : imLookup σ k = some o) (he : (getO σ o).expired = false) :
    Sess.get σ k = ((σ, none), some o) := by
  unfold Sess.get
  rw [hp]
  simp [he, ok]

example : let σ := run true [.new 1, .add 0, .flush]
    imLookup σ 1 = some 0 ∧ (getO σ 0).expired = false ∧ (Sess.get σ 1).1.1.sql = σ.sql := by decide +kernel

/-- the instance a load produces for the row with key `k` is the identity map's instance for
    `k` afterwards (existing one reused, else the new one registered) -/
theorem loadRow_returns_identity (σ : Sess) (k : Nat) (o : Oid)
    (h : (loadRow σ k).2 = some o) : imLookup (loadRow σ k).1 k = some o := by
  unfold loadRow at h ⊢
  by_cases hc : σ.db.contains k = true
  · simp only [hc, if_true] at h ⊢
    cases hl : imLookup σ k with
    | some o' =>
      simp only [hl] at h ⊢
      cases h
      have : ∀ τ : Sess, τ.imap = σ.imap → imLookup τ k = some o := fun τ hτ => by
        unfold imLookup at *; rw [hτ]; exact hl
      apply this
      split <;> rfl
    | none =>
      simp only [hl, loadNew] at h ⊢
      cases h
      unfold imLookup at *
      simp [List.lookup_append, hl]
  · rw [if_neg hc] at h
    cases h

/-- what does not hold: an identity-map entry can point at a *detached* instance
    (primary key switched + flushed, expunge_all, rollback: `_restore_snapshot` re-inserts
    the expunged state).  `imapOk` = every entry is an attached instance carrying that key. -/
theorem imap_entries_attached_counterexample :
    imapOk (run true [.new 1, .add 0, .commit, .setpk 0 2, .flush, .expungeAll, .rollback]) = false := by
  decide +kernel

/-- what does not hold: two attached instances can carry the same identity key; the one
    evicted by `identity_map.replace` still has the flags of "persistent" -/
theorem persistent_in_identity_map_counterexample :
    let σ := run true [.new 1, .new 1, .mtd 0, .add 0, .add 1, .flush]
    (getO σ 0).key = some 1 ∧ (getO σ 0).att = true ∧ (getO σ 0).del = false ∧
    (getO σ 1).key = some 1 ∧ (getO σ 1).att = true ∧ (getO σ 1).del = false ∧
    imLookup σ 1 = some 1 := by decide +kernel

end SaVerif.Props.C34
