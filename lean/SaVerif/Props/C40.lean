import SaVerif.Model.Loader
import SaVerif.Lemmas.Imv
/-!
# C40 — Loader strategies change how data is loaded, never what is loaded

Theorems about the relational meaning of the loader strategies' query plans
(`SaVerif/Model/Loader.lean`).  The reference is lazy loading (one SELECT per parent).
`srt` is the relationship's ORDER BY: any function on row lists that commutes with
filtering (every stable sort does; `sortByK_filter_comm` gives an instance).  The primary
query is represented by its result `ps`; the only thing assumed about it is that primary
keys are distinct where stated.
-/
namespace SaVerif.Props.C40
open SaVerif.Loader

def CommutesWithFilter (srt : List Child → List Child) : Prop :=
  ∀ (f : Child → Bool) (l : List Child), (srt l).filter f = srt (l.filter f)

theorem selectinChunk_eq_lazy (srt : List Child → List Child) (hs : CommutesWithFilter srt)
    (cs : List Child) (chunk : List Parent) :
    selectinChunk srt cs chunk = lazyGraph srt cs chunk := by
  unfold selectinChunk lazyGraph childrenOf
  apply List.map_congr_left
  intro p hp
  simp only [Prod.mk.injEq, true_and]
  rw [hs, List.filter_filter]
  congr 1
  apply List.filter_congr
  intro c _
  cases hb : belongs p c with
  | false => simp
  | true =>
    simp only [Bool.true_and]
    rw [List.any_eq_true]
    exact ⟨p, hp, hb⟩

/-- **selectin_eq_lazy**: IN-loading in chunks of ANY positive size (500 in the code)
    yields exactly the lazily loaded graph: same parents, same collections, same order. -/
theorem selectin_eq_lazy (n : Nat) (hn : 0 < n) (srt : List Child → List Child)
    (hs : CommutesWithFilter srt) (cs : List Child) (ps : List Parent) :
    selectinGraph n srt cs ps = lazyGraph srt cs ps := by
  rw [selectinGraph, List.map_congr_left fun ch _ => selectinChunk_eq_lazy srt hs cs ch]
  unfold lazyGraph
  rw [← List.map_flatten]
  exact congrArg _ (SaVerif.Imv.chunk_flatten hn ps)

/-- the number of selectin statements is ceil(parents / 500) -/
theorem selectin_statement_count (ps : List Parent) :
    (SaVerif.Imv.chunk 500 ps).length = SaVerif.Imv.totalBatches ps.length 500 :=
  SaVerif.Imv.chunkAux_length 500 (by decide) _ _ (Nat.le_refl _)

theorem belongs_id_eq {p q : Parent} {c : Child} (hp : belongs p c = true)
    (hq : belongs q c = true) : p.id = q.id :=
  Option.some.inj ((eq_of_beq hp).symm.trans (eq_of_beq hq))

theorem filter_flatMap_own (cs : List Child) (p : Parent) (ps : List Parent)
    (hn : (ps.map (·.id)).Nodup) (hp : p ∈ ps) :
    (ps.flatMap (fun q => cs.filter (belongs q))).filter (belongs p) = cs.filter (belongs p) := by
  -- only the block of `p` itself survives the filter
  have hnil : ∀ qs : List Parent, (∀ q ∈ qs, q.id ≠ p.id) →
      qs.flatMap (fun q => (cs.filter (belongs q)).filter (belongs p)) = [] := fun qs h =>
    List.flatMap_eq_nil_iff.2 fun q hq => List.filter_eq_nil_iff.2 fun c hc hb =>
      h q hq (belongs_id_eq (List.mem_filter.1 hc).2 hb)
  obtain ⟨s, t, rfl⟩ := List.append_of_mem hp
  rw [List.map_append, List.map_cons, List.nodup_append, List.nodup_cons] at hn
  rw [List.filter_flatMap, List.flatMap_append, List.flatMap_cons,
    hnil s fun q hq e => hn.2.2 _ (List.mem_map_of_mem hq) _ List.mem_cons_self e,
    hnil t fun q hq e => hn.2.1.1 (e ▸ List.mem_map_of_mem hq),
    List.nil_append, List.append_nil, List.filter_filter]
  exact List.filter_congr fun c _ => Bool.and_self _

/-- **subquery_eq_lazy**: the second query of subquery loading (primary query as a
    subquery JOIN child) yields the lazily loaded graph when primary keys are distinct. -/
theorem subquery_eq_lazy (srt : List Child → List Child) (hs : CommutesWithFilter srt)
    (cs : List Child) (ps : List Parent) (hn : (ps.map (·.id)).Nodup) :
    subqueryGraph srt cs ps = lazyGraph srt cs ps := by
  unfold subqueryGraph lazyGraph childrenOf
  apply List.map_congr_left
  intro p hp
  simp only [Prod.mk.injEq, true_and]
  rw [hs, filter_flatMap_own cs p ps hn hp]

theorem addRow_new (g : Graph) (p : Parent) (oc : Option Child)
    (h : ∀ e ∈ g, e.1.id ≠ p.id) : addRow g p oc = g ++ [(p, oc.toList)] := by
  unfold addRow
  rw [if_neg]
  intro hany
  obtain ⟨e, he, hb⟩ := List.any_eq_true.1 hany
  exact h e he (eq_of_beq hb)

theorem addRow_last (g : Graph) (p : Parent) (acc : List Child) (c : Child)
    (h : ∀ e ∈ g, e.1.id ≠ p.id) :
    addRow (g ++ [(p, acc)]) p (some c) = g ++ [(p, acc ++ [c])] := by
  have hany : (g ++ [(p, acc)]).any (fun e => e.1.id == p.id) = true :=
    List.any_eq_true.2 ⟨(p, acc), List.mem_append_right _ List.mem_cons_self, beq_self_eq_true _⟩
  have hg : g.map (fun e => if e.1.id == p.id then (e.1, e.2 ++ [c]) else e) = g :=
    (List.map_congr_left fun e he => if_neg fun hb => h e he (eq_of_beq hb)).trans (List.map_id' g)
  unfold addRow
  rw [if_pos hany, List.map_append, Option.toList_some, hg, List.map_singleton,
    if_pos (beq_self_eq_true _)]

theorem assemble_block (g : Graph) (p : Parent) (h : ∀ e ∈ g, e.1.id ≠ p.id)
    (rest : List (Parent × Option Child)) :
    ∀ (l acc : List Child),
      assemble (l.map (fun c => (p, some c)) ++ rest) (g ++ [(p, acc)])
        = assemble rest (g ++ [(p, acc ++ l)]) := by
  intro l
  induction l with
  | nil => intro acc; simp
  | cons c l ih =>
    intro acc
    simp only [List.map_cons, List.cons_append, assemble]
    rw [addRow_last g p acc c h, ih (acc ++ [c])]
    simp

theorem assemble_lojBlock (srt : List Child → List Child) (cs : List Child) (g : Graph)
    (p : Parent) (h : ∀ e ∈ g, e.1.id ≠ p.id) (rest : List (Parent × Option Child)) :
    assemble (lojBlock srt cs p ++ rest) g = assemble rest (g ++ [(p, childrenOf srt cs p)]) := by
  unfold lojBlock
  cases childrenOf srt cs p with
  | nil => exact congrArg (assemble rest) (addRow_new g p none h)
  | cons c l =>
    refine (congrArg (assemble _) (addRow_new g p (some c) h)).trans ?_
    exact assemble_block g p h rest l [c]

theorem assemble_loj (srt : List Child → List Child) (cs : List Child) :
    ∀ (ps : List Parent) (g : Graph), (ps.map (·.id)).Nodup →
      (∀ e ∈ g, ∀ p ∈ ps, e.1.id ≠ p.id) →
      assemble (lojRows srt cs ps) g = g ++ lazyGraph srt cs ps := by
  intro ps
  induction ps with
  | nil => exact fun g _ _ => (List.append_nil g).symm
  | cons p rest ih =>
    intro g hn hdis
    rw [List.map_cons, List.nodup_cons] at hn
    rw [lojRows, List.flatMap_cons,
      assemble_lojBlock srt cs g p fun e he => hdis e he p List.mem_cons_self]
    refine (ih (g ++ [(p, childrenOf srt cs p)]) hn.2 fun e he q hq => ?_).trans
      (List.append_assoc _ _ _)
    rcases List.mem_append.1 he with he | he
    · exact hdis e he q (List.mem_cons_of_mem _ hq)
    · cases List.mem_singleton.1 he
      exact fun h => hn.1 (h ▸ List.mem_map_of_mem hq)

/-- **joined_eq_lazy**: LEFT OUTER JOIN rows, de-duplicated on parent identity with the
    collections filled in row order, give the lazily loaded graph (distinct primary keys). -/
theorem joined_eq_lazy (srt : List Child → List Child) (cs : List Child) (ps : List Parent)
    (hn : (ps.map (·.id)).Nodup) :
    joinedGraph srt cs ps = lazyGraph srt cs ps := by
  unfold joinedGraph
  rw [assemble_loj srt cs ps [] hn (fun e he => by cases he)]
  simp

/-- **strategies_agree**: for every primary result with distinct keys, every child table,
    every relationship ordering that commutes with filtering and every selectin chunk size,
    joined, subquery and selectin loading build the object graph lazy loading builds —
    parents, collection contents and collection order. -/
theorem strategies_agree (n : Nat) (hn : 0 < n) (srt : List Child → List Child)
    (hs : CommutesWithFilter srt) (cs : List Child) (ps : List Parent)
    (hk : (ps.map (·.id)).Nodup) :
    joinedGraph srt cs ps = lazyGraph srt cs ps ∧
    subqueryGraph srt cs ps = lazyGraph srt cs ps ∧
    selectinGraph n srt cs ps = lazyGraph srt cs ps :=
  ⟨joined_eq_lazy srt cs ps hk, subquery_eq_lazy srt hs cs ps hk, selectin_eq_lazy n hn srt hs cs ps⟩

/-- with the subquery wrap, LIMIT/OFFSET on the primary query commute with joined loading -/
theorem joined_wrapped_limit (srt : List Child → List Child) (cs : List Child)
    (all : List Parent) (off : Nat) (lim : Option Nat) (hk : (all.map (·.id)).Nodup) :
    joinedGraph srt cs (window off lim all) = lazyGraph srt cs (window off lim all) := by
  apply joined_eq_lazy
  have hsub : (window off lim all).Sublist all := by
    unfold window
    cases lim with
    | none => exact List.drop_sublist _ _
    | some k => exact (List.take_sublist _ _).trans (List.drop_sublist _ _)
  exact (hsub.map _).nodup hk

/-- **joined_limit_wrap_needed**: without the wrap the LIMIT cuts the joined rows, not the
    parents: a parent's collection is truncated and fewer parents than asked come back. -/
theorem joined_limit_wrap_needed :
    ∃ (cs : List Child) (all : List Parent),
      joinedUnwrapped sortByK cs all 0 (some 2) ≠ lazyGraph sortByK cs (window 0 (some 2) all) :=
  ⟨[⟨10, some 1, 0⟩, ⟨11, some 1, 1⟩, ⟨12, some 1, 2⟩, ⟨20, some 2, 0⟩], [⟨1, 0⟩, ⟨2, 0⟩, ⟨3, 0⟩],
    by decide +kernel⟩

theorem lookup_perm {l l' : List (Nat × Nat)} (hp : l'.Perm l) (hn : (l.map (·.1)).Nodup) (c : Nat) :
    l'.lookup c = l.lookup c :=
  Option.ext fun _ =>
    ⟨fun h => SaVerif.Imv.lookup_of_mem hn (hp.mem_iff.1 (SaVerif.Imv.lookup_mem h)),
      fun h => SaVerif.Imv.lookup_of_mem ((hp.map _).nodup_iff.2 hn)
        (hp.mem_iff.2 (SaVerif.Imv.lookup_mem h))⟩

/-- **fk_cols_independent_of_declaration_order**: listing the child's FK columns by walking
    the parent's primary key gives the same column list whatever order the join condition
    (the ForeignKeyConstraint) declares the column pairs in — so the IN tuples, which are
    built in primary-key order, always line up with it. -/
theorem fk_cols_independent_of_declaration_order (pk : List Nat) (pairs pairs' : List (Nat × Nat))
    (hp : pairs'.Perm pairs) (hn : (pairs.map (·.1)).Nodup) :
    fkColsPkOrder pk pairs' = fkColsPkOrder pk pairs := by
  unfold fkColsPkOrder
  induction pk with
  | nil => rfl
  | cons c t ih => simp only [List.filterMap_cons, lookup_perm hp hn c, ih]

/-- with the join-condition order instead, a ForeignKeyConstraint declared as (y, x) makes
    parent (1, 2) receive the children of parent (2, 1) -/
theorem fk_cols_join_order_counterexample :
    selectinComposite [0, 1] (fkColsJoinOrder [0, 1] [(1, 1), (0, 0)]) [[1, 2], [2, 1]] [[1, 2, 77], [2, 1, 88]]
      ≠ selectinComposite [0, 1] (fkColsPkOrder [0, 1] [(1, 1), (0, 0)]) [[1, 2], [2, 1]] [[1, 2, 77], [2, 1, 88]] := by
  decide +kernel

example : selectinComposite [0, 1] (fkColsPkOrder [0, 1] [(1, 1), (0, 0)]) [[1, 2], [2, 1]] [[1, 2, 77], [2, 1, 88]]
    = [([1, 2], [[1, 2, 77]]), ([2, 1], [[2, 1, 88]])] := by decide +kernel

/-- **should_nest_complete**: `_should_nest_selectable` wraps exactly when the property needs
    it — for LIMIT, OFFSET and FETCH alike, DISTINCT and GROUP BY -/
theorem should_nest_complete :
    ∀ (ej mr hl ho hf di gb : Bool), shouldNest ej mr hl ho hf di gb = nestNeeded ej mr hl ho hf di gb := by
  decide +kernel

/-- sensitivity (the rule before fix 63056e6, finding F23): with `fetch(n)` and no offset the
    old rule did not wrap although a multi-row eager join is present; by
    `joined_limit_wrap_needed` the un-wrapped plan truncates collections. -/
theorem should_nest_misses_fetch :
    ∃ (ej mr hl ho hf di gb : Bool), nestNeeded ej mr hl ho hf di gb = true ∧ shouldNestOld ej mr hl ho hf di gb = false :=
  ⟨true, true, false, false, true, false, false, by decide +kernel, by decide +kernel⟩

def SortedK (l : List Child) : Prop := l.Pairwise (fun a b => a.k ≤ b.k)

theorem insertByK_of_le_all (c : Child) (l : List Child) (h : ∀ x ∈ l, c.k ≤ x.k) :
    insertByK c l = c :: l := by
  cases l with
  | nil => rfl
  | cons a t => simp [insertByK, h a List.mem_cons_self]

theorem mem_insertByK (c x : Child) : ∀ (l : List Child), x ∈ insertByK c l ↔ x = c ∨ x ∈ l
  | [] => by simp [insertByK]
  | a :: t => by
    rw [insertByK]
    split
    · exact List.mem_cons
    · rw [List.mem_cons, mem_insertByK c x t, List.mem_cons, or_left_comm]

theorem insertByK_sorted (c : Child) : ∀ (l : List Child), SortedK l → SortedK (insertByK c l)
  | [], _ => List.pairwise_singleton _ _
  | a :: t, hs => by
    obtain ⟨h1, h2⟩ := List.pairwise_cons.1 hs
    rw [insertByK]
    split
    · rename_i hle
      exact List.pairwise_cons.2
        ⟨List.forall_mem_cons.2 ⟨hle, fun x hx => Int.le_trans hle (h1 x hx)⟩, hs⟩
    · refine List.pairwise_cons.2 ⟨fun x hx => ?_, insertByK_sorted c t h2⟩
      rcases (mem_insertByK c x t).1 hx with rfl | hx
      · omega
      · exact h1 x hx

theorem sortByK_sorted : ∀ (l : List Child), SortedK (sortByK l) := by
  intro l
  induction l with
  | nil => simp [sortByK, SortedK]
  | cons c t ih => exact insertByK_sorted c _ ih

theorem insertByK_filter (f : Child → Bool) (c : Child) :
    ∀ (l : List Child), SortedK l →
      (insertByK c l).filter f = if f c then insertByK c (l.filter f) else l.filter f
  | [], _ => by cases hf : f c <;> simp [insertByK, hf]
  | a :: t, hs => by
    obtain ⟨h1, h2⟩ := List.pairwise_cons.1 hs
    by_cases hle : c.k ≤ a.k
    · -- `c` goes in front, before and after filtering
      have hall : ∀ x ∈ a :: t, c.k ≤ x.k :=
        List.forall_mem_cons.2 ⟨hle, fun x hx => Int.le_trans hle (h1 x hx)⟩
      rw [insertByK_of_le_all c _ hall,
        insertByK_of_le_all c _ fun x hx => hall x (List.mem_filter.1 hx).1, List.filter_cons]
    · rw [insertByK, if_neg hle, List.filter_cons, insertByK_filter f c t h2, List.filter_cons]
      cases hfc : f c <;> cases hfa : f a <;> simp [insertByK, hle]

/-- **sortByK_filter_comm**: the stable insertion sort (an ORDER BY) commutes with WHERE, so
    the hypothesis of the theorems above is satisfiable -/
theorem sortByK_filter_comm : CommutesWithFilter sortByK := by
  intro f l
  induction l with
  | nil => rfl
  | cons c t ih =>
    simp only [sortByK]
    rw [insertByK_filter f c _ (sortByK_sorted t), ih]
    cases hfc : f c <;> simp [hfc, sortByK]

/-- **m2o_selectin_eq_lazy**: loading the referenced rows with one `IN` query and a
    dictionary gives every child the parent a per-child lookup gives -/
theorem m2o_selectin_eq_lazy (ps : List Parent) (cs : List Child) :
    selectinRefs ps cs = lazyRefs ps cs := by
  unfold selectinRefs lazyRefs
  apply List.map_congr_left
  intro c hc
  simp only [Prod.mk.injEq, true_and]
  unfold parentOf
  cases hfk : c.fk with
  | none => rfl
  | some k =>
    simp only
    rw [List.find?_filter]
    congr 1
    funext p
    cases hpk : p.id == k with
    | false => simp
    -- the parent with id `k` is among those the IN query fetches, because `c` itself refers to it
    | true => simpa [eq_of_beq hpk] using ⟨c, hc, hfk⟩

example : lazyGraph sortByK [⟨10, some 1, 5⟩, ⟨11, some 1, 2⟩, ⟨20, some 2, 0⟩, ⟨30, none, 0⟩] [⟨2, 0⟩, ⟨1, 0⟩, ⟨3, 0⟩]
    = [(⟨2, 0⟩, [⟨20, some 2, 0⟩]), (⟨1, 0⟩, [⟨11, some 1, 2⟩, ⟨10, some 1, 5⟩]), (⟨3, 0⟩, [])] := by decide +kernel
example : joinedGraph sortByK [⟨10, some 1, 5⟩, ⟨11, some 1, 2⟩, ⟨20, some 2, 0⟩] [⟨2, 0⟩, ⟨1, 0⟩, ⟨3, 0⟩]
    = lazyGraph sortByK [⟨10, some 1, 5⟩, ⟨11, some 1, 2⟩, ⟨20, some 2, 0⟩] [⟨2, 0⟩, ⟨1, 0⟩, ⟨3, 0⟩] := by decide +kernel
example : statementCount "selectin" 1100 = 4 := by decide +kernel

end SaVerif.Props.C40
