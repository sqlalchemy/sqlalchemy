import SaVerif.Lemmas.Cascade
import SaVerif.Gen.CascadeTable
/-!
# C39 — Cascades follow their configured rules

Theorems about `Mapper.cascade_iterator` + `RelationshipProperty.cascade_iterator` as transcribed
in `SaVerif/Model/Cascade.lean`, and about the regenerated `CascadeOptions` table.
`cascade_reaches_exactly`: for ANY object graph (cycles, shared children, self references),
any relationship flag assignment and any `halt_on`, the objects yielded by the traversal are
exactly those reachable from the root through at least one edge whose relationship carries the
cascade (and whose target is not halted), each exactly once (`cascade_nodup`).  All of them
assume that the traversal returns (`cascade g fuel root = some out`); that some fuel suffices is
not proved.
-/
namespace SaVerif.Props.C39
open SaVerif.Cascade

theorem cascade_sound (g : Graph) (fuel root : Nat) (out : List Nat)
    (h : cascade g fuel root = some out) : ∀ y, y ∈ out → Reach g root y := by
  obtain ⟨s, hI, -, rfl⟩ := cascade_inv h
  exact fun y hy => hI.sound y ((hI.cover y).2 (.inl hy))

theorem cascade_complete (g : Graph) (fuel root : Nat) (out : List Nat)
    (h : cascade g fuel root = some out) : ∀ y, Reach g root y → y ∈ out := by
  obtain ⟨s, hI, hE, rfl⟩ := cascade_inv h
  -- with an empty stack: visited = yielded, and root ∪ yielded is closed under flagged edges
  have hclosed : ∀ x, (x = root ∨ x ∈ s.out) → ∀ c, Edge g x c → c ∈ s.out := by
    intro x hx c ⟨r, hr, hfl, hcv, hh⟩
    rcases hI.closed x hx r hr hfl c hcv hh with h1 | ⟨rs, hm, _⟩
    · rcases (hI.cover c).1 h1 with h2 | h2
      · exact h2
      · rw [hE] at h2; cases h2
    · rw [hE] at hm; cases hm
  intro y hy
  induction hy with
  | one e => exact hclosed root (.inl rfl) _ e
  | more _ e ih => exact hclosed _ (.inr ih) _ e

/-- **cascade_reaches_exactly**: the set of objects an operation's cascade reaches is the
    transitive closure over edges whose relationship has the cascade flag -/
theorem cascade_reaches_exactly (g : Graph) (fuel root : Nat) (out : List Nat)
    (h : cascade g fuel root = some out) (y : Nat) : y ∈ out ↔ Reach g root y :=
  ⟨cascade_sound g fuel root out h y, cascade_complete g fuel root out h y⟩

theorem cascade_nodup (g : Graph) (fuel root : Nat) (out : List Nat)
    (h : cascade g fuel root = some out) : out.Nodup := by
  obtain ⟨s, hI, hE, rfl⟩ := cascade_inv h
  have := hI.nodup
  rwa [hE, pend, List.append_nil] at this

/-- a cycle through the root, a shared child and an unflagged relationship:
    0 -r0-> 1, 1 -r0-> 0 (cycle), 0 -r1-> 2, 1 -r1-> 2 (shared), 2 -r2-> 3 (r2 not flagged) -/
def exampleGraph : Graph where
  nrels := 3
  flag := fun r => r != 2
  halt := fun _ => false
  vals := fun n r =>
    if n = 0 ∧ r = 0 then [1] else if n = 1 ∧ r = 0 then [0]
    else if (n = 0 ∨ n = 1) ∧ r = 1 then [2] else if n = 2 ∧ r = 2 then [3] else []

example : cascade exampleGraph 100 0 = some [1, 0, 2] := by decide +kernel

/-! ## session operations as closures

`Session._save_or_update_state`, `Session._delete_impl(head=True)` and `Session.expunge` apply
their per-object action to the root and to every object yielded by the iterator.  With
`out` the yielded list, the affected set is therefore the reflexive-transitive closure. -/

/-- `Session.add(root)`: `_save_or_update_impl` on the root and on everything the save-update
    cascade yields, `halt_on = self._contains_state` -/
def addOp (inSess : Nat → Bool) (root : Nat) (out : List Nat) : Nat → Bool :=
  fun y => inSess y || y == root || out.contains y

/-- **add_reaches_exactly**: after `session.add(root)` an object is in the session iff it was
    already, or it is the root, or it is reachable from the root through save-update edges
    along objects that were not yet in the session (`hh` makes `Reach g` mean that; the proof holds
    for any `g.halt`) -/
theorem add_reaches_exactly (g : Graph) (inSess : Nat → Bool) (hh : g.halt = inSess)
    (fuel root : Nat) (out : List Nat) (h : cascade g fuel root = some out) (y : Nat) :
    addOp inSess root out y = true ↔ inSess y = true ∨ y = root ∨ Reach g root y := by
  have := cascade_reaches_exactly g fuel root out h y
  simp only [addOp, Bool.or_eq_true, beq_iff_eq, List.contains_eq_mem, decide_eq_true_eq, this, or_assoc]

/-- `Session.delete(root)`: the root and every object the delete cascade yields is marked
    deleted — `_delete_impl(head=False)` returns early for objects without an identity key -/
def deleteOp (deleted hasKey : Nat → Bool) (root : Nat) (out : List Nat) : Nat → Bool :=
  fun y => deleted y || (hasKey y && (y == root || out.contains y))

theorem delete_reaches_exactly (g : Graph) (deleted hasKey : Nat → Bool) (fuel root : Nat)
    (out : List Nat) (h : cascade g fuel root = some out) (y : Nat) :
    deleteOp deleted hasKey root out y = true ↔
      deleted y = true ∨ (hasKey y = true ∧ (y = root ∨ Reach g root y)) := by
  have := cascade_reaches_exactly g fuel root out h y
  simp only [deleteOp, Bool.or_eq_true, Bool.and_eq_true, beq_iff_eq, List.contains_eq_mem,
    decide_eq_true_eq, this]

/-- `Session.expunge(root)`: the root and everything the expunge cascade yields leaves the
    session -/
def expungeOp (inSess : Nat → Bool) (root : Nat) (out : List Nat) : Nat → Bool :=
  fun y => inSess y && !(y == root || out.contains y)

theorem expunge_reaches_exactly (g : Graph) (inSess : Nat → Bool) (fuel root : Nat)
    (out : List Nat) (h : cascade g fuel root = some out) (y : Nat) :
    expungeOp inSess root out y = true ↔
      inSess y = true ∧ ¬ (y = root ∨ Reach g root y) := by
  have := cascade_reaches_exactly g fuel root out h y
  simp only [expungeOp, Bool.and_eq_true, Bool.not_eq_true', Bool.or_eq_false_iff,
    beq_eq_false_iff_ne, ne_eq, List.contains_eq_mem, decide_eq_false_iff_not, this, not_or]

/-! ## the CascadeOptions table (regenerated from orm/util.py on every run) -/

open SaVerif.Gen.CascadeTable in
/-- `all` stands for exactly save-update, merge, refresh-expire, expunge, delete -/
theorem all_expands_to_five :
    (normalize ["all"]).map (fun l => (["delete", "expunge", "merge", "refresh-expire", "save-update"].all l.contains)
      && l.length == 5) = some true := by
  decide +kernel

open SaVerif.Gen.CascadeTable in
/-- `all` never implies delete-orphan; `all, delete-orphan` adds exactly it -/
theorem all_excludes_delete_orphan :
    (normalize ["all"]).map (fun l => l.contains "delete-orphan") = some false ∧
    (normalize ["all", "delete-orphan"]).map (fun l => l.contains "delete-orphan" && l.length == 6) = some true := by
  decide +kernel

open SaVerif.Gen.CascadeTable in
/-- `none` clears whatever else is given -/
theorem none_clears :
    normalize ["none"] = some [] ∧ normalize ["all", "none"] = some [] ∧
    normalize ["delete", "none", "delete-orphan"] = some [] := by
  decide +kernel

open SaVerif.Gen.CascadeTable in
/-- every flag attribute of CascadeOptions is read from the option of the same name, and an
    unknown option is rejected -/
theorem flag_attrs_named :
    flagAttrs.all (fun p => p.1.toList.map (fun c => if c = '_' then '-' else c) == p.2.toList) = true ∧ flagAttrs.length = 6 ∧
    normalize ["bogus"] = none := by
  refine ⟨?_, rfl, by decide +kernel⟩
  -- `String.toList` of a literal is dear in the kernel; the literal is `String.ofList` of its characters
  simp only [flagAttrs, List.all_cons, List.all_nil]
  repeat rw [String.toList_ofList]
  decide +kernel

open SaVerif.Gen.CascadeTable in
/-- the transcription `normalize` was made from this exact source of `CascadeOptions.__new__`;
    an edit to the function breaks this obligation and triggers the exhaustive option search -/
theorem normalize_source_unchanged : newSourceSha = "b2a616930b4731d3e32b140605c008f4d8d38246" :=
  rfl

end SaVerif.Props.C39
