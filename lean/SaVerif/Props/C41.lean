import SaVerif.Model.OrmQuery
import SaVerif.Lemmas.Lookup
/-!
# C41 — ORM queries return the rows their relational meaning specifies

For every parent and child table: the ORM reading of a query (navigating the mapped
object graph) and the Core reading (the EXISTS / JOIN SQL that the relationship
comparators and the ORM join render) select the same rows, and count / exists agree with
the number of rows.  The theorems are about the relational model; that the ORM emits this
SQL and maps rows to entities one-to-one is checked by execution (translation validation).
-/
namespace SaVerif.Props.C41
open SaVerif.Loader SaVerif.OrmQuery

theorem any_isEmpty_filter {α : Type} (f : α → Bool) (l : List α) :
    (!(l.filter f).isEmpty) = l.any f := by
  induction l with
  | nil => rfl
  | cons a t ih =>
    simp only [List.filter_cons, List.any_cons]
    cases hf : f a
    · simpa using ih
    · simp

/-- `A.bs.any(crit)` ≡ the correlated EXISTS -/
theorem any_orm_eq_core (crit : Child → Bool) (ps : List Parent) (cs : List Child) :
    anyOrm crit ps cs = anyCore crit ps cs := by
  unfold anyOrm anyCore collection
  apply List.filter_congr
  intro p _
  rw [any_isEmpty_filter, List.any_filter]

/-- `~A.bs.any(crit)` ≡ NOT EXISTS -/
theorem not_any_orm_eq_core (crit : Child → Bool) (ps : List Parent) (cs : List Child) :
    ps.filter (fun p => !(collection cs p).any crit)
      = ps.filter (fun p => (cs.filter (fun c => belongs p c && crit c)).isEmpty) := by
  apply List.filter_congr
  intro p _
  have := any_isEmpty_filter (fun c => belongs p c && crit c) cs
  unfold collection
  rw [List.any_filter, ← this]
  simp

/-- joining along the relationship yields exactly the rows of
    `a JOIN b ON a.id = b.a_id`, in the same order, with the same multiplicities -/
theorem join_orm_eq_core (ps : List Parent) (cs : List Child) :
    joinOrm ps cs = joinCore ps cs := by
  unfold joinOrm joinCore collection
  induction ps with
  | nil => rfl
  | cons p rest ih =>
    simp only [List.flatMap_cons, List.filter_append, ih]
    congr 1
    rw [List.filter_map]
    rfl

theorem find?_crit_eq_any (ps : List Parent) (hn : (ps.map (·.id)).Nodup) (k : Nat)
    (crit : Parent → Bool) :
    ((ps.find? (fun p => p.id == k)).map crit).getD false
      = ps.any (fun p => p.id == k && crit p) := by
  cases hf : ps.find? (fun p => p.id == k) with
  | none =>
    have := List.find?_eq_none.1 hf
    exact (List.any_eq_false.2 fun p hp => by simp [this p hp]).symm
  | some a =>
    have ha := List.mem_of_find?_eq_some hf
    have hk : a.id = k := eq_of_beq (List.find?_some (p := fun p : Parent => p.id == k) hf)
    subst hk
    rw [Lookup.any_only ha fun b hb hp =>
      Lookup.eq_of_key_eq hn ha hb (eq_of_beq (Bool.and_eq_true_iff.1 hp).1)]
    simp

/-- `B.a.has(crit)` ≡ the correlated EXISTS (primary keys distinct) -/
theorem has_orm_eq_core (crit : Parent → Bool) (ps : List Parent) (cs : List Child)
    (hn : (ps.map (·.id)).Nodup) :
    hasOrm crit ps cs = hasCore crit ps cs := by
  unfold hasOrm hasCore
  apply List.filter_congr
  intro c _
  rw [any_isEmpty_filter]
  unfold parentOf belongs
  cases hfk : c.fk with
  | none => simp
  | some k =>
    simp only
    rw [find?_crit_eq_any ps hn k crit]
    congr 1
    funext p
    congr 1
    exact Bool.beq_comm

/-- `A.bs.contains(b)` ≡ `a.id = b.a_id`, for a `b` of the table -/
theorem contains_orm_eq_core (b : Child) (ps : List Parent) (cs : List Child) (hb : b ∈ cs) :
    containsOrm b ps cs = containsCore b ps := by
  unfold containsOrm containsCore collection
  apply List.filter_congr
  intro p _
  cases hbel : belongs p b with
  | true => simp [List.mem_filter, hb, hbel]
  | false => simp [List.mem_filter, hbel]

theorem count_exists_agree {α : Type} (rows : List α) :
    countOf rows = rows.length ∧ (existsOf rows = true ↔ 0 < countOf rows) := by
  refine ⟨rfl, ?_⟩
  unfold existsOf countOf
  cases rows <;> simp

/-- count over the relationship join = total size of the collections -/
theorem join_count (ps : List Parent) (cs : List Child) :
    countOf (joinCore ps cs) = ((groupCount ps cs).map (·.2)).sum := by
  rw [← join_orm_eq_core]
  unfold countOf joinOrm groupCount
  induction ps with
  | nil => rfl
  | cons p rest ih => simp [List.flatMap_cons, ih]

/-- UNION ALL keeps every row of both sides; UNION has the same members -/
theorem union_rows {α : Type} [BEq α] [LawfulBEq α] (l1 l2 : List α) :
    (unionAllRows l1 l2).length = l1.length + l2.length ∧
    (∀ x, x ∈ unionRows l1 l2 ↔ x ∈ l1 ∨ x ∈ l2) := by
  refine ⟨by simp [unionAllRows], ?_⟩
  intro x
  unfold unionRows
  rw [List.mem_eraseDups, List.mem_append]

example : anyOrm (fun c => c.k == 2) [⟨1, 0⟩, ⟨2, 0⟩] [⟨10, some 1, 2⟩, ⟨11, some 2, 0⟩] = [⟨1, 0⟩] := by decide +kernel
example : joinCore [⟨1, 0⟩, ⟨2, 0⟩] [⟨10, some 1, 2⟩, ⟨11, some 1, 0⟩, ⟨12, none, 0⟩]
    = [(⟨1, 0⟩, ⟨10, some 1, 2⟩), (⟨1, 0⟩, ⟨11, some 1, 0⟩)] := by decide +kernel
example : hasCore (fun p => p.x == 5) [⟨1, 5⟩, ⟨2, 0⟩] [⟨10, some 1, 2⟩, ⟨11, some 2, 0⟩, ⟨12, none, 0⟩]
    = [⟨10, some 1, 2⟩] := by decide +kernel

end SaVerif.Props.C41
