import SaVerif.Lemmas.OrderingList
import SaVerif.Model.AssocProxy
/-!
# C50 — Ordering lists and association proxies behave as their collection types

Part A: M-ORDLIST (`ext/orderinglist.py` inside a mapped relationship).  The guards (`OpOk`)
suffice for the real code to keep the property; `reverse_counterexample`,
`append_stale_counterexample` show two of the excluded cases (replayed on the real code by the
harness).

Part B: M-APROXY (`ext/associationproxy.py` proxied list / set / dict): each proxy
operation treated here refines the corresponding operation of the plain collection of proxied
values, keeps the identity of untouched intermediary objects and creates / removes exactly the
needed ones.
-/
namespace SaVerif.Props.C50

section PartA
open SaVerif.OrderingList

def OpOk (st : St) : Op → Prop
  | .append e => e ∉ st.items ∧ (st.pos e = none ∨ st.roa = true)
  | .insert _ e => e ∉ st.items
  | .setItem _ e => e ∉ st.items
  | .extend es => es.Nodup ∧ ∀ e, e ∈ es → e ∉ st.items ∧ (st.pos e = none ∨ st.roa = true)
  | .setSlice _ _ _ vals => vals.Nodup ∧ ∀ e, e ∈ vals → e ∉ st.items
  | .reverse => st.items.length ≤ 1
  | .setOrder l => l = st.items
  | _ => True

/-- **positions_eq_indices** (one step): every guarded operation, failing or not, leaves
    the list duplicate-free with `position = ordering_func(index)` for every element. -/
theorem good_step {st : St} (h : Good st) (op : Op) (g : OpOk st op) : Good (stepKeep st op) := by
  unfold stepKeep
  cases hs : step st op with
  | error _ => exact h
  | ok st' =>
    cases op with
    | append e => cases hs; exact append_good h e g.1 g.2
    | insert i e => cases hs; exact (insert_good h i e g).1
    | remove e =>
      dsimp only [step, remove] at hs
      split at hs
      · cases hs; exact reorder_good st _ ((List.erase_sublist).nodup h.1)
      · cases hs
    | pop i => exact (delItem_good h i hs).1
    | setItem i e => exact (setItem_good h i e g hs).1
    | delItem i => exact (delItem_good h i hs).1
    | delIdxs idxs => cases hs; exact reorder_good st _ ((kept_sublist st.items idxs).nodup h.1)
    | setSlice start stop stp vals =>
      dsimp only [step, setSlice] at hs
      split at hs
      · cases hs
        have d := delLoop_good (pyRange start stop 1).length st start.toNat h
        exact insLoop_good vals _ _ d.1 g.1 (fun e he hm => g.2 e he (d.2 e hm))
      · split at hs
        · cases hs
        · rename_i hlen
          refine setLoop_good _ st st' h ?_ (fun p hp => g.2 p.2 (List.of_mem_zip hp).2) hs
          rw [List.map_snd_zip (Nat.le_of_eq (Decidable.not_not.1 hlen))]
          exact g.1
    | extend es => cases hs; exact extend_good es st h g.1 g.2
    | clear => cases hs; exact clear_good st
    | reverse =>
      cases hs
      have hl : st.items.length ≤ 1 := g
      have : st.items.reverse = st.items := by
        match hi : st.items with
        | [] => rfl
        | [_] => rfl
        | _ :: _ :: _ => rw [hi] at hl; simp at hl
      show Good { st with items := st.items.reverse }
      rw [this]
      exact h
    | setOrder l =>
      cases hs
      have : l = st.items := g
      subst this
      exact h
    | reorder => cases hs; exact reorder_good st st.items h.1

def GuardedRun : St → List Op → Prop
  | _, [] => True
  | st, op :: ops => OpOk st op ∧ GuardedRun (stepKeep st op) ops

theorem good_run : ∀ (ops : List Op) (st : St), Good st → GuardedRun st ops → Good (run st ops)
  | [], _, h, _ => h
  | op :: ops, _, h, g => good_run ops _ (good_step h op g.1) g.2

theorem good_init (start : Int) (roa : Bool) : Good (init start roa) :=
  ⟨by simp [init], fun i h => by simp [init] at h⟩

/-- **positions_eq_indices**: after ANY guarded operation sequence starting from an empty
    ordering list (any `count_from`, `reorder_on_append` on or off) every element's
    position attribute equals `ordering_func(index)`. -/
theorem positions_eq_indices (start : Int) (roa : Bool) (ops : List Op)
    (g : GuardedRun (init start roa) ops) (i : Nat)
    (h : i < (run (init start roa) ops).items.length) :
    (run (init start roa) ops).pos ((run (init start roa) ops).items[i])
      = some ((i : Int) + (run (init start roa) ops).start) :=
  (good_run ops _ (good_init start roa) g).2 i h

/-- whatever happened before (sort, reverse, stale positions):
    `reorder()` restores the property on a duplicate-free list -/
theorem reorder_restores (st : St) (hn : st.items.Nodup) : Sync (reorder st) :=
  reorder_sync st hn

/-- non-vacuity: a guarded run with inserts, a slice assignment and removals -/
example :
    let ops := [Op.extend [0, 1, 2], Op.insert 1 3, Op.setSlice 1 3 1 [4, 5, 6], Op.pop (-1),
                Op.setItem 0 7, Op.remove 4]
    let st := run (init 1 false) ops
    st.items = [7, 5, 6] ∧ st.items.map st.pos = [some 1, some 2, some 3] := by
  decide +kernel

/-- `l[-1] = e` stores the position of the real index (fixed in the code: the negative index is
    normalised before `_order_entity`) -/
example :
    let st := run (init 0 false) [Op.extend [0, 1, 2], Op.setItem (-1) 3]
    st.items = [0, 1, 3] ∧ st.pos 3 = some 2 := by
  decide +kernel

/-- `sort()` / `reverse()` are inherited from `list`: positions are not updated -/
theorem reverse_counterexample :
    let st := run (init 0 false) [Op.extend [0, 1, 2], Op.reverse]
    st.items = [2, 1, 0] ∧ st.items.map st.pos = [some 2, some 1, some 0] := by
  decide +kernel

/-- an element that already carries a position keeps it on `append`
    (`reorder_on_append=False`), e.g. after it was removed from the list -/
theorem append_stale_counterexample :
    let st := run (init 0 false) [Op.extend [0, 1, 2], Op.remove 0, Op.append 0]
    st.items = [1, 2, 0] ∧ st.items.map st.pos = [some 0, some 1, some 0] := by
  decide +kernel

/-- with `reorder_on_append=True` the same sequence is in sync -/
example :
    let st := run (init 0 true) [Op.extend [0, 1, 2], Op.remove 0, Op.append 0]
    st.items.map st.pos = [some 0, some 1, some 2] := by
  decide +kernel

end PartA

open SaVerif.AssocProxy

theorem map_val_eraseP (l : List Mem) (v : Int) :
    (l.eraseP (·.val == v)).map (·.val) = (l.map (·.val)).erase v := by
  rw [List.erase_eq_eraseP', List.eraseP_map]
  rfl

namespace SetP
open SaVerif.AssocProxy.Set

theorem contains_iff (s : St) (v : Int) : contains s v = true ↔ v ∈ view s := by
  simp only [contains, view, List.any_eq_true, List.mem_map, beq_iff_eq]

theorem add_refines (s : St) (v x : Int) : x ∈ view (add s v) ↔ x = v ∨ x ∈ view s := by
  unfold add
  split
  · rename_i h
    exact ⟨Or.inr, fun h' => h'.elim (fun e => e ▸ (contains_iff s v).1 h) id⟩
  · simp only [view, List.map_append, List.map_cons, List.map_nil, List.mem_append,
      List.mem_singleton]
    exact or_comm

/-- `add` never creates a second intermediary for a value -/
theorem add_nodup (s : St) (v : Int) (h : (view s).Nodup) : (view (add s v)).Nodup := by
  unfold add
  split
  · exact h
  · rename_i hc
    rw [view, List.map_append]
    exact ListFacts.nodup_snoc h fun hm => hc ((contains_iff s v).2 hm)

/-- existing intermediary objects survive `add` (no churn of association rows) -/
theorem add_keeps (s : St) (v : Int) (m : Mem) (hm : m ∈ s.col) : m ∈ (add s v).col := by
  unfold add
  split
  · exact hm
  · simp [hm]

theorem eraseFirst_eq : ∀ (l : List Mem) (v : Int), eraseFirst l v = l.eraseP (·.val == v)
  | [], _ => rfl
  | m :: ms, v => by
    rw [eraseFirst, List.eraseP_cons, eraseFirst_eq ms v]
    cases m.val == v <;> rfl

/-- `discard` is `set.discard` on the proxied values, and removes exactly the
    intermediary object carrying the value -/
theorem discard_refines (s : St) (v : Int) (hn : (view s).Nodup) :
    (∀ m, m ∈ (discard s v).col ↔ m ∈ s.col ∧ m.val ≠ v) ∧
    (∀ x, x ∈ view (discard s v) ↔ x ∈ view s ∧ x ≠ v) ∧ (view (discard s v)).Nodup := by
  have hc : (discard s v).col = s.col.eraseP (·.val == v) := eraseFirst_eq s.col v
  have hv : view (discard s v) = (view s).erase v := by
    rw [view, hc]
    exact map_val_eraseP s.col v
  refine ⟨fun m => ?_, fun x => ?_, hv ▸ hn.erase v⟩
  · rw [hc]
    refine ⟨fun hm => ?_, fun ⟨hm, hmv⟩ => ?_⟩
    · have hm' := List.mem_map_of_mem (f := (·.val)) hm
      rw [map_val_eraseP] at hm'
      exact ⟨List.eraseP_sublist.subset hm, (hn.mem_erase_iff.1 hm').1⟩
    · exact (List.mem_eraseP_of_neg (a := m) fun h => hmv (beq_iff_eq.1 h)).2 hm
  · rw [hv, hn.mem_erase_iff]
    exact And.comm

/-- `update` / `|=` : union with the given values, still one intermediary per value -/
theorem update_refines : ∀ (vs : List Int) (s : St), (view s).Nodup →
    (∀ x, x ∈ view (update s vs) ↔ x ∈ view s ∨ x ∈ vs) ∧ (view (update s vs)).Nodup
  | [], s, hn => ⟨fun x => by simp [update], hn⟩
  | v :: vs, s, hn => by
    have ih := update_refines vs (add s v) (add_nodup s v hn)
    refine ⟨?_, ih.2⟩
    intro x
    show x ∈ view (update (add s v) vs) ↔ _
    rw [ih.1 x, add_refines, List.mem_cons, or_assoc, or_left_comm]

/-- `difference_update` / `-=` -/
theorem differenceUpdate_refines : ∀ (vs : List Int) (s : St), (view s).Nodup →
    (∀ x, x ∈ view (differenceUpdate s vs) ↔ x ∈ view s ∧ x ∉ vs) ∧
      (view (differenceUpdate s vs)).Nodup
  | [], s, hn => ⟨fun x => by simp [differenceUpdate], hn⟩
  | v :: vs, s, hn => by
    have d := discard_refines s v hn
    have ih := differenceUpdate_refines vs (discard s v) d.2.2
    refine ⟨?_, ih.2⟩
    intro x
    show x ∈ view (differenceUpdate (discard s v) vs) ↔ _
    rw [ih.1 x, d.2.1 x, List.mem_cons, not_or, and_assoc]

theorem remove_error_iff (s : St) (v : Int) : remove s v = .error .keyError ↔ v ∉ view s := by
  unfold remove
  split
  · rename_i h
    simp only [reduceCtorEq, false_iff, Decidable.not_not]
    exact (contains_iff s v).1 h
  · rename_i h
    simp only [true_iff]
    exact fun hm => h ((contains_iff s v).2 hm)

example : (view (update ⟨[], 0⟩ [3, 1, 3])).Nodup ∧ view (update ⟨[], 0⟩ [3, 1, 3]) = [3, 1] := by
  decide +kernel

end SetP

namespace DictP
open SaVerif.AssocProxy.Dict

def lookup (s : St) (k : Int) : Option Int := (s.col.find? (fun p => p.1 == k)).map (·.2.val)

def idOf (s : St) (k : Int) : Option Nat := (s.col.find? (fun p => p.1 == k)).map (·.2.id)

theorem find_setExisting_self : ∀ (l : List (Int × Mem)) (k v : Int),
    (setExisting l k v).find? (fun p => p.1 == k) =
      (l.find? (fun p => p.1 == k)).map (fun p => (p.1, { p.2 with val := v }))
  | [], _, _ => rfl
  | p :: ps, k, v => by
    rw [setExisting, List.find?_cons (a := p)]
    cases hk : p.1 == k
    · rw [if_neg Bool.false_ne_true, List.find?_cons, hk]
      exact find_setExisting_self ps k v
    · rw [if_pos rfl, List.find?_cons, hk]
      rfl

theorem find_setExisting_ne : ∀ (l : List (Int × Mem)) (k v : Int) {k' : Int}, k' ≠ k →
    (setExisting l k v).find? (fun p => p.1 == k') = l.find? (fun p => p.1 == k')
  | [], _, _, _, _ => rfl
  | p :: ps, k, v, k', h => by
    rw [setExisting, List.find?_cons (a := p)]
    cases hk : p.1 == k
    · rw [if_neg Bool.false_ne_true, List.find?_cons, find_setExisting_ne ps k v h]
    · have hk' : (p.1 == k') = false :=
        beq_eq_false_iff_ne.2 fun hh => h (hh.symm.trans (beq_iff_eq.1 hk))
      rw [if_pos rfl, List.find?_cons, hk']

theorem find_of_hasKey {s : St} {k : Int} (h : hasKey s k = true) :
    ∃ q, s.col.find? (fun p => p.1 == k) = some q :=
  Option.isSome_iff_exists.1 (List.find?_isSome.2 (List.any_eq_true.1 h))

theorem find_of_not_hasKey {s : St} {k : Int} (h : ¬ hasKey s k = true) :
    s.col.find? (fun p => p.1 == k) = none :=
  List.find?_eq_none.2 fun x hx hk => h (List.any_eq_true.2 ⟨x, hx, hk⟩)

theorem setItem_refines (s : St) (k v k' : Int) :
    lookup (setItem s k v) k' = if k' = k then some v else lookup s k' := by
  unfold setItem lookup
  by_cases hk' : k' = k
  · subst hk'
    rw [if_pos rfl]
    split
    · rename_i h
      obtain ⟨q, hq⟩ := find_of_hasKey h
      rw [find_setExisting_self, hq]; rfl
    · rename_i h
      rw [List.find?_append, find_of_not_hasKey h, List.find?_cons, beq_self_eq_true]; rfl
  · rw [if_neg hk']
    split
    · rw [find_setExisting_ne _ _ _ hk']
    · rw [List.find?_append, List.find?_cons, beq_eq_false_iff_ne.2 (Ne.symm hk'), List.find?_nil,
        Option.or_none]

/-- assigning to an existing key updates the existing intermediary object (same identity);
    every other key keeps its object -/
theorem setItem_keeps_identity (s : St) (k v k' : Int) (h : hasKey s k' = true) :
    idOf (setItem s k v) k' = idOf s k' := by
  obtain ⟨q, hq⟩ := find_of_hasKey h
  unfold setItem idOf
  split
  · by_cases hk' : k' = k
    · subst hk'
      rw [find_setExisting_self, hq]; rfl
    · rw [find_setExisting_ne _ _ _ hk']
  · rw [List.find?_append, hq]; rfl

theorem find_eraseKey_self : ∀ (l : List (Int × Mem)) (k : Int), (l.map (·.1)).Nodup →
    (eraseKey l k).find? (fun p => p.1 == k) = none
  | [], _, _ => rfl
  | p :: ps, k, hn => by
    have ⟨hp, hps⟩ := List.nodup_cons.1 hn
    rw [eraseKey]
    cases hk : p.1 == k
    · rw [if_neg Bool.false_ne_true, List.find?_cons, hk]
      exact find_eraseKey_self ps k hps
    · rw [if_pos rfl]
      refine List.find?_eq_none.2 fun x hx hxk => hp ?_
      show p.1 ∈ ps.map (·.1)
      rw [(beq_iff_eq.1 hk).trans (beq_iff_eq.1 hxk).symm]
      exact List.mem_map_of_mem hx

theorem find_eraseKey_ne : ∀ (l : List (Int × Mem)) (k : Int) {k' : Int}, k' ≠ k →
    (eraseKey l k).find? (fun p => p.1 == k') = l.find? (fun p => p.1 == k')
  | [], _, _, _ => rfl
  | p :: ps, k, k', h => by
    rw [eraseKey, List.find?_cons (a := p)]
    cases hk : p.1 == k
    · rw [if_neg Bool.false_ne_true, List.find?_cons, find_eraseKey_ne ps k h]
    · have hk' : (p.1 == k') = false :=
        beq_eq_false_iff_ne.2 fun hh => h (hh.symm.trans (beq_iff_eq.1 hk))
      rw [if_pos rfl, hk']

/-- `del proxy[k]` is `dict.__delitem__`: KeyError iff absent, otherwise only `k` goes -/
theorem delItem_refines (s : St) (k : Int) (hn : (s.col.map (·.1)).Nodup) :
    (hasKey s k = false → delItem s k = .error .keyError) ∧
    (hasKey s k = true → ∃ s', delItem s k = .ok s' ∧
      ∀ k', lookup s' k' = if k' = k then none else lookup s k') := by
  unfold delItem
  constructor
  · intro h
    rw [h]
    rfl
  · intro h
    rw [if_pos h]
    refine ⟨_, rfl, fun k' => ?_⟩
    unfold lookup
    split
    · next hk' =>
      rw [hk', find_eraseKey_self _ _ hn]
      rfl
    · next hk' => rw [find_eraseKey_ne _ _ hk']

example :
    lookup (setItem (setItem (setItem ⟨[], 0⟩ 1 10) 2 20) 1 11) 1 = some 11 ∧
    idOf (setItem (setItem (setItem ⟨[], 0⟩ 1 10) 2 20) 1 11) 1 = some 0 := by
  decide +kernel

end DictP

namespace ListP
open SaVerif.AssocProxy.Lst

/-- `append` / `extend` / `+=` are the list operations on the proxied values -/
theorem append_refines (s : St) (v : Int) : view (append s v) = view s ++ [v] := by
  simp [view, append]

theorem extend_refines : ∀ (vs : List Int) (s : St), view (extend s vs) = view s ++ vs
  | [], s => by simp [extend]
  | v :: vs, s => by
    show view (extend (append s v) vs) = _
    rw [extend_refines vs (append s v), append_refines]
    simp

theorem insert_refines (s : St) (i v : Int) :
    view (insert s i v) =
      (view s).take (pyInsertIdx (view s).length i) ++ [v] ++ (view s).drop (pyInsertIdx (view s).length i) := by
  simp [view, Lst.insert, List.map_take, List.map_drop]

theorem view_length (s : St) : (view s).length = s.col.length := by simp [view]

theorem map_eraseIdx_val : ∀ (l : List Mem) (k : Nat),
    (l.eraseIdx k).map (·.val) = (l.map (·.val)).eraseIdx k
  | [], _ => rfl
  | _ :: _, 0 => rfl
  | a :: as, k + 1 => by simp [List.eraseIdx_cons_succ, map_eraseIdx_val as k]

/-- `del proxy[i]` / `pop(i)`: IndexError exactly outside `[-n, n)`, else the element at the
    normalised index goes -/
theorem delItem_refines (s : St) (i : Int) :
    match normIdx (view s).length i with
    | none => delItem s i = .error .indexError
    | some k => ∃ s', delItem s i = .ok s' ∧ view s' = (view s).eraseIdx k := by
  rw [view_length]
  unfold delItem
  cases normIdx s.col.length i with
  | none => rfl
  | some k => exact ⟨_, rfl, map_eraseIdx_val s.col k⟩

theorem map_modify_val (l : List Mem) (k : Nat) (v : Int) :
    (l.modify k (fun m => { m with val := v })).map (·.val) = (l.map (·.val)).set k v := by
  induction l generalizing k with
  | nil => simp
  | cons a as ih =>
    cases k with
    | zero => simp
    | succ j => simp [ih]

/-- `proxy[i] = v` sets the value on the existing intermediary (identities unchanged) -/
theorem setItem_refines (s : St) (i v : Int) :
    match normIdx (view s).length i with
    | none => setItem s i v = .error .indexError
    | some k => ∃ s', setItem s i v = .ok s' ∧ view s' = (view s).set k v ∧
        s'.col.map (·.id) = s.col.map (·.id) := by
  rw [view_length]
  unfold setItem
  cases normIdx s.col.length i with
  | none => rfl
  | some k =>
    refine ⟨_, rfl, map_modify_val s.col k v, ?_⟩
    simp only
    induction s.col generalizing k with
    | nil => simp
    | cons a as ih =>
      cases k with
      | zero => simp
      | succ j => simp [ih]

theorem eraseFirst_eq : ∀ (l : List Mem) (v : Int), eraseFirst l v = l.eraseP (·.val == v)
  | [], _ => rfl
  | m :: ms, v => by
    rw [eraseFirst, List.eraseP_cons, eraseFirst_eq ms v]
    cases m.val == v <;> rfl

/-- `remove(v)`: ValueError iff absent, else the first occurrence goes (`list.remove`) -/
theorem remove_refines (s : St) (v : Int) :
    (v ∉ view s → remove s v = .error .valueError) ∧
    (v ∈ view s → ∃ s', remove s v = .ok s' ∧ view s' = (view s).erase v) := by
  have hany : (s.col.any (fun m => m.val == v)) = true ↔ v ∈ view s := by
    simp only [view, List.any_eq_true, List.mem_map, beq_iff_eq]
  constructor
  · intro h
    have : ¬ (s.col.any (fun m => m.val == v)) = true := fun hh => h (hany.1 hh)
    simp [remove, this]
  · intro h
    refine ⟨{ s with col := eraseFirst s.col v }, by simp [remove, hany.2 h], ?_⟩
    rw [view, eraseFirst_eq]
    exact map_val_eraseP s.col v

/-- `proxy *= n` for every integer `n`: `n ≤ 0` empties the list, as `list.__imul__` does -/
theorem imul_refines (s : St) (n : Int) : view (imul s n) = repeatList (view s) n.toNat := by
  unfold imul
  by_cases h0 : n ≤ 0
  · rw [if_pos h0, Int.toNat_of_nonpos h0]
    rfl
  · rw [if_neg h0]
    by_cases h1 : n > 1
    · have : n.toNat = (n - 1).toNat + 1 := by omega
      rw [if_pos h1, extend_refines, this]
      rfl
    · obtain rfl : n = 1 := by omega
      exact (List.append_nil _).symm

example : view (imul (extend ⟨[], 0⟩ [1, 2]) (-1)) = [] := by decide +kernel

example : view (imul (extend ⟨[], 0⟩ [1, 2]) 3) = [1, 2, 1, 2, 1, 2] := by decide +kernel

end ListP

end SaVerif.Props.C50
