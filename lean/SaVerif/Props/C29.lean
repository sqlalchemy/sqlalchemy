import SaVerif.Props.C25
/-!
# C29 — The asyncio API matches the sync API and is safe under cancellation

Lean content (thin for this property; the differential sync/async run and the
cancellation oracle of `harness/props/c29.py` carry the claim):

`AsyncAdaptedQueuePool` is `QueuePool` over `AsyncAdaptedQueue`; the new behaviour is that
a task can be cancelled at an await.  While it awaits `queue.get()`: `CancelledError` is not
`Empty`, so it leaves `_do_get` at once; `Model/Pool.lean` has this as the `cancel`
transition (`gq w --cancel--> idle`).  Inside the creation of the physical connection: the
bare `except:` of `_do_get` runs `_dec_overflow()`; this is `ccancel` (`c0 --ccancel--> cfail`).
So all C25 theorems quantify over runs that contain any number of cancellations at either
point.  An asyncio schedule switches tasks only at await points, i.e. it is one of the
interleavings of the LTS (coarser atomicity), hence every invariant transfers.
-/
namespace SaVerif.Props.C29
open SaVerif.Pool SaVerif.Props.C25

theorem cancel_leaves_pool_untouched (c : Cfg) (s s' : State) (t : Nat)
    (h : step c s t Label.cancel = some s') :
    s'.queue = s.queue ∧ s'.overflow = s.overflow ∧ s'.lock = s.lock ∧ s'.out = s.out ∧
    s'.pcs[t]? = some Pc.idle := by
  obtain ⟨old, new, sh, hold, htr, rfl⟩ := step_eq h
  cases htr
  exact ⟨rfl, rfl, rfl, rfl, getElem?_set_self' _ _ _ _ hold⟩

theorem cancel_only_while_waiting (c : Cfg) (s s' : State) (t : Nat)
    (h : step c s t Label.cancel = some s') : ∃ w, s.pcs[t]? = some (Pc.gq w) := by
  obtain ⟨old, new, sh, hold, htr, rfl⟩ := step_eq h
  cases htr
  exact ⟨_, hold⟩

/-- **cancel_returns_once**: in every state reachable with any mixture of checkouts,
    returns, failed creations, timeouts and cancellations a connection record is in at most
    one place (idle in the queue, held by one checkout, or in transit) — a cancelled
    checkout can neither duplicate nor lose a record. -/
theorem cancel_returns_once (c : Cfg) (hc : WF c) (n : Nat) (s : State) (hr : Reach c n s)
    (r : Rec) : occ r s ≤ 1 :=
  exclusive_holders c hc n s hr r

theorem cancel_checkedout_eq_live (c : Cfg) (hc : WF c) (n : Nat) (s : State) (hr : Reach c n s)
    (hq : quiescent s) : checkedout c s = s.out.length :=
  checkedout_eq_live c hc n s hr hq

/-- **cancel_during_create**: a cancellation that lands inside the creation of a new
    physical connection puts the thread where a failed creation puts it: the increment made
    before the creation still stands (`slots cfail = 1`), and nothing but `_dec_overflow` can
    follow. -/
theorem cancel_during_create (c : Cfg) (s s' : State) (t : Nat)
    (h : step c s t Label.ccancel = some s') :
    s.pcs[t]? = some Pc.c0 ∧ s'.pcs[t]? = some Pc.cfail ∧ s'.overflow = s.overflow ∧
    (∀ l s'', step c s' t l = some s'' → l = Label.cd) := by
  obtain ⟨old, new, sh, hold, htr, rfl⟩ := step_eq h
  cases htr
  have hset := getElem?_set_self' _ _ _ Pc.cfail hold
  refine ⟨hold, hset, rfl, ?_⟩
  intro l s'' hs
  obtain ⟨old2, new2, sh2, hold2, htr2, _⟩ := step_eq hs
  cases hset.symm.trans hold2
  cases htr2
  rfl

/-- with cancellations during creation in the run, the counter still never exceeds its
    limit and is exact at rest (the C25 invariant quantifies over `ccancel` too) -/
theorem overflow_sound_with_cancel_during_create (c : Cfg) (hc : WF c) (n : Nat) (s : State)
    (hr : Reach c n s) :
    (c.maxOv ≠ -1 → s.overflow ≤ c.maxOv) ∧ (quiescent s → checkedout c s = s.out.length) :=
  ⟨overflow_le_max c hc n s hr, checkedout_eq_live c hc n s hr⟩

/-- non-vacuity: the first checkout is cancelled inside the creation; after the
    `_dec_overflow` the counter is back at its baseline -pool_size -/
example : (run { size := 1, maxOv := 0, lifo := false } (init { size := 1, maxOv := 0, lifo := false } 1)
    [(0, .cg), (0, .rv (-1)), (0, .qg false), (0, .qe), (0, .rv (-1)), (0, .ci), (0, .la), (0, .rv (-1)),
     (0, .rmw (-1) 0), (0, .lr), (0, .ccancel), (0, .cd), (0, .la), (0, .rmw 0 (-1)), (0, .lr)] 0).toOption.map
      (fun s => (s.overflow, s.pcs, checkedout { size := 1, maxOv := 0, lifo := false } s)) =
    some (-1, [Pc.idle], 0) := by decide +kernel

/-- non-vacuity: pool_size 1, max_overflow 0; task 0 holds the only connection, task 1
    waits and is cancelled, task 0 returns: one idle record, nothing checked out -/
example : (run { size := 1, maxOv := 0, lifo := false } (init { size := 1, maxOv := 0, lifo := false } 2)
    [(0, .cg), (0, .rv (-1)), (0, .qg false), (0, .qe), (0, .rv (-1)), (0, .ci), (0, .la), (0, .rv (-1)),
     (0, .rmw (-1) 0), (0, .lr), (0, .cr 0),
     (1, .cg), (1, .rv 0), (1, .qg true), (1, .cancel),
     (0, .cp 0), (0, .put 0)] 0).toOption.map
      (fun s => (s.queue, s.out, s.overflow, s.pcs)) = some ([0], [], 0, [Pc.idle, Pc.idle]) := by
  decide +kernel

end SaVerif.Props.C29
