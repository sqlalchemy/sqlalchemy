import SaVerif.Model.History
/-!
# C36 — Attribute history reports exactly the net change since load

Theorems about M-HIST (`SaVerif/Model/History.lean`): `History.from_scalar_attribute`,
`from_object_attribute`, `from_collection` transcribed literally, plus the committed_state
capture and the set / del / collection-event / expire / load / flush transitions.
The invariant `Inv` (a clean attribute mirrors the row; the value captured at the FIRST
modification is the committed value) holds for ALL operation sequences (`inv_run`); under it the
history triple is exactly diff(committed, current).  The excluded case of the full-strength
statement: when the committed value was not in memory at the first modification the code reports
`added = [current]`, `deleted = ()` (`history_unknown_original`, with a counterexample).
-/
namespace SaVerif.Props.C36
open SaVerif.History

namespace Scalar
open SaVerif.History.Scalar

structure Inv (s : St) : Prop where
  clean : s.cs = .noHistory → ∀ c, s.cur = .val c → s.db = some c
  orig : ∀ o, s.cs = .val o → s.db = some o

theorem inv_loaded (v : SVal) (isObj : Bool) : Inv (loaded v isObj) :=
  ⟨fun _ c h => by cases h; rfl, fun o h => nomatch h⟩

theorem inv_fresh (isObj : Bool) : Inv (fresh isObj) :=
  ⟨(fun _ c h => by cases h), (fun o h => by cases h)⟩

/-- `_modified_event` always leaves an entry, and when the entry is a value it is the committed
    one -/
theorem capture_spec {s : St} (h : Inv s) :
    capture s.cs (oldOf s) ≠ .noHistory ∧ ∀ o, capture s.cs (oldOf s) = .val o → s.db = some o := by
  unfold capture
  cases hcs : s.cs with
  | noHistory =>
    unfold oldOf
    cases hcur : s.cur with
    | val c => exact ⟨nofun, fun o ho => by cases ho; exact h.clean hcs _ hcur⟩
    | absent =>
      dsimp only
      cases s.isObj && s.fk with
      | false => exact ⟨nofun, nofun⟩
      | true =>
        cases s.db with
        | none => exact ⟨nofun, nofun⟩
        | some v => exact ⟨nofun, fun o ho => by cases ho; rfl⟩
  | val o' => exact ⟨nofun, fun o ho => by cases ho; exact h.orig _ hcs⟩
  | _ => exact ⟨nofun, nofun⟩

/- The invariant only looks at `cur`, `cs`, `db`; every operation of the machine either leaves
   them alone (`inv_same`), records the old value (a modification: `inv_modified`), or ends in a
   clean state whose value, if present, is the row's (`inv_absent`, `inv_row`). -/
theorem inv_same {s t : St} (h : Inv s) (hcur : t.cur = s.cur) (hcs : t.cs = s.cs) (hdb : t.db = s.db) :
    Inv t :=
  ⟨fun hc c hv => hdb ▸ h.clean (hcs ▸ hc) c (hcur ▸ hv), fun o ho => hdb ▸ h.orig o (hcs ▸ ho)⟩

theorem inv_modified {s t : St} (h : Inv s) (hcs : t.cs = capture s.cs (oldOf s)) (hdb : t.db = s.db) :
    Inv t :=
  ⟨fun hc => absurd (hcs ▸ hc) (capture_spec h).1, fun o ho => hdb ▸ (capture_spec h).2 o (hcs ▸ ho)⟩

theorem inv_absent {t : St} (hcur : t.cur = .absent) (hcs : t.cs = .noHistory) : Inv t :=
  ⟨fun _ c hc => (by rw [hcur] at hc; cases hc), fun o ho => by rw [hcs] at ho; cases ho⟩

theorem inv_row {t : St} {v : SVal} (hcur : t.cur = .val v) (hcs : t.cs = .noHistory)
    (hdb : t.db = some v) : Inv t :=
  ⟨fun _ c hc => by rw [hcur] at hc; cases hc; exact hdb, fun o ho => by rw [hcs] at ho; cases ho⟩

theorem flushWrite_skip_or_write (s : St) :
    ((flushWrite s).cur = s.cur ∧ (flushWrite s).cs = s.cs ∧ (flushWrite s).db = s.db ∧
        s.cs = .noHistory ∧ s.db.isSome = true) ∨
    ((flushWrite s).cur = s.cur ∧ (flushWrite s).cs = .noHistory ∧
      (flushWrite s).db = some (match s.cur with | .val c => c | .absent => none)) := by
  unfold flushWrite
  cases hcs : s.cs with
  | noHistory =>
    cases hdb : s.db with
    | some v => exact .inl ⟨rfl, hcs, hdb, rfl, rfl⟩
    | none => exact .inr ⟨rfl, rfl, rfl⟩
  | _ => exact .inr ⟨rfl, rfl, rfl⟩

theorem inv_flushWrite {s : St} (h : Inv s) : Inv (flushWrite s) := by
  rcases flushWrite_skip_or_write s with ⟨hcur, hcs, hdb, _, _⟩ | ⟨hcur, hcs, hdb⟩
  · exact inv_same h hcur hcs hdb
  · cases hc : s.cur with
    | absent => exact inv_absent (hcur.trans hc) hcs
    | val c => exact inv_row (hcur.trans hc) hcs (by rw [hdb, hc])

theorem del_fst (s : St) :
    (del s).1 = { s with cs := capture s.cs (oldOf s), cur := .absent, modified := true } := by
  unfold del
  cases s.cur with
  | val _ => rfl
  | absent =>
    cases s.isObj with
    | true => cases s.db.isNone <;> rfl
    | false => cases s.expired <;> rfl

/-- `flush` = `flushWrite` up to the flags, except that an absent unmodified attribute may be
    loaded from the row -/
theorem flush_eq (s : St) :
    ∃ cur e m p, flush s = { flushWrite s with cur := cur, expired := e, modified := m, pkx := p } ∧
      (cur = (flushWrite s).cur ∨
        ∃ v, s.cur = .absent ∧ s.cs = .noHistory ∧ (flushWrite s).db = some v ∧ cur = .val v) := by
  unfold flush
  dsimp only
  cases s.modified with
  | false => exact ⟨_, _, _, _, rfl, .inl rfl⟩
  | true =>
    cases (s.pkx && !s.isObj) with
    | false => exact ⟨_, _, _, _, rfl, .inl rfl⟩
    | true =>
      cases s.cur with
      | val _ => exact ⟨_, _, _, _, rfl, .inl rfl⟩
      | absent =>
        cases s.cs with
        | noHistory =>
          cases hdb : (flushWrite s).db with
          | none => exact ⟨_, _, _, _, rfl, .inl rfl⟩
          | some v =>
            cases (flushWrite s).expired with
            | false => exact ⟨_, _, _, _, rfl, .inl rfl⟩
            | true => exact ⟨_, _, _, _, rfl, .inr ⟨v, rfl, rfl, rfl, rfl⟩⟩
        | _ => exact ⟨_, _, _, _, rfl, .inl rfl⟩

theorem inv_flush {s : St} (h : Inv s) : Inv (flush s) := by
  have hw := inv_flushWrite h
  obtain ⟨cur, e, m, p, hf, hc | ⟨v, _, hcs, hdb, hc⟩⟩ := flush_eq s
  · rw [hf]
    exact inv_same hw hc rfl rfl
  · rw [hf]
    refine inv_row hc ?_ hdb
    rcases flushWrite_skip_or_write s with ⟨_, hkept, _⟩ | ⟨_, hclean, _⟩
    · exact hkept.trans hcs
    · exact hclean

theorem inv_step {s : St} (h : Inv s) (op : Op) : Inv (step s op) := by
  cases op with
  | set v => exact inv_modified h rfl rfl
  | del => exact inv_modified h (by rw [step, del_fst]) (by rw [step, del_fst])
  | expire =>
    show Inv (expire s)
    unfold expire
    cases s.db with
    | none => exact h
    | some _ => exact inv_absent rfl rfl
  | expireAll =>
    show Inv (expireAll s)
    unfold expireAll
    cases s.db with
    | none => exact h
    | some _ => exact inv_absent rfl rfl
  | load =>
    show Inv (load s)
    unfold load
    cases s.cur with
    | val _ => exact h
    | absent =>
      cases s.db with
      | none => exact h
      | some v =>
        cases s.isObj with
        | true =>
          cases s.cs with
          | val _ => exact h
          | _ => exact inv_row rfl rfl rfl
        | false =>
          cases s.expired with
          | true => exact inv_row rfl rfl rfl
          | false => exact h
  | loadOther =>
    show Inv (loadOther s)
    unfold loadOther
    by_cases hobj : s.isObj = true
    · rwa [if_pos hobj]
    · rw [if_neg hobj]
      cases hcur : s.cur with
      | val _ => exact inv_same h hcur.symm rfl rfl
      | absent =>
        cases hcs : s.cs with
        | noHistory =>
          cases hdb : s.db with
          | none => exact inv_same h hcur.symm hcs.symm hdb.symm
          | some v =>
            cases s.expired with
            | false => exact inv_same h hcur.symm hcs.symm hdb.symm
            | true => exact inv_row rfl rfl rfl
        | _ => exact inv_same h hcur.symm hcs.symm rfl
  | flush => exact inv_flush h

theorem inv_run : ∀ (ops : List Op) (s : St), Inv s → Inv (run s ops)
  | [], _, h => h
  | op :: ops, _, h => inv_run ops _ (inv_step h op)

theorem history_val {s : St} {c : SVal} (hc : s.cur = .val c) :
    history s = if s.isObj then fromObject s.cs (.val c) else fromScalar s.cs (.val c) := by
  rw [history, hc]

theorem history_noHistory {s : St} {c : SVal} (hc : s.cur = .val c) (hcs : s.cs = .noHistory) :
    history s = ⟨[], [c], []⟩ := by
  rw [history_val hc, hcs]
  cases s.isObj <;> rfl

theorem fromScalar_val (o c : SVal) :
    fromScalar (.val o) (.val c) = if c = o then ⟨[], [c], []⟩ else ⟨[c], [], [o]⟩ :=
  ite_cond_congr (propext beq_iff_eq)

theorem fromObject_val (o c : SVal) :
    fromObject (.val o) (.val c) = if c = o then ⟨[], [c], []⟩
      else ⟨[c], [], match o with | some o => [some o] | none => []⟩ :=
  ite_congr (propext beq_iff_eq) (fun _ => rfl) fun _ => by cases o <;> rfl

theorem cs_of_db {s : St} (h : Inv s) {c d : SVal} (hc : s.cur = .val c) (hd : s.db = some d)
    (hk : s.cs = .noHistory ∨ ∃ o, s.cs = .val o) : (s.cs = .noHistory ∧ c = d) ∨ s.cs = .val d := by
  rcases hk with hk | ⟨o, hk⟩
  · exact .inl ⟨hk, Option.some.inj ((h.clean hk c hc).symm.trans hd)⟩
  · exact .inr (hk.trans (congrArg CS.val (Option.some.inj ((h.orig o hk).symm.trans hd))))

/-- **history_eq_diff** (column attribute): whenever the committed value is known to the
    state (no committed_state entry, or an entry holding a value), the history of a present
    attribute is exactly the difference between the committed row value `d` and the current
    value `c`: unchanged when equal — in particular after setting back to the original —
    otherwise added = [c], deleted = [d]. -/
theorem history_eq_diff_scalar {s : St} (h : Inv s) (hobj : s.isObj = false) (c d : SVal)
    (hc : s.cur = .val c) (hd : s.db = some d)
    (hk : s.cs = .noHistory ∨ ∃ o, s.cs = .val o) :
    history s = if c = d then ⟨[], [c], []⟩ else ⟨[c], [], [d]⟩ := by
  obtain ⟨hcs, rfl⟩ | hcs := cs_of_db h hc hd hk
  · rw [if_pos rfl]; exact history_noHistory hc hcs
  · rw [history_val hc, hobj, hcs, if_neg Bool.false_ne_true, fromScalar_val]

/-- **history_eq_diff** (many-to-one reference): same, with the code's convention that a
    `None` original is not listed under deleted. -/
theorem history_eq_diff_object {s : St} (h : Inv s) (hobj : s.isObj = true) (c d : SVal)
    (hc : s.cur = .val c) (hd : s.db = some d)
    (hk : s.cs = .noHistory ∨ ∃ o, s.cs = .val o) :
    history s = if c = d then ⟨[], [c], []⟩
      else ⟨[c], [], match d with | some o => [some o] | none => []⟩ := by
  obtain ⟨hcs, rfl⟩ | hcs := cs_of_db h hc hd hk
  · rw [if_pos rfl]; exact history_noHistory hc hcs
  · rw [history_val hc, hobj, hcs, if_pos rfl, fromObject_val]
    cases d <;> rfl

theorem set_cs {s : St} {c : SVal} (hc : s.cur = .val c)
    (hk : s.cs = .noHistory ∨ ∃ o, s.cs = .val o) (w : SVal) : ∃ o, (set s w).cs = .val o := by
  show ∃ o, capture s.cs (oldOf s) = .val o
  rcases hk with hk | ⟨o, hk⟩
  · exact ⟨c, by rw [hk, oldOf, hc]; rfl⟩
  · exact ⟨o, by rw [hk]; rfl⟩

theorem run_sets (ops : List Op) (hsets : ∀ op ∈ ops, ∃ w, op = Op.set w) (s : St) {c : SVal}
    (hc : s.cur = .val c) (hk : s.cs = .noHistory ∨ ∃ o, s.cs = .val o) :
    (run s ops).db = s.db ∧ (run s ops).isObj = s.isObj ∧ (∃ c, (run s ops).cur = .val c) ∧
      ((run s ops).cs = .noHistory ∨ ∃ o, (run s ops).cs = .val o) := by
  induction ops generalizing s c with
  | nil => exact ⟨rfl, rfl, ⟨c, hc⟩, hk⟩
  | cons op ops ih =>
    obtain ⟨w, rfl⟩ := hsets _ (List.mem_cons_self ..)
    exact ih (fun o ho => hsets o (List.mem_cons_of_mem _ ho)) (set s w) (c := w) rfl
      (.inr (set_cs hc hk w))

/-- set-back-to-original: after any history of assignments on a loaded attribute, assigning
    the committed value again leaves no net change -/
theorem set_back_no_change (v : SVal) (ops : List Op) (hload : ∀ op ∈ ops, ∃ w, op = Op.set w) :
    history (set (run (loaded v false) ops) v) = ⟨[], [v], []⟩ := by
  obtain ⟨hdb, hob, ⟨c, hc⟩, hk⟩ := run_sets ops hload (loaded v false) (c := v) rfl (.inl rfl)
  have := history_eq_diff_scalar (inv_step (inv_run ops _ (inv_loaded v false)) (.set v)) hob v v rfl
    hdb (.inr (set_cs hc hk v))
  rwa [if_pos rfl] at this

/-- when the committed value was NOT in memory at the first modification (expired column,
    new object) the code records NO_VALUE and reports the current value as added with nothing
    deleted — whatever the row holds -/
theorem history_unknown_original (s : St) (c : SVal) (hobj : s.isObj = false)
    (hc : s.cur = .val c) (hcs : s.cs = .noValue) : history s = ⟨[c], [], []⟩ := by
  rw [history_val hc, hobj, hcs]
  rfl

/-- so the unrestricted statement "history = diff(row, current)" is false: expire, assign
    the same value as the row — reported as a change -/
theorem unknown_original_counterexample :
    history (run (loaded (some 5) false) [.expire, .set (some 5)]) = ⟨[some 5], [], []⟩ := by
  decide +kernel

theorem flushWrite_isObj (s : St) : (flushWrite s).isObj = s.isObj := by
  unfold flushWrite
  cases s.cs with
  | noHistory => cases s.db <;> rfl
  | _ => rfl

/-- **flush_persists_history**: flush writes the current value and leaves a history without
    added / deleted parts -/
theorem flush_persists_history (s : St) (c : SVal) (hc : s.cur = .val c)
    (hm : s.cs ≠ .noHistory ∨ s.db = none) :
    (flush s).db = some c ∧ history (flush s) = ⟨[], [c], []⟩ := by
  obtain ⟨_, _, _, hclean, hrow⟩ | ⟨hcur, hcs, hdb⟩ := flushWrite_skip_or_write s
  · rcases hm with hm | hm
    · exact absurd hclean hm
    · rw [hm] at hrow; cases hrow
  · obtain ⟨cur, e, m, p, hf, rfl | ⟨v, ha, _⟩⟩ := flush_eq s
    · rw [hf]
      exact ⟨by rw [hdb, hc], history_noHistory (hcur.trans hc) hcs⟩
    · rw [hc] at ha; cases ha

theorem flush_writes_null_for_deleted (s : St) (hc : s.cur = .absent) (hm : s.cs ≠ .noHistory) :
    (flush s).db = some none := by
  obtain ⟨cur, e, m, p, hf, _⟩ := flush_eq s
  rcases flushWrite_skip_or_write s with ⟨_, _, _, hclean, _⟩ | ⟨_, _, hdb⟩
  · exact absurd hclean hm
  · rw [hf]
    show (flushWrite s).db = _
    rw [hdb, hc]

example : history (run (loaded (some 1) false) [.set (some 2), .set none, .set (some 1)])
    = ⟨[], [some 1], []⟩ := by decide +kernel

example : history (run (loaded (some 1) false) [.set (some 2), .flush, .set (some 3)])
    = ⟨[some 3], [], [some 2]⟩ := by decide +kernel

end Scalar

namespace Coll
open SaVerif.History.Coll

theorem mem_insertSorted (x a : Nat) : ∀ l : List Nat, x ∈ insertSorted a l ↔ x = a ∨ x ∈ l
  | [] => by simp [insertSorted]
  | y :: ys => by
    unfold insertSorted
    split
    · simp
    · simp [mem_insertSorted x a ys, or_left_comm]

theorem mem_sortNat (x : Nat) : ∀ l : List Nat, x ∈ sortNat l ↔ x ∈ l
  | [] => by simp [sortNat]
  | y :: ys => by
    rw [sortNat, List.foldr_cons, mem_insertSorted, ← sortNat, mem_sortNat x ys, List.mem_cons]

def Same (a b : List Nat) : Prop := ∀ x, x ∈ a ↔ x ∈ b

/-- committed membership: the rows; an object without a row has none -/
def committed (s : St) : List Nat := s.db.getD []

structure Inv (s : St) : Prop where
  clean : s.cs = .noHistory → ∀ c, s.cur = .val c → Same c (committed s)
  orig : ∀ o, s.cs = .val o → Same o (committed s)

theorem inv_loaded (l : List Nat) : Inv (loaded l) :=
  ⟨fun _ c h => by cases h; exact fun _ => Iff.rfl, fun o h => nomatch h⟩

theorem inv_fresh : Inv fresh := ⟨(fun _ c h => by cases h), (fun o h => by cases h)⟩

theorem touch_cases (s : St) :
    (∃ c, s.cur = .val c ∧ touch s = s) ∨ (s.cur = .absent ∧ s.db = none ∧ touch s = s) ∨
    ∃ l, s.cur = .absent ∧ s.db = some l ∧ touch s = { s with cur := .val (sortNat l) } := by
  unfold touch
  cases s.cur with
  | val c => exact .inl ⟨c, rfl, rfl⟩
  | absent =>
    cases s.db with
    | none => exact .inr (.inl ⟨rfl, rfl, rfl⟩)
    | some l => exact .inr (.inr ⟨l, rfl, rfl, rfl⟩)

theorem touch_val (s : St) (c : List Nat) (hc : s.cur = .val c) : touch s = s := by
  rw [touch, hc]

theorem touch_cs (s : St) : (touch s).cs = s.cs := by unfold touch; split <;> rfl
theorem touch_db (s : St) : (touch s).db = s.db := by unfold touch; split <;> rfl

theorem inv_setCur {s : St} (h : Inv s) {c : List Nat} (hc : Same c (committed s)) :
    Inv { s with cur := .val c } :=
  ⟨fun _ _ e => by cases e; exact hc, h.orig⟩

theorem inv_touch {s : St} (h : Inv s) : Inv (touch s) := by
  obtain ⟨_, _, e⟩ | ⟨_, _, e⟩ | ⟨l, _, hdb, e⟩ := touch_cases s
  · rwa [e]
  · rwa [e]
  · rw [e]
    refine inv_setCur h fun x => ?_
    rw [committed, hdb]
    exact mem_sortNat x l

theorem inv_materialize {s : St} (h : Inv s) :
    Inv (materialize s) ∧ ∃ c, (materialize s).cur = .val c := by
  unfold materialize
  obtain ⟨c, hc, e⟩ | ⟨hc, hdb, e⟩ | ⟨l, _, hdb, e⟩ := touch_cases s
  · rw [e, hc]; exact ⟨h, c, hc⟩
  · rw [e, hc]
    refine ⟨inv_setCur h fun x => ?_, [], rfl⟩
    rw [committed, hdb]
    rfl
  · have := inv_touch h
    rw [e] at this ⊢
    exact ⟨this, _, rfl⟩

/-- a mutation event on a collection present in `dict`: committed_state captures a copy of the
    collection as it is before the mutation, once -/
theorem inv_mutate {s0 : St} (h : Inv s0) (c : List Nat) (new : Slot (List Nat))
    (hc : s0.cur = .val c) : Inv { s0 with cs := captureNow s0, cur := new } := by
  unfold captureNow capture
  rw [hc]
  cases hcs : s0.cs with
  | noHistory => exact ⟨nofun, fun o ho => by cases ho; exact h.clean hcs c hc⟩
  | noValue => exact ⟨nofun, nofun⟩
  | noResult => exact ⟨nofun, nofun⟩
  | val o' => exact ⟨nofun, fun o ho => by cases ho; exact h.orig _ hcs⟩

theorem inv_step {s : St} (h : Inv s) (op : Op) : Inv (step s op) := by
  cases op with
  | append x =>
    obtain ⟨hm, c, hc⟩ := inv_materialize h
    show Inv (append s x)
    unfold append
    dsimp only
    rw [hc]
    exact inv_mutate hm c _ hc
  | remove x =>
    have ht := inv_touch h
    show Inv (remove s x)
    unfold remove
    dsimp only
    cases hc : (touch s).cur with
    | absent => exact ht
    | val c => exact iteInduction (fun _ => inv_mutate ht c _ hc) (fun _ => ht)
  | replace l =>
    obtain ⟨hm, c, hc⟩ := inv_materialize h
    exact inv_mutate hm c _ hc
  | delete =>
    show Inv (delete s)
    unfold delete
    cases hc : s.cur with
    | absent => exact h
    | val c => exact inv_mutate h c _ hc
  | touch => exact inv_touch h
  | expire =>
    show Inv (expire s)
    unfold expire
    cases s.db with
    | none => exact h
    | some _ => exact ⟨nofun, nofun⟩
  | flush =>
    show Inv (flush s)
    unfold flush
    split
    · exact h
    · refine ⟨fun _ c hc => ?_, nofun⟩
      rw [touch_val s c hc, hc]
      exact fun x => (mem_sortNat x c).symm

theorem inv_run : ∀ (ops : List Op) (s : St), Inv s → Inv (run s ops)
  | [], _, h => h
  | op :: ops, _, h => inv_run ops _ (inv_step h op)

/-- **history_eq_diff** (collections): once modified, `added` are exactly the current members
    that are not committed, `unchanged` the current members that are committed, `deleted` the
    committed members that are no longer present; `added` and `unchanged` partition the
    current collection. -/
theorem history_eq_diff_coll {s : St} (h : Inv s) (c o : List Nat) (hc : s.cur = .val c)
    (hcs : s.cs = .val o) :
    (∀ x, x ∈ (history s).added ↔ x ∈ c ∧ x ∉ committed s) ∧
    (∀ x, x ∈ (history s).unchanged ↔ x ∈ c ∧ x ∈ committed s) ∧
    (∀ x, x ∈ (history s).deleted ↔ x ∈ committed s ∧ x ∉ c) ∧
    ((history s).unchanged ++ (history s).added).Perm c := by
  have hs := h.orig o hcs
  simp only [history, fromCollection, hc, hcs]
  refine ⟨?_, ?_, ?_, ?_⟩
  · intro x
    simp only [List.mem_filter, Bool.not_eq_true', List.contains_eq_mem, decide_eq_false_iff_not,
      hs x]
  · intro x
    simp only [List.mem_filter, List.contains_eq_mem, decide_eq_true_eq, hs x]
  · intro x
    simp only [List.mem_filter, Bool.not_eq_true', List.contains_eq_mem, decide_eq_false_iff_not,
      hs x]
  · have := List.filter_append_perm (fun x => o.contains x) c
    simpa using this

/-- an unmodified loaded collection is reported entirely as unchanged -/
theorem history_clean {s : St} (c : List Nat) (hc : s.cur = .val c) (hcs : s.cs = .noHistory) :
    history s = ⟨[], c, []⟩ := by
  simp [history, fromCollection, hc, hcs]

/-- **flush_persists_history** (collections): after flush the committed members are the
    current members and nothing is reported as added or deleted -/
theorem flush_persists_history (s : St) (c : List Nat) (hc : s.cur = .val c)
    (hm : s.cs ≠ .noHistory ∨ s.db = none) :
    Same (committed (flush s)) c ∧ history (flush s) = ⟨[], c, []⟩ := by
  have hf : flush s = { s with db := some (sortNat c), cs := .noHistory } := by
    unfold flush
    rw [touch_val s c hc, hc]
    split
    · rename_i h1 h2
      rcases hm with hm | hm
      · exact absurd h1 hm
      · rw [hm] at h2; cases h2
    · rfl
  rw [hf]
  exact ⟨fun x => mem_sortNat x c, by rw [history, hc]; rfl⟩

example : history (run (loaded [1, 2, 3]) [.remove 2, .append 5, .append 2, .remove 1])
    = ⟨[5], [3, 2], [1]⟩ := by decide +kernel

/-- remove then re-add: no net change for that member -/
example : (history (run (loaded [1, 2]) [.remove 2, .append 2])).deleted = [] ∧
    (history (run (loaded [1, 2]) [.remove 2, .append 2])).added = [] := by decide +kernel

end Coll

end SaVerif.Props.C36
