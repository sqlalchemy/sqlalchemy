import SaVerif.Lemmas.Backref
/-!
# C37 — Both sides of a bidirectional relationship always agree

Theorems about M-BACKREF (`SaVerif/Model/Backref.lean`: `_backref_listeners`, the list
decorators and `bulk_replace` for a loaded one-to-many / many-to-one pair).

The guard (`OpOk`) only forbids putting a child into a list that already holds it (and collection
replacement by a list with repeats); the excluded case really breaks the symmetry
(`duplicate_move_counterexample`, replayed on the real code).
-/
namespace SaVerif.Props.C37
open SaVerif.Backref

def OpOk (st : St) : Op → Prop
  | .append p c => c ∉ st.kids p
  | .setItem p i c =>
    ∀ k, normIdx (st.kids p).length i = some k → c ∉ st.kids p ∨ (st.kids p)[k]? = some c
  | .replace _ new => new.Nodup
  | _ => True

theorem inv_init : Inv init := ⟨fun _ _ => by simp [init], fun _ => by simp [init]⟩

/-- every operation of the pair — from the child side or from the parent side, succeeding or
    raising — keeps both sides in agreement -/
theorem inv_step {st : St} (h : Inv st) (op : Op) (g : OpOk st op) : Inv (step st op).1 := by
  cases op with
  | setParent c new => exact inv_setParent h c new
  | append p c => exact inv_append h p c g
  | remove p c => exact inv_remove h p c
  | pop p i => exact inv_pop h p i
  | delItem p i => exact inv_delItem h p i
  | setItem p i c => exact inv_setItem h p i c g
  | replace p new => exact inv_replace h p new g
  | clear p => exact inv_clear h p

def GuardedRun : St → List Op → Prop
  | _, [] => True
  | st, op :: ops => OpOk st op ∧ GuardedRun (step st op).1 ops

theorem inv_run : ∀ (ops : List Op) (st : St), Inv st → GuardedRun st ops → Inv (run st ops)
  | [], _, h, _ => h
  | op :: ops, _, h, g => inv_run ops _ (inv_step h op g.1) g.2

/-- **backref_symmetric**: after ANY guarded sequence of mutations from either side, child `c`
    is in parent `p`'s collection exactly when `p` is `c`'s parent. -/
theorem backref_symmetric (ops : List Op) (g : GuardedRun init ops) (p c : Nat) :
    c ∈ (run init ops).kids p ↔ (run init ops).par c = some p :=
  (inv_run ops init inv_init g).sym p c

theorem backref_nodup (ops : List Op) (g : GuardedRun init ops) (p : Nat) :
    ((run init ops).kids p).Nodup :=
  (inv_run ops init inv_init g).nodup p

/-- non-vacuity: moves between parents through both sides, item assignment, collection
    replacement -/
example :
    let ops := [Op.append 0 0, Op.append 0 1, Op.setParent 1 (some 1), Op.setItem 0 0 2,
                Op.replace 1 [0, 2], Op.remove 1 2, Op.setParent 0 none]
    let st := run init ops
    st.kids 0 = [] ∧ st.kids 1 = [] ∧ st.par 0 = none ∧ st.par 1 = none ∧ st.par 2 = none := by
  decide +kernel

example :
    let st := run init [Op.append 0 0, Op.append 0 1, Op.setParent 1 (some 1), Op.replace 1 [0, 2]]
    st.kids 0 = [] ∧ st.kids 1 = [0, 2] ∧ st.par 0 = some 1 ∧ st.par 1 = none ∧ st.par 2 = some 1 := by
  decide +kernel

/-- the guard is necessary: a list holding a child twice loses the symmetry when the child is
    moved from the other side — only the first occurrence is removed -/
theorem duplicate_move_counterexample :
    let st := run init [Op.append 0 0, Op.append 0 0, Op.append 1 0]
    0 ∈ st.kids 0 ∧ st.par 0 = some 1 := by
  decide +kernel

end SaVerif.Props.C37
