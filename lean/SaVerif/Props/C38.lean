import SaVerif.Lemmas.PyDelSlice
import SaVerif.Lemmas.PySet
import SaVerif.Lemmas.PyDict
/-!
# C38 — Instrumented collections behave exactly like the Python types they wrap

Property theorems about M-PYSEQ (`SaVerif/Model/PySeq.lean`, `SaVerif/Model/PySetDict.lean`:
Python list/set/dict semantics + the instrumented decorators of orm/collections.py with the
append/remove event log).

Full statement (C38): for EVERY operation with EVERY argument on a collection of ANY size the
instrumented operation has the contents, return value and exception of the builtin operation
and its events account exactly for the membership change.

For lists it is false of the code as it stands in three places (all replayed on the real code
and listed in known_findings.d/C38.json); the four list theorems are therefore `_partial` with
the exact guards, and each excluded region has a `_counterexample`:

* G3 `l[a:b] = <non-iterable>` deletes the slice before raising TypeError;
* G4 `l[a:b:k] = <iterator>` raises TypeError (needs `len(value)`);
* G5 `l *= n` fires no events.

For sets and dicts (from `SetOk` on) there is no guard: `instrumented_set_refines_set`,
`instrumented_dict_refines_dict` and the two history theorems.
-/
namespace SaVerif.Props.C38
open SaVerif.PySeq

/-- `index.indices(len(self))`, by which `_list_decorators.__setitem__` normalises a slice (the
    F5 fix), is in range -/
theorem slice_indices_in_bounds {len : Nat} {s : Slice} {start stop step : Int}
    (h : sliceIndices len s = some (start, stop, step)) :
    step ≠ 0 ∧
    (0 < step → 0 ≤ start ∧ start ≤ len ∧ 0 ≤ stop ∧ stop ≤ len) ∧
    (step < 0 → -1 ≤ start ∧ start ≤ (len : Int) - 1 ∧ -1 ≤ stop ∧ stop ≤ (len : Int) - 1) :=
  sliceIndices_bounds h

/-- `self.__setitem__(i, item)` inside the extended-slice loop can never raise IndexError -/
theorem slice_positions_valid {len : Nat} {s : Slice} {start stop step : Int}
    (h : sliceIndices len s = some (start, stop, step)) :
    ∀ i ∈ rangeList start stop step, 0 ≤ i ∧ i < len :=
  rangeList_valid h

/-- the value actually iterated: a snapshot of the list when `value is self` -/
def valueItems (l : List Item) (v : Val) : List Item := if v.kind == .self then l else v.elems

/-! What `l[s] = v` does once `slice.indices` is known; the proofs below use these equations and do
not unfold `pSetSlice` / `iSetSlice`. -/
section
variable {l : List Item} {s : Slice} {v : Val} {a b c : Int}

theorem pSetSlice_none (hs : sliceIndices l.length s = none) :
    pSetSlice l s v = .error .valueError := by
  unfold pSetSlice
  rw [hs]

theorem iSetSlice_none (hs : sliceIndices l.length s = none) :
    iSetSlice l s v = ⟨l, [], .err .valueError⟩ := by
  unfold iSetSlice
  rw [hs]

theorem pSetSlice_eq (hs : sliceIndices l.length s = some (a, b, c)) :
    pSetSlice l s v =
      if v.kind == .nonIter then .error .typeError
      else if c == 1 then
        .ok (l.take a.toNat ++ valueItems l v ++ l.drop (if b < a then a else b).toNat)
      else if (valueItems l v).length != (rangeList a b c).length then .error .valueError
      else .ok (assignAll l (rangeList a b c) (valueItems l v)) := by
  unfold pSetSlice valueItems
  rw [hs]

theorem iSetSlice_step1 (hs : sliceIndices l.length s = some (a, b, 1)) :
    iSetSlice l s v =
      if v.kind == .self && a == 0 && b ≥ (l.length : Int) then ⟨l, [], .none⟩
      else
        let p := delLoop (b - a).toNat a.toNat l []
        if v.kind == .nonIter then ⟨p.1, p.2, .err .typeError⟩
        else
          let q := insLoop 0 a (valueItems l v) p.1 p.2
          ⟨q.1, q.2, .none⟩ := by
  unfold iSetSlice valueItems
  rw [hs, ← rangeLen_step1]
  rfl

theorem iSetSlice_ext (hs : sliceIndices l.length s = some (a, b, c)) (hc : c ≠ 1) :
    iSetSlice l s v =
      if v.kind = .nonIter ∨ v.kind = .iter then ⟨l, [], .err .typeError⟩
      else if (valueItems l v).length != (rangeList a b c).length then ⟨l, [], .err .valueError⟩
      else extLoop (rangeList a b c) (valueItems l v) l [] := by
  unfold iSetSlice valueItems
  rw [hs]
  simp only [beq_eq_false_iff_ne.2 hc]
  cases v.kind <;> rfl

end

/-- step-1 slice assignment with the list cut as `A ++ B ++ C` at `start` and `stop`: the delete
    loop takes `B` out, the insert loop puts the value in its place, and the builtin list agrees -/
theorem setslice_step1_spec {l A B C : List Item} {s : Slice} (v : Val) {stop : Int}
    (hl : l = A ++ (B ++ C)) (h : sliceIndices l.length s = some ((A.length : Int), stop, 1))
    (hB : (stop - A.length).toNat = B.length) (hv : v.kind ≠ .nonIter) :
    let ev := if v.kind == .self && (A.length : Int) == 0 && stop ≥ (l.length : Int) then []
      else B.map .rem ++ (valueItems l v).map .app
    iSetSlice l s v = ⟨A ++ valueItems l v ++ C, ev, .none⟩ ∧
      pSetSlice l s v = .ok (A ++ valueItems l v ++ C) ∧
      Accounts l ev (A ++ valueItems l v ++ C) := by
  dsimp only
  have hni : (v.kind == .nonIter) = false := beq_eq_false_iff_ne.2 hv
  have hp : pSetSlice l s v = .ok (A ++ valueItems l v ++ C) := by
    have hstop : (if stop < A.length then (A.length : Int) else stop).toNat = (A ++ B).length := by
      rw [List.length_append]
      split <;> omega
    rw [pSetSlice_eq h, hni, if_neg Bool.false_ne_true, if_pos (beq_self_eq_true _),
      Int.toNat_natCast, hstop]
    subst hl
    rw [List.take_left, ← List.append_assoc, List.drop_left]
  rw [iSetSlice_step1 h]
  by_cases hfull : (v.kind == .self && (A.length : Int) == 0 && stop ≥ (l.length : Int)) = true
  · -- the whole list assigned to itself: `A` and `C` are empty, nothing happens
    rw [if_pos hfull, if_pos hfull]
    simp only [Bool.and_eq_true, beq_iff_eq, decide_eq_true_eq] at hfull
    obtain ⟨⟨hk, hs0⟩, hst⟩ := hfull
    have hlen : l.length = A.length + (B.length + C.length) := by
      rw [hl, List.length_append, List.length_append]
    obtain rfl := List.eq_nil_of_length_eq_zero (l := A) (by omega)
    obtain rfl := List.eq_nil_of_length_eq_zero (l := C) (by omega)
    have hvi : valueItems l v = l := if_pos (beq_iff_eq.2 hk)
    rw [hvi, List.append_nil, List.nil_append] at hp ⊢
    exact ⟨rfl, hp, acc_refl l⟩
  · rw [if_neg hfull, if_neg hfull, Int.toNat_natCast, hB]
    dsimp only
    rw [hni, if_neg Bool.false_ne_true]
    subst hl
    rw [delLoop_append, insLoop_eq _ 0 _ A C _ (Int.add_zero _).symm]
    rw [List.append_assoc] at hp ⊢
    exact ⟨rfl, hp, acc_trans (acc_cut_out A B C) (acc_cut_in A _ C)⟩

/-- where the instrumented list is compared with the builtin list: on a step-1 slice a
    non-iterable value only if the slice is empty (excludes G3), on an extended slice any value
    kind but `.iter` (excludes G4) -/
def ContentsGuard (l : List Item) : LOp → Prop
  | .setslice s v =>
    match sliceIndices l.length s with
    | none => True
    | some (start, stop, step) =>
      if step = 1 then v.kind ≠ .nonIter ∨ (stop - start).toNat = 0
      else v.kind = .sized ∨ v.kind = .self ∨ v.kind = .nonIter
  | _ => True

/-- where the events are claimed to account exactly for the change: `ContentsGuard`, and of
    `l *= n` only `n = 1` (excludes G5) -/
def EventsGuard (l : List Item) : LOp → Prop
  | .imul n => n = 1
  | op => ContentsGuard l op

theorem EventsGuard.contents {l : List Item} {op : LOp} (hg : EventsGuard l op) :
    ContentsGuard l op := by
  cases op with
  | imul n => trivial
  | _ => exact hg

theorem iSetSlice_spec (l : List Item) (s : Slice) (v : Val) (hg : ContentsGuard l (.setslice s v)) :
    ∃ ev, iSetSlice l s v = ⟨(pStep l (.setslice s v)).1, ev, (pStep l (.setslice s v)).2⟩ ∧
      Accounts l ev (pStep l (.setslice s v)).1 := by
  cases hs : sliceIndices l.length s with
  | none =>
    dsimp only [pStep]
    rw [pSetSlice_none hs, iSetSlice_none hs]
    exact ⟨[], rfl, acc_refl l⟩
  | some t =>
    obtain ⟨start, stop, step⟩ := t
    simp only [ContentsGuard, hs] at hg
    by_cases hv : v.kind = .nonIter
    · -- TypeError on both sides; on a step-1 slice the guard says that it is empty, so nothing was
      -- deleted before
      have hp : pStep l (.setslice s v) = (l, .err .typeError) := by
        dsimp only [pStep]
        rw [pSetSlice_eq hs, if_pos (beq_iff_eq.2 hv)]
      rw [hp]
      by_cases h1 : step = 1
      · subst h1
        rw [if_pos rfl] at hg
        rw [iSetSlice_step1 hs, hg.resolve_left (not_not_intro hv), hv]
        exact ⟨[], rfl, acc_refl l⟩
      · rw [iSetSlice_ext hs h1, if_pos (Or.inl hv)]
        exact ⟨[], rfl, acc_refl l⟩
    · by_cases h1 : step = 1
      · subst h1
        obtain ⟨_, hpos, _⟩ := sliceIndices_bounds hs
        obtain ⟨b1, b2, b3, b4⟩ := hpos Int.one_pos
        obtain ⟨A, B, C, hl, hA, hB⟩ :=
          exists_split l (a := start.toNat) (n := (stop - start).toNat) (by omega)
        obtain rfl : start = A.length := by rw [hA, Int.toNat_of_nonneg b1]
        obtain ⟨hi, hp, ha⟩ := setslice_step1_spec v hl hs hB.symm hv
        dsimp only [pStep]
        rw [hp]
        exact ⟨_, hi, ha⟩
      · -- a sized value or the list itself on an extended slice: one `__setitem__` per position
        rw [if_neg h1] at hg
        have hne : ¬ (v.kind = .nonIter ∨ v.kind = .iter) := by
          rcases hg with h | h | h
          · rw [h]; decide
          · rw [h]; decide
          · exact absurd h hv
        dsimp only [pStep]
        rw [iSetSlice_ext hs h1, if_neg hne, pSetSlice_eq hs, beq_eq_false_iff_ne.2 hv,
          if_neg Bool.false_ne_true, beq_eq_false_iff_ne.2 h1, if_neg Bool.false_ne_true]
        split
        · exact ⟨_, rfl, acc_refl l⟩
        · exact extLoop_spec (rangeList start stop step) (valueItems l v) l [] (rangeList_valid hs)

theorem iStep_spec (l : List Item) (op : LOp) (hg : ContentsGuard l op) :
    ∃ ev, iStep l op = ⟨(pStep l op).1, ev, (pStep l op).2⟩ ∧
      (EventsGuard l op → Accounts l ev (pStep l op).1) := by
  cases op with
  | append x => exact ⟨_, rfl, fun _ => acc_apps (xs := [x]) (List.Perm.refl _)⟩
  | remove x =>
    dsimp only [iStep, pStep, iRemove, pRemove]
    by_cases hx : x ∈ l
    · rw [if_pos (List.contains_iff_mem.2 hx)]
      exact ⟨_, rfl, fun _ => acc_erase hx⟩
    · rw [if_neg (mt List.contains_iff_mem.1 hx)]
      exact ⟨_, rfl, fun _ => acc_refl l⟩
  | insert p x => exact ⟨_, rfl, fun _ => acc_insert l p x⟩
  | setitem i x =>
    dsimp only [iStep, pStep, iSetItem, pGet, pSetItem]
    cases hn : normIndex l.length i with
    | none => exact ⟨_, rfl, fun _ => acc_refl l⟩
    | some k =>
      have hk := List.getElem?_eq_getElem (normIndex_some hn)
      simp only [hk]
      exact ⟨_, rfl, fun _ => acc_set hk⟩
  | delitem i | pop i =>
    dsimp only [iStep, pStep, iDelItem, iPop, pGet, pDelItem, pPop]
    cases hn : normIndex l.length i with
    | none => exact ⟨_, rfl, fun _ => acc_refl l⟩
    | some k =>
      have hk := List.getElem?_eq_getElem (normIndex_some hn)
      simp only [hk]
      exact ⟨_, rfl, fun _ => acc_eraseIdx hk⟩
  | clear => exact ⟨_, rfl, fun _ => acc_rems (l' := []) (List.Perm.refl l)⟩
  | extend v =>
    dsimp only [iStep, pStep, iExtend]
    cases v.kind with
    | nonIter => exact ⟨_, rfl, fun _ => acc_refl l⟩
    | self | sized | iter => exact ⟨_, rfl, fun _ => acc_apps (List.Perm.refl _)⟩
  | setslice s v =>
    obtain ⟨ev, he, ha⟩ := iSetSlice_spec l s v hg
    exact ⟨ev, he, fun _ => ha⟩
  | delslice s =>
    have ha := iDelSlice_accounts l s
    dsimp only [iStep, pStep]
    cases hs : sliceIndices l.length s with
    | none =>
      rw [iDelSlice_none hs] at ha ⊢
      rw [pDelSlice_none hs]
      exact ⟨_, rfl, fun _ => ha⟩
    | some t =>
      obtain ⟨a, b, c⟩ := t
      rw [iDelSlice_eq hs] at ha ⊢
      rw [pDelSlice_eq hs]
      exact ⟨_, rfl, fun _ => ha⟩
  | imul n =>
    refine ⟨_, rfl, fun hn => ?_⟩
    obtain rfl : n = 1 := hn
    have : pImul l 1 = l := by simp [pImul]
    simp only [pStep]
    rw [this]
    exact acc_refl l
  | reverse =>
    exact ⟨_, rfl, fun _ => acc_apps (xs := []) ((List.append_nil l).symm ▸ (List.reverse_perm l).symm)⟩

/-- **instrumented_list_refines_list_partial**: same contents, same return value, same
    exception as the builtin list for every operation, every index / slice / value and every
    list length — outside G3 (non-iterable value with a non-empty step-1 slice) and G4
    (iterator assigned to an extended slice).
    Full statement (false, see the counterexamples): the same without `ContentsGuard`. -/
theorem instrumented_list_refines_list_partial (l : List Item) (op : LOp)
    (hg : ContentsGuard l op) :
    (iStep l op).items = (pStep l op).1 ∧ (iStep l op).ret = (pStep l op).2 := by
  obtain ⟨ev, he, _⟩ := iStep_spec l op hg
  rw [he]
  exact ⟨rfl, rfl⟩

/-- **instrumented_list_events_account_partial**: old contents + appended = new contents +
    removed (as multisets) for every operation — outside G5 (`*=`) and the regions excluded by
    `ContentsGuard` (`remove` of an absent item fires nothing: G1 is fixed). -/
theorem instrumented_list_events_account_partial (l : List Item) (op : LOp)
    (hg : EventsGuard l op) :
    Accounts l (iStep l op).events (iStep l op).items := by
  obtain ⟨ev, he, ha⟩ := iStep_spec l op hg.contents
  rw [he]
  exact ha hg

/-- `del l[slice]` for ANY start/stop/step: the events are one remove per item of `l[slice]`
    and those are exactly the items the deletion takes out (the positions of
    `range(*slice.indices(len))` are distinct and valid) -/
theorem delslice_events_are_the_slice (l : List Item) (s : Slice) :
    Accounts l (iDelSlice l s).events (iDelSlice l s).items ∧
    (∀ items l', pGetSlice l s = .ok items → pDelSlice l s = .ok l' →
      iDelSlice l s = ⟨l', items.map .rem, .none⟩) := by
  refine ⟨iDelSlice_accounts l s, ?_⟩
  intro items l' h1 h2
  unfold iDelSlice; rw [h1, h2]

def AllGuarded : List Item → List LOp → Prop
  | _, [] => True
  | l, op :: ops => ContentsGuard l op ∧ AllGuarded (pStep l op).1 ops

/-- **instrumented_list_sequence_refines_list_partial**: along any operation sequence whose steps
    stay inside the guard, the instrumented list and the builtin list go through the same
    states and produce the same return values / exceptions -/
theorem instrumented_list_sequence_refines_list_partial (ops : List LOp) : ∀ (l : List Item),
    AllGuarded l ops →
    (iRun l ops).map (fun r => (r.items, r.ret)) = pRun l ops := by
  induction ops with
  | nil => intro l _; rfl
  | cons op ops ih =>
    intro l hg
    obtain ⟨h1, h2⟩ := hg
    obtain ⟨hi, hr⟩ := instrumented_list_refines_list_partial l op h1
    simp only [iRun, pRun, List.map_cons]
    rw [hi, hr, ih _ h2]

/-- follows the instrumented list's own contents, where `AllGuarded` follows the builtin list's;
    inside `ContentsGuard` the two are equal -/
def AllEventsGuarded : List Item → List LOp → Prop
  | _, [] => True
  | l, op :: ops => EventsGuard l op ∧ AllEventsGuarded (iStep l op).items ops

def allEvents : List Res → List Event
  | [] => []
  | r :: rs => r.events ++ allEvents rs

def lastItems (l : List Item) (rs : List Res) : List Item :=
  match rs.getLast? with
  | some r => r.items
  | none => l

theorem lastItems_cons (l : List Item) (r : Res) (rs : List Res) :
    lastItems l (r :: rs) = lastItems r.items rs := by
  cases rs with
  | nil => rfl
  | cons h t =>
    unfold lastItems
    rw [List.getLast?_cons_cons, List.getLast?_eq_some_getLast (List.cons_ne_nil h t)]

/-- **instrumented_list_history_events_account_partial**: over a whole operation history the
    initial contents plus every item ever appended equal the final contents plus every item
    ever removed (multisets) -/
theorem instrumented_list_history_events_account_partial (ops : List LOp) : ∀ (l : List Item),
    AllEventsGuarded l ops →
    Accounts l (allEvents (iRun l ops)) (lastItems l (iRun l ops)) := by
  induction ops with
  | nil => intro l _; exact acc_refl l
  | cons op ops ih =>
    intro l hg
    obtain ⟨h1, h2⟩ := hg
    have a1 := instrumented_list_events_account_partial l op h1
    have a2 := ih (iStep l op).items h2
    simp only [iRun, allEvents]
    rw [lastItems_cons]
    exact acc_trans a1 a2

/-- sensitivity (G1, fixed): the unguarded `remove` of the code before the fix fires a remove
    event for an item that was never in the collection (`[0].remove(1)`) -/
theorem remove_unguarded_counterexample :
    ∃ (l : List Item) (x : Item), (iRemoveUnguarded l x).ret = .err .valueError ∧
      ¬ Accounts l (iRemoveUnguarded l x).events (iRemoveUnguarded l x).items := by
  exact ⟨[0], 1, by decide, fun h => absurd h.length_eq (by decide +kernel)⟩

/-- G3: `[0,1][0:2] = 5` — the builtin list is untouched, the instrumented one is emptied -/
theorem setslice_noniterable_counterexample :
    ∃ (l : List Item) (s : Slice), (pStep l (.setslice s ⟨.nonIter, []⟩)).1 = l ∧
      (iStep l (.setslice s ⟨.nonIter, []⟩)).items ≠ l := by
  exact ⟨[0, 1], ⟨some 0, some 2, none⟩, by decide, by decide⟩

/-- G4: `[0,1,2][::2] = iter([7,8])` works on a list, TypeError on the instrumented list -/
theorem extslice_iterator_counterexample :
    ∃ (l : List Item) (s : Slice) (v : Val), v.kind = .iter ∧
      (pStep l (.setslice s v)).2 = .none ∧ (iStep l (.setslice s v)).ret = .err .typeError := by
  exact ⟨[0, 1, 2], ⟨none, none, some 2⟩, ⟨.iter, [7, 8]⟩, rfl, by decide, by decide⟩

/-- the extended-slice loop as it was before the snapshot of `value is self` (commit 8c3507a,
    `instrumented-list-extended-slice-value-is-self`): the k-th item is read from the live list
    while it is being written -/
def extLoopSelfOld : List Int → Nat → List Item → List Event → Res
  | i :: is, k, l, ev =>
    match l[k]? with
    | none => ⟨l, ev, .none⟩
    | some x =>
      let r := iSetItem l i x
      match r.ret with
      | .err e => ⟨r.items, ev ++ r.events, .err e⟩
      | _ => extLoopSelfOld is (k + 1) r.items (ev ++ r.events)
  | [], _, l, ev => ⟨l, ev, .none⟩

/-- sensitivity (fixed): without the snapshot `l = [0,1]; l[::-1] = l` gives `[0,0]`
    where the list gives `[1,0]` -/
theorem extslice_self_unfixed_counterexample :
    (extLoopSelfOld (rangeList 1 (-1) (-1)) 0 [0, 1] []).items = [0, 0] ∧
      (pStep [0, 1] (.setslice ⟨none, none, some (-1)⟩ ⟨.self, []⟩)).1 = [1, 0] ∧
      (iStep [0, 1] (.setslice ⟨none, none, some (-1)⟩ ⟨.self, []⟩)).items = [1, 0] := by
  decide +kernel

/-- G5: `[0] *= 2` adds an item without any event -/
theorem imul_counterexample :
    ∃ (l : List Item) (n : Int), ¬ Accounts l (iStep l (.imul n)).events (iStep l (.imul n)).items := by
  exact ⟨[0], 2, fun h => absurd h.length_eq (by decide +kernel)⟩

/-- sensitivity: the slice normalisation that was in the code before the F5 fix
    (`start = index.start or 0; if start < 0: start += len`) leaves the valid range -/
def oldStart (len : Nat) (start : Option Int) : Int :=
  let s := start.getD 0
  if s < 0 then s + len else s

theorem old_normalisation_counterexample :
    ∃ (len : Nat) (start : Option Int), oldStart len start < 0 ∧
      ∀ stop step a b c, sliceIndices len ⟨start, stop, step⟩ = some (a, b, c) → 0 < c → 0 ≤ a := by
  refine ⟨5, some (-7), by decide, ?_⟩
  intro stop step a b c h hc
  exact ((sliceIndices_bounds h).2.1 hc).1

/-! non-vacuity of the guards, and the instrumented list on concrete inputs -/
example : ContentsGuard [0, 1, 2, 3, 4] (.setslice ⟨some (-7), some 2, none⟩ ⟨.sized, [9]⟩) := by
  simp [ContentsGuard, sliceIndices, adjust]
example : (iStep [0, 1, 2, 3, 4] (.setslice ⟨some (-7), some 2, none⟩ ⟨.sized, [9]⟩))
    = ⟨[9, 2, 3, 4], [.rem 0, .rem 1, .app 9], .none⟩ := by decide +kernel
example : (iStep [0, 1, 2, 3, 4] (.setslice ⟨none, none, some (-2)⟩ ⟨.sized, [7, 8, 9]⟩)).items
    = [9, 1, 8, 3, 7] := by decide +kernel
example : (iStep [0, 1, 2] (.setslice ⟨some 1, some 3, none⟩ ⟨.self, []⟩)).items
    = [0, 0, 1, 2] := by decide +kernel
example : AllGuarded [0, 1] [.append 2, .setslice ⟨some 5, some 1, none⟩ ⟨.iter, [3]⟩, .pop (-1)] := by
  refine ⟨trivial, ?_, trivial, trivial⟩
  simp [ContentsGuard, sliceIndices, adjust, pStep]
example : EventsGuard [0, 1] (.remove 7) := by simp [EventsGuard, ContentsGuard]

open SaVerif.PySeq.SetI

structure SetOk (s s' : List Item) (r : Res) : Prop where
  members : ∀ x, x ∈ r.items ↔ x ∈ s'
  nodup : r.items.Nodup
  noError : ∀ e, r.ret ≠ .err e
  exact : ExactEvents s r

theorem setOk_of_loop {s s' : List Item} {r : Res} {P : Item → Prop}
    (h : r.ret = .none ∧ Loop s r.items r.events ∧ ∀ x, x ∈ r.items ↔ P x) (hm : ∀ x, x ∈ s' ↔ P x) :
    SetOk s s' r :=
  ⟨fun x => (h.2.2 x).trans (hm x).symm, h.2.1.nodup, ne_err_of_none h.1, exact_of_loop h.2.1⟩

theorem addAll_ok {s s' : List Item} (hs : s.Nodup) (xs : List Item)
    (hm : ∀ x, x ∈ s' ↔ x ∈ s ∨ x ∈ xs) : SetOk s s' (each SetI.add xs s []) :=
  setOk_of_loop (each_add xs s s [] (loop_start hs) fun _ _ h => h) hm

theorem discardAll_ok {s s' : List Item} (hs : s.Nodup) (xs : List Item)
    (hm : ∀ x, x ∈ s' ↔ x ∈ s ∧ x ∉ xs) : SetOk s s' (each SetI.discard xs s []) :=
  setOk_of_loop (each_discard xs s s [] (loop_start hs) fun _ _ h => h) hm

theorem wantHave_ok {s : List Item} (hs : s.Nodup) (want : List Item) :
    SetOk s want (wantHave s want) :=
  setOk_of_loop (wantHave_loop want hs) fun _ => Iff.rfl

theorem set_discard_ok {s : List Item} (hs : s.Nodup) (x : Item) :
    SetOk s (s.erase x) (SetI.discard s x) :=
  setOk_of_loop ⟨discard_ret s x, loop_discard (loop_start hs) x id, fun _ => mem_discard_items hs⟩
    fun _ => hs.mem_erase_iff.trans And.comm

def Raised (s : List Item) (r : Res) : Prop := r.items = s ∧ r.events = [] ∧ ∃ e, r.ret = .err e

def SameSet (a b : List Item) : Prop := ∀ x, x ∈ a ↔ x ∈ b

theorem contains_congr {a b : List Item} (h : SameSet a b) (x : Item) : a.contains x = b.contains x := by
  rw [Bool.eq_iff_iff, List.contains_iff_mem, List.contains_iff_mem]; exact h x

theorem SetOk.congr {s a b : List Item} {r : Res} (h : SetOk s a r) (hab : SameSet a b) : SetOk s b r :=
  ⟨fun x => (h.members x).trans (hab x), h.nodup, h.noError, h.exact⟩

theorem SetOk.ret {s s' items : List Item} {ev : List Event} {r r' : Ret}
    (h : SetOk s s' ⟨items, ev, r⟩) (hr : ∀ e, r' ≠ .err e) : SetOk s s' ⟨items, ev, r'⟩ :=
  -- `noError` is the only field that reads `.ret`
  { members := h.members, nodup := h.nodup, noError := hr,
    exact := ⟨h.exact.appsNodup, h.exact.remsNodup, h.exact.appsIff, h.exact.remsIff⟩ }

/-- `r` is the result of an instrumented-set operation on `s`, `o` the outcome of the builtin
    operation on a set `t` with the same members -/
def SetSim (s t : List Item) (o : Option (List Item)) (r : Res) : Prop :=
  match o with
  | some t' => s.Nodup → t.Nodup → SetOk s t' r ∧ t'.Nodup
  | none => Raised s r

theorem SetSim.of_some {s t t' : List Item} {o : Option (List Item)} {r : Res} (h : SetSim s t o r)
    (ho : o = some t') (hs : s.Nodup) (ht : t.Nodup) : SetOk s t' r ∧ t'.Nodup := by
  subst ho; exact h hs ht

theorem SetSim.of_none {s t : List Item} {o : Option (List Item)} {r : Res} (h : SetSim s t o r)
    (ho : o = none) : Raised s r := by
  subst ho; exact h

theorem SetSim.raised {s t : List Item} {e : Err} : SetSim s t none ⟨s, [], .err e⟩ :=
  ⟨rfl, rfl, e, rfl⟩

theorem SetSim.ok {s t t' : List Item} {r : Res} (h : s.Nodup → t.Nodup → SetOk s t' r ∧ t'.Nodup) :
    SetSim s t (some t') r := h

/-- the shape of the four in-place updates -/
theorem inplace_sim {s t : List Item} {v : Val} {a b : List Item} {A B : Res} {o : Option (List Item)}
    (ho : o = match v.kind with | .nonIter => none | .self => some a | _ => some b)
    (hA : SetSim s t (some a) A) (hB : SetSim s t (some b) B) :
    SetSim s t o (match v.kind with | .nonIter => ⟨s, [], .err .typeError⟩ | .self => A | _ => B) := by
  subst ho
  cases v.kind with
  | nonIter => exact .raised
  | self => exact hA
  | sized | iter => exact hB

/-- one set operation, against the builtin set on any list `t` with the same members (`t := s` gives
    the refinement of one step, any `t` the induction over a history) -/
theorem sStep_sim {s t : List Item} (h : SameSet s t) (op : SOp) :
    SetSim s t (sPlain t op) (sStep s op) := by
  have hU : ∀ v, SetSim s t (sPlain t (.update v)) (SetI.update s v) := fun v =>
    inplace_sim (sPlain_update t v)
      (.ok fun hs ht => ⟨addAll_ok hs s fun x => by rw [← h x, or_self], ht⟩)
      (.ok fun hs ht => ⟨addAll_ok hs v.elems fun x => by rw [mem_sUnion, h x], nodup_sUnion ht _⟩)
  have hD : ∀ v, SetSim s t (sPlain t (.diffUpdate v)) (SetI.diffUpdate s v) := fun v =>
    inplace_sim (sPlain_diffUpdate t v)
      (.ok fun hs _ => ⟨discardAll_ok hs s (by simp), List.nodup_nil⟩)
      (.ok fun hs ht => ⟨discardAll_ok hs v.elems fun x => by rw [mem_sDiff, h x], ht.filter _⟩)
  have hI : ∀ v, SetSim s t (sPlain t (.interUpdate v)) (SetI.interUpdate s v) := fun v =>
    inplace_sim (sPlain_interUpdate t v)
      (.ok fun hs ht => ⟨(wantHave_ok hs s).congr h, ht⟩)
      (.ok fun hs ht => ⟨(wantHave_ok hs (sInter s v.elems)).congr fun x => by
        rw [mem_sInter, mem_sInter, h x], ht.filter _⟩)
  have hX : ∀ v, SetSim s t (sPlain t (.symDiffUpdate v)) (SetI.symDiffUpdate s v) := fun v =>
    inplace_sim (sPlain_symDiffUpdate t v)
      (.ok fun hs _ => ⟨wantHave_ok hs [], List.nodup_nil⟩)
      (.ok fun hs ht => ⟨(wantHave_ok hs (sSymDiff s v.elems)).congr fun x => by
        rw [mem_sSymDiff, mem_sSymDiff, h x], nodup_sSymDiff ht _⟩)
  have herase : ∀ x, SetSim s t (some (t.erase x)) (SetI.discard s x) := fun x => .ok fun hs ht =>
    ⟨(set_discard_ok hs x).congr fun y => by rw [hs.mem_erase_iff, ht.mem_erase_iff, h y], ht.erase x⟩
  have hrem : ∀ x, SetSim s t (sPlain t (.remove x)) (SetI.remove s x) := by
    intro x
    rw [sPlain_remove, ← contains_congr h x]
    by_cases hx : x ∈ s
    · rw [if_pos (List.contains_iff_mem.2 hx), remove_of_mem hx]
      exact herase x
    · rw [if_neg (mt List.contains_iff_mem.1 hx), remove_of_not_mem hx]
      exact .raised
  cases op with
  | add x =>
    exact .ok fun hs ht =>
      ⟨setOk_of_loop ⟨add_ret s x, loop_add (loop_start hs) x id, fun _ => mem_add_items⟩
        fun y => by rw [mem_sAdd, h y], nodup_sAdd ht⟩
  | discard x => exact herase x
  | remove x => exact hrem x
  | pop p =>
    dsimp only [sStep, SetI.pop]
    by_cases he : s.isEmpty = true
    · have : sPlain t (.pop p) = none := by
        cases p with
        | none => rfl
        | some x => rw [sPlain_pop, ← contains_congr h x, List.isEmpty_iff.1 he]; rfl
      rw [this, if_pos he]
      exact .raised
    · rw [if_neg he]
      cases p with
      | none => exact .raised
      | some x =>
        -- a present member: `discard` that also returns it
        rw [sPlain_pop, ← contains_congr h x]
        dsimp only
        by_cases hx : s.contains x = true
        · have d := herase x
          rw [discard_of_mem (List.contains_iff_mem.1 hx)] at d
          rw [if_pos hx, if_pos hx]
          exact .ok fun hs ht =>
            let ⟨ok, nd⟩ := d.of_some rfl hs ht
            ⟨ok.ret fun _ => Ret.noConfusion, nd⟩
        · rw [if_neg hx, if_neg hx]
          exact .raised
  | clear =>
    exact .ok fun hs _ =>
      ⟨setOk_of_loop (each_remove s s s [] (loop_start hs) hs fun _ hx => ⟨hx, hx⟩) (by simp), List.nodup_nil⟩
  | update v => exact hU v
  | diffUpdate v => exact hD v
  | interUpdate v => exact hI v
  | symDiffUpdate v => exact hX v
  | ior strict v =>
    -- with `strict` the operator is the method, on both sides, by evaluation
    cases strict with
    | false => exact .raised
    | true => exact hU v
  | isub strict v =>
    cases strict with
    | false => exact .raised
    | true => exact hD v
  | iand strict v =>
    cases strict with
    | false => exact .raised
    | true => exact hI v
  | ixor strict v =>
    cases strict with
    | false => exact .raised
    | true => exact hX v

/-- **instrumented_set_refines_set**: whenever the builtin set operation succeeds, the
    instrumented operation ends with exactly the same members, raises nothing, and fires
    exactly one append event per new member and one remove event per lost member (no event
    for members that stay) — for every operation, every argument (any iterable with
    duplicates, the set itself), every set size.  FULL theorem (no guard). -/
theorem instrumented_set_refines_set (s : List Item) (hs : s.Nodup) (op : SOp) (s' : List Item)
    (h : sPlain s op = some s') : SetOk s s' (sStep s op) :=
  ((sStep_sim (fun _ => Iff.rfl) op).of_some h hs hs).1

/-- when the builtin operation raises, the instrumented one raises too, having changed nothing and
    fired nothing (for dicts: `instrumented_dict_raises_like_dict`) -/
theorem instrumented_set_raises_like_set (s : List Item) (op : SOp) (h : sPlain s op = none) :
    (sStep s op).items = s ∧ (sStep s op).events = [] ∧ ∃ e, (sStep s op).ret = .err e :=
  (sStep_sim (fun _ => Iff.rfl) op).of_none h

example : (sStep [1, 2, 3] (.symDiffUpdate ⟨.sized, [3, 4, 4]⟩)) = ⟨[1, 2, 4], [.rem 3, .app 4], .none⟩ := by
  decide +kernel
example : sPlain [1, 2, 3] (.symDiffUpdate ⟨.sized, [3, 4, 4]⟩) = some [1, 2, 4] := by decide +kernel

def sPlainRun (s : List Item) : List SOp → List Item
  | [] => s
  | op :: ops => sPlainRun ((sPlain s op).getD s) ops

def sFinal (s : List Item) (ops : List SOp) : List Item := ops.foldl (fun s op => (sStep s op).items) s

/-- **instrumented_set_history_refines_set**: after ANY operation history the instrumented set
    has exactly the members of the builtin set driven by the same history -/
theorem instrumented_set_history_refines_set (ops : List SOp) : ∀ (s t : List Item),
    s.Nodup → t.Nodup → SameSet s t → SameSet (sFinal s ops) (sPlainRun t ops) := by
  induction ops with
  | nil => intro s t _ _ h; exact h
  | cons op ops ih =>
    intro s t hs ht h
    have hsim := sStep_sim h op
    show SameSet (sFinal (sStep s op).items ops) (sPlainRun ((sPlain t op).getD t) ops)
    cases hq : sPlain t op with
    | none =>
      rw [(hsim.of_none hq).1]
      exact ih s t hs ht h
    | some b =>
      obtain ⟨ok, hb⟩ := hsim.of_some hq hs ht
      exact ih _ _ ok.nodup hb ok.members

structure DictOk (d d' : Dict) (r : DRes) : Prop where
  items : r.items = d'
  noError : ∀ e, r.ret ≠ .err e
  acc : Accounts (dVals d) r.events (dVals d')
  wf : DWf d'

theorem dictOk_set {d : Dict} (hw : DWf d) (k : Key) (v : Item) {r : Ret} (hr : ∀ e, r ≠ .err e) :
    DictOk d (dSet d k v) ⟨(DictI.setitem d k v).items, (DictI.setitem d k v).events, r⟩ := by
  obtain ⟨w, hs, hn⟩ := dSet_wf_acc hw k v
  unfold DictI.setitem
  cases hg : dGet d k with
  | none => exact ⟨rfl, hr, hn hg, w⟩
  | some old => exact ⟨rfl, hr, hs old hg, w⟩

theorem dictOk_del {d : Dict} (hw : DWf d) {k : Key} {old : Item} (hg : dGet d k = some old)
    {r : Ret} (hr : ∀ e, r ≠ .err e) : DictOk d (dDel d k) ⟨dDel d k, [.rem old], r⟩ :=
  let ⟨hwf, hacc⟩ := dDel_wf_acc hw hg
  ⟨rfl, hr, hacc, hwf⟩

theorem dictOk_same {d : Dict} (hw : DWf d) {r : Ret} (hr : ∀ e, r ≠ .err e) :
    DictOk d d ⟨d, [], r⟩ :=
  ⟨rfl, hr, acc_refl _, hw⟩

theorem dict_update_ok {d : Dict} (hw : DWf d) (o : Dict) :
    DictOk d (dUpdate d o) (DictI.update d o) :=
  List.foldl_rel (r := fun r d' => DictOk d d' r) (dictOk_same hw fun _ => Ret.noConfusion)
    fun e _ r d' ok => by
      obtain rfl := ok.items
      split
      next hsame =>
        rw [dSet_same ok.wf (beq_iff_eq.1 hsame)]
        exact ok
      · have ok2 := dictOk_set ok.wf e.1 e.2 (r := .none) fun _ => Ret.noConfusion
        exact ⟨ok2.items, fun _ => Ret.noConfusion, acc_trans ok.acc ok2.acc, ok2.wf⟩

theorem dStep_spec (d : Dict) (op : DOp) :
    match dPlain d op with
    | some d' => DWf d → DictOk d d' (dStep d op)
    | none => (dStep d op).items = d ∧ (dStep d op).events = [] ∧ ∃ e, (dStep d op).ret = .err e := by
  have hv : ∀ {x : Item} (e : Err), Ret.val x ≠ .err e := fun _ => Ret.noConfusion
  have hn : ∀ (e : Err), Ret.none ≠ .err e := fun _ => Ret.noConfusion
  cases op with
  | setitem k v =>
    exact fun hw => dictOk_set hw k v (ne_err_of_none (DictI.setitem_ret d k v))
  | kset v =>
    exact fun hw => dictOk_set hw v v (ne_err_of_none (DictI.setitem_ret d v v))
  | update o => exact fun hw => dict_update_ok hw o
  | ior o => exact fun hw => dict_update_ok hw o
  | clear =>
    intro _
    refine ⟨rfl, hn, ?_, List.nodup_nil⟩
    have : d.map (fun e => Event.rem e.2) = (dVals d).map Event.rem := by
      unfold dVals; rw [List.map_map]; rfl
    show Accounts (dVals d) (d.map (fun e => Event.rem e.2)) []
    rw [this]
    exact acc_rems (List.Perm.refl _)
  | delitem k =>
    dsimp only [dPlain, dStep, DictI.delitem]
    rw [dHas_eq_isSome]
    cases hg : dGet d k with
    | none => exact ⟨rfl, rfl, _, rfl⟩
    | some old => exact fun hw => dictOk_del hw hg hn
  | pop k hd df =>
    dsimp only [dPlain, dStep, DictI.pop]
    rw [dHas_eq_isSome]
    cases hg : dGet d k with
    | some old => exact fun hw => dictOk_del hw hg hv
    | none =>
      cases hd with
      | false => exact ⟨rfl, rfl, _, rfl⟩
      | true => cases df <;> exact fun hw => dictOk_same hw (fun _ => Ret.noConfusion)
  | popitem =>
    dsimp only [dPlain, dStep, DictI.popitem]
    cases hl : d.getLast? with
    | none => exact ⟨rfl, rfl, _, rfl⟩
    | some kv =>
      obtain ⟨pre, hpre⟩ := List.getLast?_eq_some_iff.1 hl
      exact fun hw => dictOk_del hw (by rw [hpre]; exact dGet_last (hpre ▸ hw)) hv
  | setdefault k v =>
    dsimp only [dPlain, dStep, DictI.setdefault]
    rw [dHas_eq_isSome]
    cases hg : dGet d k with
    | none => exact fun hw => dictOk_set hw k v hv
    | some old => exact fun hw => dictOk_same hw hv
  | kremove v =>
    dsimp only [dPlain, dStep, DictI.kremove, DictI.delitem]
    cases hg : dGet d v with
    | none => exact ⟨rfl, rfl, _, rfl⟩
    | some cur =>
      dsimp only
      by_cases hc : (cur == v) = true
      · have hne : (cur != v) = false := by rw [bne, hc]; rfl
        rw [if_pos hc, hne, if_neg Bool.false_ne_true]
        exact fun hw => dictOk_del hw hg hn
      · have hne : (cur != v) = true := by rw [bne, Bool.eq_false_iff.2 hc]; rfl
        rw [if_neg hc, if_pos hne]
        exact ⟨rfl, rfl, _, rfl⟩

/-- **instrumented_dict_refines_dict**: whenever the builtin dict operation succeeds the
    instrumented dict ends with the same items in the same order, raises nothing, and its
    events account exactly for the values that entered and left — for `__setitem__`,
    `__delitem__`, `clear`, `pop`, `popitem`, `setdefault`, `update` (mapping / pairs /
    keywords), `|=`, `KeyFuncDict.set` and `.remove`, any dict size.  FULL theorem. -/
theorem instrumented_dict_refines_dict (d : Dict) (hw : DWf d) (op : DOp) (d' : Dict)
    (h : dPlain d op = some d') : DictOk d d' (dStep d op) := by
  have := dStep_spec d op
  rw [h] at this
  exact this hw

theorem instrumented_dict_raises_like_dict (d : Dict) (op : DOp) (h : dPlain d op = none) :
    (dStep d op).items = d ∧ (dStep d op).events = [] ∧ ∃ e, (dStep d op).ret = .err e := by
  have := dStep_spec d op
  rw [h] at this
  exact this

/-- the builtin dict along a history: an operation that raises leaves the dict unchanged -/
def dPlainRun (d : Dict) : List DOp → Dict
  | [] => d
  | op :: ops => dPlainRun ((dPlain d op).getD d) ops

def dFinal (d : Dict) (ops : List DOp) : Dict := ops.foldl (fun d op => (dStep d op).items) d

def dAllEvents (d : Dict) : List DOp → List Event
  | [] => []
  | op :: ops => (dStep d op).events ++ dAllEvents (dStep d op).items ops

/-- **instrumented_dict_history_refines_dict**: after ANY operation history the instrumented
    dict holds exactly the items (and key order) of the builtin dict driven by the same
    history, still one entry per key, and all events fired along the way account for the
    values that entered and left -/
theorem instrumented_dict_history_refines_dict (ops : List DOp) : ∀ (d : Dict), DWf d →
    dFinal d ops = dPlainRun d ops ∧ DWf (dFinal d ops) ∧
    Accounts (dVals d) (dAllEvents d ops) (dVals (dFinal d ops)) := by
  induction ops with
  | nil => intro d hw; exact ⟨rfl, hw, acc_refl _⟩
  | cons op ops ih =>
    intro d hw
    cases hp : dPlain d op with
    | none =>
      obtain ⟨h1, h2, _⟩ := instrumented_dict_raises_like_dict d op hp
      have := ih d hw
      simp only [dFinal, List.foldl_cons, dPlainRun, dAllEvents, hp, Option.getD_none, h1, h2,
        List.nil_append] at this ⊢
      exact this
    | some d' =>
      have ok := instrumented_dict_refines_dict d hw op d' hp
      obtain ⟨a, b, c⟩ := ih d' ok.wf
      simp only [dFinal, List.foldl_cons, dPlainRun, dAllEvents, hp, Option.getD_some, ok.items] at a b c ⊢
      refine ⟨a, b, ?_⟩
      exact acc_trans ok.acc c

/-- sensitivity (seeded C38-D): inferring "nothing removed" from `item is default` loses the
    remove event of `d.pop(k, d[k])` — the item leaves, no event accounts for it -/
theorem dict_pop_infers_from_default_counterexample :
    ∃ (d : Dict) (k : Key) (x : Item), DWf d ∧ dGet d k = some x ∧
      ¬ Accounts (dVals d) (DictI.popInfersFromDefault d k x).events
          (dVals (DictI.popInfersFromDefault d k x).items) ∧
      Accounts (dVals d) (DictI.pop d k true (some x)).events (dVals (DictI.pop d k true (some x)).items) := by
  refine ⟨[(1, 5)], 1, 5, by simp [DWf, dKeys], rfl,
    fun h => absurd h.length_eq (by decide +kernel), ?_⟩
  exact (instrumented_dict_refines_dict [(1, 5)] (by simp [DWf, dKeys]) (.pop 1 true (some 5)) [] rfl).acc

/-- sensitivity: the unwrapped `dict.__ior__` of the code before the G8 fix changes the
    contents without any event -/
theorem dict_ior_unwrapped_counterexample :
    ∃ (d o : Dict), DWf d ∧
      ¬ Accounts (dVals d) (DictI.iorUnwrapped d o).events (dVals (DictI.iorUnwrapped d o).items) := by
  exact ⟨[], [(1, 1)], by simp [DWf, dKeys], fun h => absurd h.length_eq (by decide +kernel)⟩

example : dStep [(1, 1), (2, 2)] (.update [(1, 5), (2, 2), (3, 3)])
    = ⟨[(1, 5), (2, 2), (3, 3)], [.rem 1, .app 5, .app 3], .none⟩ := by decide +kernel
example : DWf [(1, 1), (2, 2)] := by simp [DWf, dKeys]

end SaVerif.Props.C38
