import SaVerif.Lemmas.TxnInv
/-!
# C24 — Pooled connections carry no state from a previous checkout

Theorems about M-TXN (`SaVerif/Model/Txn.lean`): `Connection.close()` (with fix 387ee97),
`_ConnectionFairy._reset`, `_finalize_fairy`, `_ConnectionRecord.checkin / get_connection`,
garbage collection of an unclosed Connection, invalidation, the isolation-level
characteristic reset.
-/
namespace SaVerif.Props.C24
open SaVerif.Txn

theorem init_inv (rs : ResetStyle) (hrs : rs ≠ .none) (ls : Listener) (eo : List Bool) (rc : Option Nat) :
    Inv (Conn.connect (DB.init rs ls eo rc)) :=
  .intro (wfc_empty rfl rfl rfl) (poolInv_clean.connectRaw (db := DB.init rs ls eo rc)
    ⟨fun r hr => by simp [DB.init] at hr, ⟨hrs, rfl⟩, heldIso_clean rfl rfl⟩)

/-- **checkin_clean**: after EVERY operation sequence — any interleaving of begin,
    begin_nested, statements, commit, rollback, handle and context-manager operations,
    execution_options calls in any number and order (AUTOCOMMIT, READ UNCOMMITTED,
    logging_token, both in one call, unrelated options), engine-level options, explicit
    invalidation, armed DBAPI faults (error, disconnect or interrupt at cursor(), execute(), commit(),
    rollback(), also during the reset itself), close(), garbage collection without close(),
    new checkouts and extra pooled connections — every DBAPI connection idle in the pool has
    no transaction in progress, no savepoints, the default isolation level and no pending
    reset callbacks, provided reset_on_return is not disabled. -/
theorem checkin_clean (rs : ResetStyle) (hrs : rs ≠ .none) (ls : Listener) (eo : List Bool) (rc : Option Nat)
    (ops : List Op) : PoolClean ((Conn.connect (DB.init rs ls eo rc)).run ops).db :=
  (run_inv ops _ (init_inv rs hrs ls eo rc)).poolClean

/-- the same from any state satisfying the invariant (e.g. a pool that already holds
    connections) -/
theorem checkin_clean_from (c : Conn) (hi : Inv c) (ops : List Op) : PoolClean (c.run ops).db :=
  (run_inv ops c hi).poolClean

/-- **handed_out_clean**: whatever happened before, the pool hands to the next
    `engine.connect()` (the previous Connection being closed, garbage collected or simply
    dropped) a DBAPI connection that sees exactly the committed rows, has no savepoints, is
    not in AUTOCOMMIT / READ UNCOMMITTED and carries no reset callback of an earlier user;
    the new Connection is not in a transaction. -/
theorem handed_out_clean (rs : ResetStyle) (hrs : rs ≠ .none) (ls : Listener) (eo : List Bool) (rc : Option Nat)
    (ops : List Op) :
    let db := ((Conn.connect (DB.init rs ls eo rc)).run ops).gc.db
    db.checkout.raw.working = db.checkout.committed ∧ db.checkout.raw.saves = [] ∧
    db.checkout.raw.autocommit = false ∧ db.checkout.raw.readUnc = false ∧
    db.checkout.raw.finalize = [] ∧
    (((Conn.connect (DB.init rs ls eo rc)).run ops).step .connect).1.inTransaction = false := by
  have h1 := poolInv_clean.gc (run_inv ops _ (init_inv rs hrs ls eo rc)).dbInv
  obtain ⟨hwork, hsaves, hauto, hunc, hfin⟩ := checkout_held_clean _ h1.poolClean
  exact ⟨hwork, hsaves, hauto, hunc, hfin, rfl⟩

/-- a transparent reconnect after an invalidation also gets a clean connection — whenever
    it succeeds (the creator may fail: then nothing is handed out), and it does succeed when
    no fault is armed -/
theorem reconnect_clean (c : Conn) (hi : Inv c) (hinv : c.invalidated = true) (ht : c.transaction = none) :
    (c.revalidate.2 = .ok →
      c.revalidate.1.hasDbapi = true ∧
      c.revalidate.1.db.raw.working = c.revalidate.1.db.committed ∧ c.revalidate.1.db.raw.saves = [] ∧
      c.revalidate.1.db.raw.autocommit = false ∧ c.revalidate.1.db.raw.readUnc = false) ∧
    (c.revalidate.2 ≠ .ok → c.revalidate.1.hasDbapi = false) ∧
    (c.db.faults = [] → c.revalidate.2 = .ok) := by
  obtain ⟨hwork, hsaves, hauto, hunc, _⟩ := checkout_held_clean _ hi.poolClean
  refine revalidate_cases (P := fun x => (x.2 = .ok → x.1.hasDbapi = true ∧
      x.1.db.raw.working = x.1.db.committed ∧ x.1.db.raw.saves = [] ∧
      x.1.db.raw.autocommit = false ∧ x.1.db.raw.readUnc = false) ∧
      (x.2 ≠ .ok → x.1.hasDbapi = false) ∧ (c.db.faults = [] → x.2 = .ok)) c
    (fun hn => absurd ⟨hinv, ht⟩ hn)
    (fun _ _ _ => ⟨fun _ => ⟨rfl, hwork, hsaves, hauto, hunc⟩, fun h => absurd rfl h, fun _ => rfl⟩)
    (fun _ _ db k r hx hr => ⟨fun h => absurd h hr, fun _ => invalidated_hasDbapi hinv, fun hf => ?_⟩)
  rw [checkoutF_nofault hf] at hx
  cases hx

/-- `Connection.close()` as it was before fix 387ee97 (finding F7): `skip_reset = True` whenever a
    transaction object is attached, even an inactive one (after a failed COMMIT) -/
def closePreFix (c : Conn) : Conn × Res :=
  match c.transaction with
  | some t => andThen (c.tClose t) fun c => (c.release true, .ok)
  | none => (c.release false, .ok)

/-- INSERT; COMMIT fails with a non-disconnect error; close(): with the pre-fix close() the
    DBAPI connection goes back to the pool with the INSERT still pending … -/
theorem prefix_close_counterexample :
    let c := (Conn.connect (DB.init .rollback)).run [.exec (.ins 1), .arm .commit .err, .commit]
    ¬ PoolClean (closePreFix c).1.db := by
  intro c h
  -- the idle connection still has row 1 pending: `follows = false`
  have := h { rid := 0, born := 1, working := [1], saves := [], autocommit := false, follows := false,
              readUnc := false, finalize := [] }
    (by decide +kernel)
  simp at this

/-- … while the current close() leaves the pool clean on the same history (instance of
    `checkin_clean`, evaluated) -/
example :
    ((Conn.connect (DB.init .rollback)).run [.exec (.ins 1), .arm .commit .err, .commit, .close]).db.idle
      = [some (⟨0, 1, [], [], false, true, false, []⟩ : Raw)] := by
  decide +kernel

/-! ## the two-registration shape (sensitivity)

`logging_token` first, `isolation_level="AUTOCOMMIT"` second, on one checkout: both calls queue
their own reset callback, so the isolation level is reset at check-in.  If the second
registration were dropped (callback queued only when the queue is empty) the connection
would go back in AUTOCOMMIT — the evaluated example shows the model distinguishes the two. -/

example :
    (((Conn.connect (DB.init .rollback)).run [.logToken, .autocommit, .exec (.ins 1), .close]).db.idle.map
      (fun o => o.map (fun r => (r.autocommit, r.finalize)))) = [some (false, [])] := by decide +kernel
example :
    ((Conn.connect (DB.init .rollback)).run [.logToken, .autocommit]).db.raw.finalize = [false, true] := by
  decide +kernel

/-! ## a BaseException during reset-on-return

`checkin_clean` quantifies over all three fault kinds; this is the interrupt instance: INSERT,
then the DBAPI's rollback() raises KeyboardInterrupt while the pool resets the connection
(close(): the interrupt comes out of close(); GC: it is swallowed).  The record is
invalidated and comes back EMPTY; the next checkout opens a fresh DBAPI connection. -/

example :
    let c := (Conn.connect (DB.init .rollback)).run [.exec (.ins 1), .rollback, .exec (.ins 2),
                                                      .commit, .arm .rollback .kbi]
    (c.step .close).2 = .interrupted ∧ (c.step .close).1.db.idle = [none] ∧
    (c.step .gc).1.db.idle = [none] ∧
    (((c.step .close).1.step .connect).1.db.raw.rid, ((c.step .close).1.step .connect).1.db.raw.working)
      = (1, [2]) := by decide +kernel

/-! ## create_engine(skip_autocommit_rollback=True)

The theorems above are stated for engines without `skip_autocommit_rollback` (`DB.init`'s
default).  With the option the dialect skips `dbapi_connection.rollback()` — in
`Connection._rollback_impl` AND in the pool's reset-on-return — exactly when the DBAPI
connection ITSELF reports driver-level autocommit; nothing recorded on the Connection object
takes part in the decision. -/

/-- whatever options the Connection has recorded: on a DBAPI connection that is not in
    autocommit the ROLLBACK is emitted, with or without `skip_autocommit_rollback` -/
theorem rollback_not_skipped_when_transactional (c : Conn) (hd : c.hasDbapi = true)
    (ha : c.db.raw.autocommit = false) (hf : c.db.faults = []) :
    c.rollbackImpl = ({ c with db := c.db.rollback }, .ok) := by
  simp [Conn.rollbackImpl, hd, DB.skipsRollback, ha, dbapiCall_nofault _ _ _ hf]

/-- … and the pool's reset-on-return rolls such a connection back as well (unless the
    Connection has just done so): the record put back sees the committed rows -/
theorem reset_not_skipped_when_transactional (db : DB) (hr : db.reset = .rollback)
    (ha : db.raw.autocommit = false) (hf : db.faults = []) :
    (db.checkin false).raw.working = db.committed ∧ (db.checkin false).raw.saves = [] := by
  simp [DB.checkin, hr, DB.skipsRollback, ha, takeFault_nil _ _ hf, DB.rollback]

/-- **checkin_clean_skip_partial**: for EVERY engine configuration — with or without
    `skip_autocommit_rollback` — returning a connection leaves the pool clean PROVIDED that a
    DBAPI connection which is in driver-level autocommit has nothing pending (no transaction
    opened by SQL): that is the assumption under which skipping the ROLLBACK is sound.
    `skip_autocommit_savepoint_counterexample` below shows a reachable state in which it
    fails (known finding F24). -/
theorem checkin_clean_skip_partial (db : DB) (b : Bool) (hrs : db.reset ≠ .none)
    (hb : b = true → HeldClean db) (hauto : db.skipsRollback = true → HeldClean db)
    (hc : PoolClean db) (hi : HeldIso db) :
    PoolClean (db.checkin b) :=
  (checkin_keeps_clean db b hrs hauto hb hc hi).1

/-- with the option the invariant does NOT hold for every history: a SAVEPOINT opened while
    the DBAPI connection is in driver-level autocommit survives close() — the rollback is
    skipped by the dialect, and close() tells the pool that the transaction was reset (on
    SQLite the SAVEPOINT starts a transaction even in autocommit mode: the next user of the
    pooled connection inherits and may commit it; known finding F24
    `skip-autocommit-rollback:savepoint-open-at-close`, replayed on the real code) -/
theorem skip_autocommit_savepoint_counterexample :
    ¬ PoolClean ((Conn.connect (DB.init .rollback .none [] none true)).run
        [.autocommit, .beginNested, .exec (.ins 1), .close]).db := by
  intro h
  -- the idle connection still has the savepoint: `saves ≠ []`
  have := h { rid := 0, born := 1, working := [1], saves := [(1, [])], autocommit := false, follows := false,
              readUnc := false, finalize := [] } (by decide +kernel)
  simp at this
/-- without the option the same history is fine -/
example : ((Conn.connect (DB.init .rollback)).run
    [.autocommit, .beginNested, .exec (.ins 1), .close]).db.idle.map (fun o => o.map (·.saves)) = [some []] := by
  decide +kernel

/-- a history that leaves a transaction with a savepoint open and is garbage collected,
    then one that switches to AUTOCOMMIT and closes, then a failed ROLLBACK at close:
    three connections end up in / pass through the pool -/
def sampleOps : List Op :=
  [.exec (.ins 1), .beginNested, .exec (.ins 2), .gc, .connect, .autocommit, .exec (.ins 3), .close,
   .connect, .warm 2, .exec (.ins 4), .arm .rollback .err, .close, .connect, .exec .sel]

example : ((Conn.connect (DB.init .rollback)).run sampleOps).db.committed = [3] := by decide +kernel
example : ((Conn.connect (DB.init .rollback)).run sampleOps).db.raw.working = [3] := by decide +kernel
example : (((Conn.connect (DB.init .rollback)).run sampleOps).db.idle.length) = 2 := by decide +kernel
/-- with reset_on_return disabled the statement is false (the hypothesis `rs ≠ .none` is needed) -/
example : ¬ PoolClean ((Conn.connect (DB.init .none)).run [.exec (.ins 1), .gc]).db := by
  intro h
  have := h { rid := 0, born := 1, working := [1], saves := [], autocommit := false, follows := false,
              readUnc := false, finalize := [] }
    (by decide +kernel)
  simp at this

end SaVerif.Props.C24
