import SaVerif.Lemmas.Types
import SaVerif.Lemmas.Lookup
import SaVerif.Gen.SqliteFormats
/-!
# C09 — Column types round-trip values and apply processing exactly once

The SQLite storage format templates are *regenerated from the source*
(`Gen/SqliteFormats.lean`); `decide` ties them to the canonical ISO layouts for which the
round-trip lemmas are proved, so an edit of a `_storage_format` string in
`dialects/sqlite/base.py` re-runs the proof.
-/
namespace SaVerif.Props.C09
open SaVerif.Types SaVerif.Gen.SqliteFormats

/-- the ISO layout with date/time separator `sep` (`fromisoformat` takes ' ' and 'T') -/
def canonDateTime (sep : Char) : List Tok :=
  [.field .year 4, .lit '-', .field .month 2, .lit '-', .field .day 2, .lit sep, .field .hour 2,
   .lit ':', .field .minute 2, .lit ':', .field .second 2, .lit '.', .field .micro 6]
def canonDateTimeTrunc (sep : Char) : List Tok :=
  [.field .year 4, .lit '-', .field .month 2, .lit '-', .field .day 2, .lit sep, .field .hour 2,
   .lit ':', .field .minute 2, .lit ':', .field .second 2]
def canonDate : List Tok := [.field .year 4, .lit '-', .field .month 2, .lit '-', .field .day 2]
def canonTime : List Tok :=
  [.field .hour 2, .lit ':', .field .minute 2, .lit ':', .field .second 2, .lit '.', .field .micro 6]
def canonTimeTrunc : List Tok := [.field .hour 2, .lit ':', .field .minute 2, .lit ':', .field .second 2]

/-- the formats found in the source are the ISO layouts `fromisoformat` is modelled for -/
theorem source_formats_canonical :
    (datetimeFormat = canonDateTime ' ' ∨ datetimeFormat = canonDateTime 'T') ∧
    (datetimeTruncFormat = canonDateTimeTrunc ' ' ∨ datetimeTruncFormat = canonDateTimeTrunc 'T') ∧
    dateFormat = canonDate ∧ timeFormat = canonTime ∧ timeTruncFormat = canonTimeTrunc := by
  decide +kernel

/-- every value of `datetime.datetime` (years 1–9999, microseconds) -/
def validDT (d : DT) : Prop :=
  1 ≤ d.year ∧ d.year ≤ 9999 ∧ 1 ≤ d.month ∧ d.month ≤ 12 ∧ 1 ≤ d.day ∧ d.day ≤ 31 ∧
  d.hour < 24 ∧ d.minute < 60 ∧ d.second < 60 ∧ d.micro < 1000000

theorem isoDateTime_render (d : DT) (hv : validDT d) {sep : Char} (hsep : (sep == ' ' || sep == 'T') = true)
    {t : List Char} {us : Nat} (hus : us < 1000000)
    (ht : isoTimePart t = some (d.hour, d.minute, d.second, us)) :
    isoDateTime (padNat 4 d.year ++ '-' :: (padNat 2 d.month ++ '-' :: (padNat 2 d.day ++ sep :: t))) =
      some { d with micro := us } := by
  obtain ⟨hy1, hy, hm1, hm, hd1, hd, hh, hmi, hs, -⟩ := hv
  rw [isoDateTime, isoDatePart_render d.year d.month d.day (by omega) (by omega) (by omega)]
  simp [hsep, ht, validDate_of_bounds ⟨hy1, hy⟩ ⟨hm1, hm⟩ ⟨hd1, hd⟩, validTime_of_bounds hh hmi hs hus]

/-- for every valid datetime, parsing the string the bind processor stores gives the datetime back -/
theorem datetime_roundtrip (d : DT) (hv : validDT d) :
    isoDateTime (render datetimeFormat d) = some d := by
  have ⟨_, _, _, _, _, _, hh, hmi, hs, hus⟩ := hv
  have ht := isoTimePart_render d.hour d.minute d.second d.micro (Nat.lt_of_lt_of_le hh (by decide))
    (Nat.lt_of_lt_of_le hmi (by decide)) (Nat.lt_of_lt_of_le hs (by decide)) hus
  rcases source_formats_canonical.1 with h | h <;>
    simp only [h, canonDateTime, render_field, render_lit, render_nil, DT.get, List.append_nil] <;>
    exact isoDateTime_render d hv rfl hus ht

/-- `truncate_microseconds=True`: the round trip keeps everything but the microseconds -/
theorem datetime_trunc_roundtrip (d : DT) (hv : validDT d) :
    isoDateTime (render datetimeTruncFormat d) = some { d with micro := 0 } := by
  have ⟨_, _, _, _, _, _, hh, hmi, hs, _⟩ := hv
  have ht := isoTimePart_render_trunc d.hour d.minute d.second (Nat.lt_of_lt_of_le hh (by decide))
    (Nat.lt_of_lt_of_le hmi (by decide)) (Nat.lt_of_lt_of_le hs (by decide))
  rcases source_formats_canonical.2.1 with h | h <;>
    simp only [h, canonDateTimeTrunc, render_field, render_lit, render_nil, DT.get, List.append_nil] <;>
    exact isoDateTime_render d hv rfl (by decide) ht

theorem date_roundtrip (y m dd : Nat) (hy : 1 ≤ y ∧ y ≤ 9999) (hm : 1 ≤ m ∧ m ≤ 12) (hd : 1 ≤ dd ∧ dd ≤ 31) :
    isoDate (render dateFormat ⟨y, m, dd, 0, 0, 0, 0⟩) = some ⟨y, m, dd, 0, 0, 0, 0⟩ := by
  simp only [source_formats_canonical.2.2.1, canonDate, render_field, render_lit, render_nil, DT.get]
  rw [isoDate, isoDatePart_render y m dd (by omega) (by omega) (by omega)]
  simp [validDate_of_bounds hy hm hd]

theorem time_roundtrip (h mi s us : Nat) (hh : h < 24) (hmi : mi < 60) (hs : s < 60) (hus : us < 1000000) :
    isoTime (render timeFormat ⟨0, 0, 0, h, mi, s, us⟩) = some ⟨0, 0, 0, h, mi, s, us⟩ := by
  simp only [source_formats_canonical.2.2.2.1, canonTime, render_field, render_lit, render_nil, DT.get,
    List.append_nil]
  rw [isoTime, isoTimePart_render h mi s us (by omega) (by omega) (by omega) (by omega)]
  simp [validTime_of_bounds hh hmi hs hus]

/-! the extreme values -/
example : validDT ⟨9999, 12, 31, 23, 59, 59, 999999⟩ ∧ validDT ⟨1, 1, 1, 0, 0, 0, 0⟩ := by
  simp [validDT]
example : render (canonDateTime ' ') ⟨1, 1, 1, 0, 0, 0, 5⟩ = "0001-01-01 00:00:00.000005".toList := by
  -- the literal unifies with `String.ofList _`, so its characters are read off without evaluating `toList`
  rw [String.toList_ofList]
  decide +kernel

/-- fields at least one digit wide and separated by non-digit literals: then the `(\d+)` groups of
    the matching regexp are unambiguous -/
def regexOK : List Tok → Bool
  | [] => true
  | .lit _ :: ts => regexOK ts
  | .field _ w :: ts =>
    decide (1 ≤ w) && (match ts with
      | [] => true
      | .lit c :: _ => !isDigit c
      | .field _ _ :: _ => false) && regexOK ts

def fits (tmpl : List Tok) (d : DT) : Prop :=
  ∀ f w, Tok.field f w ∈ tmpl → d.get f < 10 ^ w

/-- what `type_(*map(int, groups))` receives: the rendered fields, in format order -/
def applyAll (tmpl : List Tok) (d : DT) (acc : DT) : DT :=
  tmpl.foldl (fun a t => match t with
    | .field f _ => a.set f (d.get f)
    | .lit _ => a) acc

theorem padNat_ne_nil (w n : Nat) (hw : 1 ≤ w) (h : n < 10 ^ w) : padNat w n ≠ [] := by
  rw [padNat_of_lt h, ne_eq, List.map_eq_nil_iff]
  exact fixedDigits_ne_nil n hw

/-- for *any* storage format whose fields are separated by
    non-digit literals, the regexp parse of the rendered string recovers every field.  `fits` (no value
    wider than its `%0wd`) is a limit of this proof, which knows `padNat` through `padNat_of_lt` only:
    Python prints a wider value in full and `(\d+)` reads it back -/
theorem custom_format_roundtrip :
    ∀ (tmpl : List Tok) (d acc : DT), regexOK tmpl = true → fits tmpl d →
      regexParse tmpl (render tmpl d) acc = some (applyAll tmpl d acc) := by
  intro tmpl
  induction tmpl with
  | nil => intro d acc _ _; rfl
  | cons t ts ih =>
    intro d acc hok hfit
    have hfit' : fits ts d := fun f w h => hfit f w (List.mem_cons_of_mem _ h)
    cases t with
    | lit c =>
      simp only [regexOK] at hok
      simp only [render_lit, regexParse, expect, beq_self_eq_true, if_true, applyAll, List.foldl_cons]
      exact ih d acc hok hfit'
    | field f w =>
      simp only [regexOK, Bool.and_eq_true, decide_eq_true_eq] at hok
      obtain ⟨⟨hw, hnext⟩, hrest⟩ := hok
      have hf : d.get f < 10 ^ w := hfit f w (by simp)
      have hhead : ∀ c, (render ts d).head? = some c → isDigit c = false := by
        intro c hc
        cases ts with
        | nil => cases hc
        | cons t2 ts2 =>
          cases t2 with
          | lit c2 =>
            simp only [render_lit, List.head?_cons, Option.some.injEq] at hc
            subst hc
            simpa using hnext
          | field _ _ => simp at hnext
      have htd := takeDigits_digits (fixedDigits w (d.get f)) (render ts d) (fixedDigits_lt _ _) hhead
      rw [render_field, padNat_of_lt hf, regexParse, htd]
      cases hfd : fixedDigits w (d.get f) with
      | nil => exact absurd hfd (fixedDigits_ne_nil _ hw)
      | cons x xs =>
        simp only
        rw [← hfd, digitsVal_fixedDigits w _ hf]
        simp only [applyAll, List.foldl_cons]
        exact ih d _ hrest hfit'

/-- the documented legacy format `%(month)02d/%(day)02d/%(year)04d` -/
example : regexOK [.field .month 2, .lit '/', .field .day 2, .lit '/', .field .year 4] = true := by decide +kernel

/-- a format without separators is *not* recoverable by `(\d+)(\d+)…` — the hypothesis matters -/
example : regexParse [.field .hour 2, .field .minute 2] (render [.field .hour 2, .field .minute 2] ⟨0,0,0,12,34,0,0⟩)
    ⟨0,0,0,0,0,0,0⟩ = none := by decide +kernel

/-- Interval is stored as `epoch + value` in a DATETIME column and read back as
    `value' - epoch`: it round-trips whenever the DATETIME does, for any datetime arithmetic in
    which subtraction undoes addition (Python's, trusted) — negative intervals included -/
theorem interval_roundtrip {D T : Type} (add : D → T → D) (sub : D → D → T) (store : D → D)
    (harith : ∀ e t, sub (add e t) e = t) (epoch : D) (t : T)
    (hstore : store (add epoch t) = add epoch t) :
    sub (store (add epoch t)) epoch = t := by
  rw [hstore, harith]

theorem boolean_roundtrip : ∀ b : Option Bool, intToBoolean (boolBind b) = b
  | none => rfl
  | some true => rfl
  | some false => rfl

/-- for any enum class (aliases allowed: several names may share an
    object), every member survives `_db_value_for_elem` then `_object_value_for_elem` -/
theorem enum_roundtrip (members : List (Nat × Nat)) (hn : (members.map (·.1)).Nodup)
    (m : Nat × Nat) (hm : m ∈ members) :
    ∃ name, validLookup members m.2 = some name ∧ objectLookup members name = some m.2 := by
  unfold validLookup objectLookup
  cases hf : members.find? (fun x => x.2 == m.2) with
  | none =>
    have := List.find?_eq_none.1 hf m hm
    simp at this
  | some m' =>
    have hm' : m' ∈ members := List.mem_of_find?_eq_some hf
    have hobj : m'.2 = m.2 := by simpa using List.find?_some hf
    refine ⟨m'.1, rfl, ?_⟩
    -- `objectLookup` searches the reversed list, where `m'` is still the only member with its name
    rw [Lookup.find?_only (List.mem_reverse.2 hm') fun b hb hp =>
      Lookup.eq_of_key_eq hn hm' (List.mem_reverse.1 hb) (eq_of_beq hp)]
    simp [hobj]

/-- aliases: `B` is an alias of `A` (same object 7); binding `B` stores "A", read back as the
    same object -/
example : validLookup [(1, 7), (2, 7), (3, 9)] 7 = some 1 ∧ objectLookup [(1, 7), (2, 7), (3, 9)] 2 = some 7 := by
  decide +kernel

/-- a nesting that hands the decorated type to the result map gets one result processor
    (`procCount` is 1 or 0 by its definition; that the type survives nesting is
    `nesting_preserves_type`) -/
theorem processor_applied_once (e : Nest) (h : e.typed = true) : e.procCount = 1 := by
  simp [Nest.procCount, h]

/-- labels, subqueries / CTEs, unions, scalar subqueries and RETURNING hand the type of their
    (first) element to the result map -/
theorem nesting_preserves_type (e : Nest) :
    (Nest.label e).typed = e.typed ∧ (Nest.subq e).typed = e.typed ∧
    (Nest.scalarSubq e).typed = e.typed ∧ (Nest.returning e).typed = e.typed ∧
    ∀ e2, (Nest.union e e2).typed = e.typed := by
  simp [Nest.typed]

example : (Nest.label (Nest.subq (Nest.union (Nest.label (Nest.col true)) (Nest.col false)))).procCount = 1 := by
  decide +kernel

/-- `label(name, expr, type_=T)` over an expression of another type: `T` is what every outer
    nesting level sees (`Label._make_proxy` copies the label's type onto the proxy column) -/
example : (Nest.subq (Nest.subq (Nest.labelT true (Nest.col false)))).procCount = 1 := by decide +kernel

theorem lookup_range_map (esc p j : Nat) : ∀ (n k : Nat), k ≤ j → j < k + n →
    ((List.range' k n).map (fun i => ((esc, i + 1), p))).lookup (esc, j + 1) = some p := by
  intro n
  induction n with
  | zero => intro k h1 h2; omega
  | succ n ih =>
    intro k h1 h2
    rw [List.range'_succ, List.map_cons, List.lookup_cons]
    by_cases hk : j = k
    · simp [hk]
    · have hne : ((esc, j + 1) == (esc, k + 1)) = false := by simpa using hk
      rw [hne]
      exact ih (k + 1) (by omega) (by omega)

/-- whatever the DBAPI-safe (escaped) name of an expanding bind
    is, every one of its `n` expanded elements carries the bind processor registered for the
    bind — IN lists are bind-processed element by element, for every column name -/
theorem expanded_elements_processed (procs : List (Nat × Nat)) (name esc n p : Nat)
    (h : procs.lookup name = some p) :
    ∀ j, j < n → (expandBind procs name esc n).lookup (esc, j + 1) = some p := by
  intro j hj
  simp only [expandBind, h, List.range_eq_range']
  exact lookup_range_map esc p j n 0 (Nat.zero_le j) (by omega)

/-- no processor for the bind ⇒ none for its elements (types without bind processing) -/
theorem expanded_elements_unprocessed (procs : List (Nat × Nat)) (name esc n : Nat)
    (h : procs.lookup name = none) : expandBind procs name esc n = [] := by
  simp [expandBind, h]

example : (expandBind [(1, 7), (3, 9)] 1 2 3).lookup (2, 3) = some 7 := by decide +kernel

/-- element `j` of tuple `i` of an expanding tuple bind
    carries the processor of the `j`-th column type under the key built from the *escaped* name —
    the name the element has in the SQL — for every escaped name -/
theorem expanded_tuple_elements_processed (tprocs : List (Nat × List (Option Nat))) (name esc n : Nat)
    (ps : List (Option Nat)) (h : tprocs.lookup name = some ps) (i j p : Nat) (hi : i < n)
    (hj : ps[j]? = some (some p)) :
    ((esc, i + 1, j + 1), p) ∈ expandTupleBind tprocs name esc n := by
  simp only [expandTupleBind, h, List.mem_flatMap, List.mem_range, List.mem_filterMap]
  have hjl : j < ps.length := by
    rcases Nat.lt_or_ge j ps.length with h1 | h1
    · exact h1
    · rw [List.getElem?_eq_none h1] at hj; cases hj
  refine ⟨i, hi, j, hjl, ?_⟩
  simp [List.getD, hj]

example : (expandTupleBind [(1, [none, some 7])] 1 2 2).lookup (2, 2, 2) = some 7 ∧
    (expandTupleBind [(1, [none, some 7])] 1 2 2).lookup (2, 1, 1) = none := by decide +kernel

/-- for a primary-key type whose result processing undoes its
    bind processing, the key an INSERT reports on a lastrowid backend equals what a SELECT of
    that row returns — for an explicit key (stored as `bind v`) and for a generated one -/
theorem inserted_pk_matches_select (bind proc : Int → Int) (hrt : ∀ v, proc (bind v) = v)
    (explicitParam : Option Int) (generated : Int) :
    let stored := match explicitParam with
      | some v => bind v
      | none => generated
    insertedPk proc explicitParam stored = proc stored := by
  cases explicitParam with
  | some v => simp [insertedPk, hrt]
  | none => simp [insertedPk]

example : insertedPk (· + 1000) (some 1010) 10 = 1010 ∧ insertedPk (· + 1000) none 11 = 1011 := by decide +kernel

end SaVerif.Props.C09
