import SaVerif.Lemmas.Imv
import SaVerif.Gen.ImvFlags
/-!
# C12 — Bulk INSERT with RETURNING returns one row per parameter set, in order

Property theorems about M-IMV (`SaVerif/Model/Imv.lean`, transcription of
`SQLCompiler._deliver_insertmanyvalues_batches` and
`DefaultDialect._deliver_insertmanyvalues_batches`).

The database / DBAPI cursor is an adversary: `answer b` is *any* list of rows that
is a permutation of the rows the batch really inserted.  Theorems quantify over
every parameter list, every positive batch size, every mode and every such
adversary.
-/
namespace SaVerif.Props.C12
open SaVerif.Imv

/-- **downgrade_when_unsortable**: whenever ordered RETURNING is requested and there is
    no usable sentinel (none found, or an upsert without the VALUES counter), the
    row-at-a-time mode is chosen — batched mode is never used when the result could
    not be re-ordered. -/
theorem downgrade_when_unsortable (f : Flags)
    (hsort : f.sortByParameterOrder = true) (hres : f.hasResultColumns = true)
    (hno : f.hasSentinelColumns = false ∨ (f.includesUpsert = true ∧ f.embedValuesCounter = false)) :
    ∃ d, chooseMode f = .rowAtATime d := by
  cases h : chooseMode f with
  | rowAtATime d => exact ⟨d, rfl⟩
  | batched =>
    have := ((chooseMode_eq_batched f).1 h).2.1
    rcases hno with h | ⟨h1, h2⟩ <;> simp_all

/-- contrapositive form: batched + ordered ⇒ a sentinel exists, and with upsert behaviours
    the VALUES counter is embedded -/
theorem batched_only_if_sortable (f : Flags) (h : chooseMode f = .batched)
    (hsort : f.sortByParameterOrder = true) (hres : f.hasResultColumns = true) :
    f.hasSentinelColumns = true ∧ f.supportsMultivaluesInsert = true ∧
    (f.includesUpsert = true → f.embedValuesCounter = true) := by
  have := ((chooseMode_eq_batched f).1 h).2.1
  simp only [hsort, hres, Bool.true_and, Bool.or_eq_false_iff, Bool.not_eq_false',
    Bool.and_eq_false_imp] at this
  obtain ⟨hmulti, hsent, hups⟩ := this
  exact ⟨hsent, hmulti, hups⟩

/-- parametrised binds in an upsert SET clause with RETURNING are never batched
    without the VALUES counter (issue 13130) -/
theorem upsert_bound_never_batched (f : Flags) (h : f.hasUpsertBound = true)
    (hres : f.hasResultColumns = true) (hc : f.embedValuesCounter = false) :
    chooseMode f ≠ .batched := by
  intro hb
  have := ((chooseMode_eq_batched f).1 hb).2.2
  simp [h, hres, hc] at this

/-- only the "DEFAULT VALUES without DEFAULT metavalue" case is row-at-a-time without
    being flagged as downgraded (so its one-row batches still go through the sentinel
    match) -/
theorem not_downgraded_row_mode (f : Flags) (h : chooseMode f = .rowAtATime false) :
    f.isDefaultExpr = true ∧ f.supportsDefaultMetavalue = false := by
  simpa using (chooseMode_eq_rowAtATime_false f).1 h

theorem no_multivalues_never_batched (f : Flags) (h : f.supportsMultivaluesInsert = false) :
    chooseMode f ≠ .batched := by
  intro hb
  have := ((chooseMode_eq_batched f).1 hb).2.1
  simp [h] at this

def allDefChars : List DefChar :=
  [.none, .unknown, .clientside, .sentinelDefault, .serverside, .identity, .sequence,
   .monotonicFunction]

theorem mem_allDefChars (c : DefChar) : c ∈ allDefChars := by cases c <;> decide +kernel

/-- **server_generated_sentinel_is_implicit** (over the tables regenerated from the
    source): whenever `_get_sentinel_column_for_table` hands out a sentinel whose value
    the server generates, the dialect's `insertmanyvalues_implicit_sentinel` has an
    autoincrement capability bit, so `visit_insert` marks it `implicit_sentinel` and the
    rows are sorted on it — there is no dialect/column kind for which an unsortable
    server-side sentinel is selected and the statement batched anyway. -/
theorem server_generated_sentinel_is_implicit :
    ∀ d ∈ Gen.ImvFlags.dialects, ∀ (a e : Bool), ∀ c ∈ allDefChars,
      sentinelForTable Gen.ImvFlags.tables d.implicitSentinel a e c = some true →
      serverGenerated a c = true →
      d.implicitSentinel &&& Gen.ImvFlags.anyAutoincrement ≠ 0 := by decide +kernel

/-- a server-side (non monotonic) default is never usable as sentinel on any dialect -/
theorem serverside_default_never_sentinel :
    ∀ d ∈ Gen.ImvFlags.dialects, ∀ (a e : Bool),
      sentinelForTable Gen.ImvFlags.tables d.implicitSentinel a e .serverside ≠ some true := by
  decide +kernel

/-- client-side sentinel kinds are usable on every dialect that uses insertmanyvalues -/
theorem clientside_sentinel_always_usable :
    ∀ d ∈ Gen.ImvFlags.dialects, ∀ (a e : Bool), ∀ c ∈ [DefChar.clientside, .sentinelDefault],
      sentinelForTable Gen.ImvFlags.tables d.implicitSentinel a e c = some true := by decide +kernel

/-- the default page size of every dialect is positive (so `lenparams // batch_size`
    cannot divide by zero unless the user asks for page size 0) and, where a parameter
    limit exists, it leaves room for at least 100 binds -/
theorem dialect_page_sizes_positive :
    ∀ d ∈ Gen.ImvFlags.dialects, 0 < d.pageSize ∧ (d.maxParameters = 0 ∨ 100 ≤ d.maxParameters) := by
  decide +kernel

/-- **sort_flag_monotone**: a later `returning()` / `return_defaults()` call that does not
    repeat `sort_by_parameter_order=True` never resets the flag: it is the OR over the chain. -/
theorem sort_flag_monotone (chain more : List Bool) (h : sortFlagAfter chain = true) :
    sortFlagAfter (chain ++ more) = true := by
  rw [sortFlagAfter_eq_any] at h ⊢
  rw [List.any_append, h]
  rfl

/-- **batches_partition_params** (1): concatenating the batches gives back the
    parameter list — every parameter set is sent exactly once, in order. -/
theorem batches_partition_params {α : Type} (mode : Mode) (bs : Nat) (ps : List α)
    (bl : List (Batch α)) (h : deliver mode bs ps = some bl) :
    (bl.map (·.params)).flatten = ps := by
  cases mode with
  | rowAtATime d =>
    cases h
    exact mkRows_params _ _ _ _
  | batched =>
    obtain ⟨hpos, rfl⟩ := deliver_batched h
    rw [mkBatches_params]
    exact chunk_flatten hpos ps

/-- **batches_partition_params** (2): no batch is empty, none exceeds the batch size,
    `current_batch_size` is the real size, `total_batches` is the real count. -/
theorem batches_bounded {α : Type} (bs : Nat) (ps : List α)
    (bl : List (Batch α)) (h : deliver .batched bs ps = some bl) :
    bl.length = totalBatches ps.length bs ∧
    ∀ b ∈ bl, b.params ≠ [] ∧ b.params.length ≤ bs ∧ b.current = b.params.length ∧
      b.total = bl.length ∧ b.downgraded = false := by
  obtain ⟨hpos, rfl⟩ := deliver_batched h
  have hlen := (mkBatches_length bs (totalBatches ps.length bs) 1 (chunk bs ps)).trans
    (chunkAux_length bs hpos _ _ (Nat.le_refl _))
  refine ⟨hlen, fun b hb => ?_⟩
  obtain ⟨htotal, hdown, hmem, hcur⟩ := mkBatches_mem _ _ _ _ _ hb
  obtain ⟨hne, hle⟩ := chunkAux_mem bs hpos _ _ _ hmem
  exact ⟨hne, hle, hcur (chunkAux_dropLast_full bs _ _), htotal.trans hlen.symm, hdown⟩

theorem batch_numbers {α : Type} (bs : Nat) (ps : List α)
    (bl : List (Batch α)) (h : deliver .batched bs ps = some bl) :
    bl.map (·.num) = (List.range bl.length).map (· + 1) := by
  obtain ⟨_, rfl⟩ := deliver_batched h
  rw [mkBatches_nums, mkBatches_length, List.range'_eq_map_range]
  exact List.map_congr_left fun x _ => Nat.add_comm 1 x

theorem rows_one_each {α : Type} (d : Bool) (bs : Nat) (ps : List α)
    (bl : List (Batch α)) (h : deliver (.rowAtATime d) bs ps = some bl) :
    bl.length = ps.length ∧
    ∀ b ∈ bl, b.current = 1 ∧ b.total = ps.length ∧ b.downgraded = d ∧ ∃ p ∈ ps, b.params = [p] := by
  cases h
  refine ⟨mkRows_length _ _ _ _, fun b hb => ?_⟩
  obtain ⟨htotal, hdown, hcur, p, hp, hparams⟩ := mkRows_mem _ _ _ _ _ hb
  exact ⟨hcur, htotal, hdown, p, hp, hparams⟩

/-- the `insertmanyvalues_max_parameters` shrink keeps every statement within the
    limit: outside-of-VALUES binds plus `per_batch` binds per row never exceed it. -/
theorem batch_size_respects_max_params (batchSize : Int) (maxParams totalBinds perBatch : Nat)
    (k : Int) (h : effBatchSize batchSize maxParams totalBinds perBatch = some k)
    (hmax : 0 < maxParams) :
    ((totalBinds : Int) - perBatch) + (perBatch : Int) * k ≤ maxParams := by
  unfold effBatchSize at h
  rw [if_neg (by simpa using Nat.ne_of_gt hmax)] at h
  split at h
  · cases h
  · rename_i hp
    have hpi : (0 : Int) < (perBatch : Int) := by
      have : perBatch ≠ 0 := by simpa using hp
      omega
    cases h
    -- floor division: `q * perBatch ≤ maxParams - outside`, and `k ≤ q`
    have hq := Int.ediv_mul_le ((maxParams : Int) - ((totalBinds : Int) - perBatch))
      (Int.ne_of_gt hpi)
    rw [← Int.fdiv_eq_ediv_of_nonneg _ (Int.le_of_lt hpi)] at hq
    have := Int.mul_le_mul_of_nonneg_right (Int.min_le_right batchSize
      (Int.fdiv ((maxParams : Int) - ((totalBinds : Int) - perBatch)) perBatch)) (Int.le_of_lt hpi)
    rw [Int.mul_comm]
    omega

/-- **positional_group_is_param_set**: in the flattened parameter sequence of a batch
    the k-th group of VALUES parameters is exactly the VALUES slice of the k-th
    parameter set (no shift, no mixing between rows), for every batch length.  `hfull`: the
    code's fast path `if num_ins_params == len(batch[0])` flattens whole parameter sets, which
    are the VALUES slices only if every bind is a VALUES bind. -/
theorem positional_group_is_param_set {β : Type} (numIns lo hi L : Nat) (batch : List (List β))
    (hL : ∀ p ∈ batch, p.length = L) (hlo : lo ≤ hi) (hhi : hi ≤ L)
    (hfull : numIns = L → lo = 0 ∧ hi = L)
    (k : Nat) (hk : k < batch.length) :
    slice (lo + k * (hi - lo)) (lo + (k + 1) * (hi - lo)) (replacedPositional numIns lo hi batch)
      = slice lo hi batch[k] := by
  cases batch with
  | nil => cases hk
  | cons b0 rest =>
    have hb0 : b0.length = L := hL b0 List.mem_cons_self
    unfold replacedPositional
    dsimp only
    split
    · rename_i heq
      obtain ⟨rfl, rfl⟩ := hfull (hb0 ▸ eq_of_beq heq)
      rw [Nat.zero_add, Nat.zero_add, Nat.sub_zero, slice_flatten_uniform hi _ hL k hk, slice,
        List.drop_zero, List.take_of_length_le (Nat.le_of_eq (hL _ (List.getElem_mem hk)))]
    · -- left extras ++ groups ++ right extras
      have hw : ∀ l ∈ (b0 :: rest).map (slice lo hi), l.length = hi - lo := by
        intro l hl
        obtain ⟨p, hp, rfl⟩ := List.mem_map.1 hl
        rw [slice, List.length_drop, List.length_take, hL p hp, Nat.min_eq_left hhi]
      have hleft : (b0.take lo).length = lo := by
        rw [List.length_take, hb0, Nat.min_eq_left (Nat.le_trans hlo hhi)]
      have hk' : k < ((b0 :: rest).map (slice lo hi)).length := by rwa [List.length_map]
      rw [List.append_assoc, slice_append_right hleft, slice_append_left,
        slice_flatten_uniform _ _ hw k hk', List.getElem_map]
      rw [length_flatten_uniform _ _ hw]
      exact Nat.mul_le_mul_right _ hk'

/-- numeric paramstyles: the j-th placeholder of the k-th VALUES group is numbered with
    the (1-based) position of that group's j-th value in the flattened parameters -/
theorem numeric_position (numIns lo current k j : Nat) (hk : k < current) (hj : j < numIns) :
    (numericPositions numIns lo current)[k * numIns + j]? = some (lo + k * numIns + j + 1) := by
  unfold numericPositions
  have hlt : k * numIns + j < numIns * current := by
    calc k * numIns + j < k * numIns + numIns := by omega
      _ = (k + 1) * numIns := by rw [Nat.succ_mul]
      _ ≤ current * numIns := Nat.mul_le_mul_right _ hk
      _ = numIns * current := Nat.mul_comm _ _
  simp only [List.getElem?_map, List.getElem?_range hlt, Option.map_some]
  congr 1; omega

/-- **implicit_sentinel_sorted**: if the backend assigned increasing keys in VALUES
    order, then whatever order the rows come back in, the sort restores them. -/
theorem implicit_sentinel_sorted {ρ : Type} (key : ρ → Int) (inserted returned : List ρ)
    (hperm : returned.Perm inserted)
    (hinc : inserted.Pairwise (fun a b => key a < key b)) :
    sortImplicit key returned = inserted := by
  have hs : (sortImplicit key returned).Pairwise (fun a b => decide (key a ≤ key b) = true) :=
    List.pairwise_mergeSort
      (by intro a b c h1 h2; simp only [decide_eq_true_eq] at *; omega)
      (by intro a b; simp only [Bool.or_eq_true, decide_eq_true_eq]; omega) returned
  have hp : (sortImplicit key returned).Perm inserted :=
    (List.mergeSort_perm returned _).trans hperm
  -- two rows with the same key are the same row
  have htri := List.Pairwise.forall_of_forall_of_flip
    (R := fun a b => a = b ∨ key a < key b ∨ key b < key a) (fun _ _ => .inl rfl)
    (hinc.imp fun h => .inr (.inl h)) (hinc.imp fun h => .inr (.inr h))
  refine List.Perm.eq_of_pairwise (fun a b ha hb h1 h2 => ?_) hs
    (hinc.imp fun h => decide_eq_true (Int.le_of_lt h)) hp
  rw [decide_eq_true_eq] at h1 h2
  rcases htri (hp.subset ha) hb with h | h | h
  · exact h
  · omega
  · omega

/-- soundness of the explicit sentinel match, with **no** assumption on the backend:
    if it does not raise, the n-th delivered row is a returned row carrying the n-th
    parameter set's sentinel value.  (It can never silently pair a row with a
    parameter set whose sentinel differs.) -/
theorem sentinel_sort_sound {κ ρ : Type} [BEq κ] [LawfulBEq κ] (key : ρ → κ) (n : Nat)
    (sentinels : List κ) (returned out : List ρ)
    (h : sortExplicit key n sentinels returned = .ok out) :
    out.map key = sentinels ∧ ∀ r ∈ out, r ∈ returned := by
  by_cases hl : (dictOf key returned).length = n
  · rw [sortExplicit_of_length_eq hl] at h
    refine mapM_ok_map (fun s r hs => ?_) _ _ h
    split at hs
    · rename_i r' hr
      cases hs
      have hm := dictOf_mem key returned _ (lookup_mem hr)
      exact ⟨hm.2.symm, hm.1⟩
    · cases hs
  · rw [sortExplicit_of_length_ne hl] at h
    cases h

/-- **sentinel_sort_restores_order**: with distinct sentinel values, for *every*
    permutation in which the backend returns the batch's rows, the delivered rows are
    the inserted rows in parameter order (and nothing is raised). -/
theorem sentinel_sort_restores_order {κ ρ : Type} [BEq κ] [LawfulBEq κ] (key : ρ → κ)
    (sentinels : List κ) (inserted returned : List ρ)
    (hperm : returned.Perm inserted)
    (hkeys : inserted.map key = sentinels)
    (hdistinct : sentinels.Nodup) :
    sortExplicit key sentinels.length sentinels returned = .ok inserted := by
  have hp : (returned.map key).Perm sentinels := hkeys ▸ hperm.map key
  have hn : (returned.map key).Nodup := hp.nodup_iff.2 hdistinct
  have hlen : returned.length = sentinels.length := by rw [← hp.length_eq, List.length_map]
  rw [sortExplicit_of_length_eq (by rw [dictOf_nodup key returned hn, List.length_map, hlen]),
    dictOf_nodup key returned hn, ← hkeys]
  refine mapM_ok_of_forall _ _ _ fun r hr => ?_
  rw [lookup_of_mem (by rwa [List.map_map])
    (List.mem_map_of_mem (f := fun r => (key r, r)) (hperm.symm.subset hr))]

/-- **dup_sentinel_raises**: if two parameter sets of a batch carry the same sentinel value
    then — whatever order the (honest) backend returns the rows in — the match refuses
    with the row-count error instead of pairing rows arbitrarily. -/
theorem dup_sentinel_raises {κ ρ : Type} [BEq κ] [LawfulBEq κ] (key : ρ → κ)
    (sentinels : List κ) (inserted returned : List ρ)
    (hperm : returned.Perm inserted)
    (hkeys : inserted.map key = sentinels)
    (hdup : ¬ sentinels.Nodup) :
    sortExplicit key sentinels.length sentinels returned = .error .rowcount := by
  have hp : (returned.map key).Perm sentinels := hkeys ▸ hperm.map key
  have hne : (dictOf key returned).length ≠ sentinels.length := fun heq =>
    hdup (hp.nodup_iff.1 (dictOf_length_eq_imp_nodup key returned
      (by rw [heq, ← hp.length_eq, List.length_map])))
  exact sortExplicit_of_length_ne hne

section pipeline
variable {α κ ρ : Type} [BEq κ] {mode : Mode} {bs : Nat} {ps : List α} {bl : List (Batch α)}
  {style : Style} {ikey : ρ → Int} {ekey : ρ → κ} {sentinelOf : α → κ}
  {answer : Batch α → List ρ} {mk : α → ρ}

theorem runBatches_deliver (hdel : deliver mode bs ps = some bl)
    (h : ∀ b ∈ bl, sortBatch style ikey ekey b sentinelOf (answer b) = .ok (b.params.map mk)) :
    runBatches style ikey ekey sentinelOf answer bl = .ok (ps.map mk) := by
  rw [← batches_partition_params mode bs ps bl hdel, List.map_flatten, List.map_map]
  exact runBatches_ok _ bl h

theorem batch_params_sublist (hdel : deliver mode bs ps = some bl) {b : Batch α} (hb : b ∈ bl) :
    b.params.Sublist ps :=
  batches_partition_params mode bs ps bl hdel ▸
    List.sublist_flatten_of_mem (List.mem_map_of_mem hb)

/-- a downgraded batch is delivered unsorted; it holds a single parameter set, so its rows
    cannot come back re-ordered -/
theorem sortBatch_downgraded (hdel : deliver mode bs ps = some bl) {b : Batch α} (hb : b ∈ bl)
    (hd : b.downgraded = true) {rows : List ρ} (hadv : rows.Perm (b.params.map mk)) :
    sortBatch style ikey ekey b sentinelOf rows = .ok (b.params.map mk) := by
  rw [sortBatch_of_downgraded hd]
  cases mode with
  | batched =>
    obtain ⟨-, -, -, -, hnd⟩ := (batches_bounded bs ps bl hdel).2 b hb
    cases hd.symm.trans hnd
  | rowAtATime d =>
    obtain ⟨_, _, _, p, _, hp⟩ := (rows_one_each d bs ps bl hdel).2 b hb
    rw [hp] at hadv ⊢
    exact congrArg _ (List.perm_singleton.1 hadv)

end pipeline

/-- **imv_explicit_in_param_order**: client-side sentinel values that are pairwise
    distinct ⇒ for every batch size, every mode and every per-batch permutation chosen
    by the backend, the result is exactly one row per parameter set, in parameter
    order. -/
theorem imv_explicit_in_param_order {α κ ρ : Type} [BEq κ] [LawfulBEq κ]
    (mode : Mode) (bs : Nat) (ps : List α) (bl : List (Batch α))
    (mk : α → ρ) (ikey : ρ → Int) (ekey : ρ → κ) (sentinelOf : α → κ)
    (answer : Batch α → List ρ)
    (hdel : deliver mode bs ps = some bl)
    (hadv : ∀ b ∈ bl, (answer b).Perm (b.params.map mk))
    (hkey : ∀ p, ekey (mk p) = sentinelOf p)
    (hdistinct : (ps.map sentinelOf).Nodup) :
    runBatches .explicit ikey ekey sentinelOf answer bl = .ok (ps.map mk) := by
  refine runBatches_deliver hdel fun b hb => ?_
  have hsub : (b.params.map sentinelOf).Nodup :=
    ((batch_params_sublist hdel hb).map sentinelOf).nodup hdistinct
  by_cases hd : b.downgraded = true
  · exact sortBatch_downgraded hdel hb hd (hadv b hb)
  · have hk : (b.params.map mk).map ekey = b.params.map sentinelOf := by
      rw [List.map_map]
      exact List.map_congr_left fun p _ => hkey p
    have := sentinel_sort_restores_order ekey (b.params.map sentinelOf) (b.params.map mk)
      (answer b) (hadv b hb) hk hsub
    rw [List.length_map] at this
    rw [sortBatch_of_not_downgraded hd]
    exact this

/-- **imv_implicit_in_param_order**: a backend that assigns increasing keys in VALUES
    order (across the whole run) ⇒ same conclusion with the implicit sentinel. -/
theorem imv_implicit_in_param_order {α κ ρ : Type} [BEq κ]
    (mode : Mode) (bs : Nat) (ps : List α) (bl : List (Batch α))
    (mk : α → ρ) (ikey : ρ → Int) (ekey : ρ → κ) (sentinelOf : α → κ)
    (answer : Batch α → List ρ)
    (hdel : deliver mode bs ps = some bl)
    (hadv : ∀ b ∈ bl, (answer b).Perm (b.params.map mk))
    (hinc : (ps.map mk).Pairwise (fun a b => ikey a < ikey b)) :
    runBatches .implicit ikey ekey sentinelOf answer bl = .ok (ps.map mk) := by
  refine runBatches_deliver hdel fun b hb => ?_
  have hsub : (b.params.map mk).Pairwise (fun a b => ikey a < ikey b) :=
    hinc.sublist ((batch_params_sublist hdel hb).map mk)
  by_cases hd : b.downgraded = true
  · exact sortBatch_downgraded hdel hb hd (hadv b hb)
  · rw [sortBatch_of_not_downgraded hd]
    exact congrArg _ (implicit_sentinel_sorted ikey (b.params.map mk) (answer b) (hadv b hb) hsub)

/-- **imv_row_at_a_time_in_param_order**: the downgraded mode needs no sentinel at
    all — whatever the style, one row per statement cannot be re-ordered. -/
theorem imv_row_at_a_time_in_param_order {α κ ρ : Type} [BEq κ]
    (bs : Nat) (ps : List α) (bl : List (Batch α))
    (mk : α → ρ) (ikey : ρ → Int) (ekey : ρ → κ) (sentinelOf : α → κ)
    (answer : Batch α → List ρ) (style : Style)
    (hdel : deliver (.rowAtATime true) bs ps = some bl)
    (hadv : ∀ b ∈ bl, (answer b).Perm (b.params.map mk)) :
    runBatches style ikey ekey sentinelOf answer bl = .ok (ps.map mk) := by
  refine runBatches_deliver hdel fun b hb => ?_
  exact sortBatch_downgraded hdel hb ((rows_one_each true bs ps bl hdel).2 b hb).2.2.1 (hadv b hb)

/-- **imv_unsorted_is_permutation**: without a sort request nothing is promised about
    order, but still exactly one row per parameter set comes back. -/
theorem imv_unsorted_is_permutation {α κ ρ : Type} [BEq κ]
    (mode : Mode) (bs : Nat) (ps : List α) (bl : List (Batch α))
    (mk : α → ρ) (ikey : ρ → Int) (ekey : ρ → κ) (sentinelOf : α → κ)
    (answer : Batch α → List ρ)
    (hdel : deliver mode bs ps = some bl)
    (hadv : ∀ b ∈ bl, (answer b).Perm (b.params.map mk)) :
    ∃ out, runBatches .none ikey ekey sentinelOf answer bl = .ok out ∧ out.Perm (ps.map mk) := by
  have hpart := batches_partition_params mode bs ps bl hdel
  refine ⟨(bl.map answer).flatten, ?_, ?_⟩
  · apply runBatches_ok
    intro b _
    by_cases hd : b.downgraded = true
    · exact sortBatch_of_downgraded hd
    · exact sortBatch_of_not_downgraded hd
  · rw [← hpart, List.map_flatten, List.map_map]
    clear hdel hpart
    induction bl with
    | nil => simp
    | cons b bl ih =>
      simp only [List.map_cons, List.flatten_cons]
      exact (hadv b List.mem_cons_self).append (ih (fun x hx => hadv x (List.mem_cons_of_mem _ hx)))

/-- the sort is needed: in batched mode without it an adversarial backend does change
    the order (so the downgrade rule matters) -/
theorem imv_unsorted_counterexample :
    ∃ (bl : List (Batch Nat)) (answer : Batch Nat → List Nat),
      deliver .batched 2 [10, 20, 30] = some bl ∧
      (∀ b ∈ bl, (answer b).Perm (b.params.map id)) ∧
      runBatches (α := Nat) (κ := Nat) (ρ := Nat) .none (fun r => (r : Int)) id id answer bl ≠ .ok [10, 20, 30] := by
  refine ⟨_, fun b => b.params.reverse, rfl, ?_, by decide +kernel⟩
  intro b _
  simp

example : deliver .batched 3 [1, 2, 3, 4, 5, 6, 7] =
    some [⟨[1, 2, 3], 3, 1, 3, false⟩, ⟨[4, 5, 6], 3, 2, 3, false⟩, ⟨[7], 1, 3, 3, false⟩] := by
  decide +kernel
example : (deliver (.rowAtATime true) 3 [1, 2]).map (·.map (·.params)) = some [[1], [2]] := by decide +kernel
example : deliver .batched 0 [1] = none := by decide +kernel
example : sortExplicit (fun (r : Nat × Nat) => r.2) 3 [7, 8, 9] [(1, 9), (2, 7), (3, 8)]
    = .ok [(2, 7), (3, 8), (1, 9)] := by decide +kernel
example : sortExplicit (fun (r : Nat × Nat) => r.2) 3 [7, 7, 9] [(1, 9), (2, 7), (3, 7)]
    = .error .rowcount := by decide +kernel
example : sortExplicit (fun (r : Nat × Nat) => r.2) 3 [7, 8, 9] [(1, 9), (2, 7), (3, 6)]
    = .error .nomatch := by decide +kernel
example : sortImplicit (fun (r : Nat × Int) => r.2) [(1, 5), (2, 3), (3, 4)]
    = [(2, 3), (3, 4), (1, 5)] :=
  implicit_sentinel_sorted _ _ _ (by decide +kernel) (by decide +kernel)
example : effBatchSize 1000 2099 12 10 = some 209 := by decide +kernel
example : effBatchSize 1000 5 12 10 = some 0 := by decide +kernel
example : chooseMode ⟨false, true, true, true, true, false, false, false, false⟩ = .rowAtATime true := by
  decide +kernel
example : chooseMode ⟨false, true, true, true, true, true, false, false, false⟩ = .batched := by decide +kernel

end SaVerif.Props.C12
