import SaVerif.Model.Generative
import SaVerif.Gen.GenerativeTables
import SaVerif.Lemmas.Spell
/-!
# C03 — statement objects are immutable values

The Lean content: (1) in the shallow-copy model of `Generative._generate`, ANY chain
of generative calls whose bodies rebind attributes only extends the heap, so every ancestor is
observed in the final heap as in the heap of its creation (`chain_rebuild_spec`, `observe_append`;
`generative_preserves_ancestors` says it of an unnamed prefix of the final heap), and a single
in-place mutation breaks it; (2) a regenerated table: no
`@_generative` method of the scanned modules mutates an attribute of `self` in place
(beyond the reviewed baseline).  That each real method behaves like `rebuild` for every
input is what the differential harness tests.
-/
namespace SaVerif.Props.C03
open SaVerif.Generative

def WellFormed (h : Heap) (o : Obj) : Prop := ∀ kv ∈ o.attrs, kv.2 < h.length

def isRebuild : Op → Bool
  | .rebuild _ _ => true
  | .mutate _ _ => false

theorem observe_append (h ext : Heap) (o : Obj) (hw : WellFormed h o) :
    observe (h ++ ext) o = observe h o := by
  unfold observe
  apply List.map_congr_left
  intro kv hkv
  have := hw kv hkv
  simp [deref, List.getD, List.getElem?_append_left this]

theorem aset_mem {a v : Nat} {l : List (Nat × Nat)} {kv : Nat × Nat} (h : kv ∈ aset a v l) :
    kv ∈ l ∨ kv.2 = v := by
  induction l with
  | nil => exact .inr (List.mem_singleton.1 h ▸ rfl)
  | cons x l ih =>
    simp only [aset] at h
    split at h
    · rcases List.mem_cons.1 h with rfl | h
      · exact .inr rfl
      · exact .inl (List.mem_cons_of_mem _ h)
    · rcases List.mem_cons.1 h with rfl | h
      · exact .inl List.mem_cons_self
      · exact (ih h).imp_left (List.mem_cons_of_mem _)

theorem step_rebuild_wf (h : Heap) (o : Obj) (a c : Nat) (hw : WellFormed h o) :
    WellFormed (step h o (.rebuild a c)).1 (step h o (.rebuild a c)).2 := by
  intro kv hkv
  simp only [step] at hkv ⊢
  rcases aset_mem hkv with h1 | h1
  · have := hw kv h1
    simp
    omega
  · rw [h1]
    simp

theorem chain_head (h : Heap) (o : Obj) (ops : List Op) : (chain h o ops).2[0]? = some o := by
  cases ops <;> rfl

/-- `(chain h o (ops.take i)).1` is the heap as it was when statement `i` of the chain was made -/
theorem chain_rebuild_spec : ∀ (ops : List Op) (h : Heap) (o : Obj),
    ops.all isRebuild = true → WellFormed h o →
      ∀ (i : Nat) (anc : Obj), (chain h o ops).2[i]? = some anc →
        (∃ ext, (chain h o ops).1 = (chain h o (ops.take i)).1 ++ ext) ∧
          WellFormed (chain h o (ops.take i)).1 anc := by
  intro ops
  induction ops with
  | nil =>
    intro h o _ hw i anc hi
    obtain ⟨rfl, rfl⟩ : i = 0 ∧ o = anc := by
      cases i with
      | zero => exact ⟨rfl, Option.some.inj hi⟩
      | succ j => cases hi
    exact ⟨⟨[], (List.append_nil h).symm⟩, hw⟩
  | cons op r ih =>
    intro h o hall hw i anc hi
    rw [List.all_cons, Bool.and_eq_true] at hall
    cases op with
    | mutate a c => cases hall.1
    | rebuild a c =>
      have hs := ih _ _ hall.2 (step_rebuild_wf h o a c hw)
      cases i with
      | succ j => exact hs j anc hi
      | zero =>
        -- statement 0 is `o`, made in `h`; `hs 0` says that the final heap extends `h ++ [cell]`
        obtain rfl : o = anc := Option.some.inj hi
        obtain ⟨⟨ext, he⟩, -⟩ := hs 0 _ (chain_head ..)
        show (∃ ext, (chain h o (.rebuild a c :: r)).1 = h ++ ext) ∧ WellFormed h o
        exact ⟨⟨_ :: ext, he.trans (List.append_assoc h [_] ext)⟩, hw⟩

/-- for ANY chain of generative calls that rebind (never mutate), every statement of the chain
    shows in the final heap what it shows in a prefix `hb` of it in which it is well formed
    (by `chain_rebuild_spec` the heap at its creation is one). -/
theorem generative_preserves_ancestors : ∀ (ops : List Op) (h : Heap) (o : Obj),
    ops.all isRebuild = true → WellFormed h o →
      ∀ (i : Nat) (anc : Obj), (chain h o ops).2[i]? = some anc →
        ∃ hb, (∃ ext, (chain h o ops).1 = hb ++ ext) ∧ WellFormed hb anc ∧
          observe (chain h o ops).1 anc = observe hb anc := by
  intro ops h o hall hw i anc hi
  obtain ⟨⟨ext, he⟩, hwa⟩ := chain_rebuild_spec ops h o hall hw i anc hi
  exact ⟨_, ⟨ext, he⟩, hwa, he ▸ observe_append _ ext anc hwa⟩

/-- an in-place mutation in a generative method changes the parent -/
theorem mutate_counterexample :
    let h : Heap := [[1]]
    let o : Obj := { attrs := [(0, 0)] }
    observe (chain h o [.mutate 0 2]).1 o ≠ observe h o := by
  decide

/-- no method of the scanned modules (`FILES` of harness/props/c03.py: six of sql/, orm/query.py, the
    dialects' dml) that is `@_generative` or rebinds `self = self._generate()` performs an unguarded
    in-place operation on an attribute of `self` (mutator call, item or slice store, `+=`) outside the
    reviewed baseline; guarded = the method assigns a fresh value to that attribute first -/
theorem no_inplace_mutation :
    SaVerif.Gen.GenerativeTables.inplace.all
      (fun r => SaVerif.Gen.GenerativeTables.baseline.contains r) = true := by
  rw [Spell.all_contains_rename Spell.key_inj, Spell.names_eq _ _ (by repeat' constructor),
    Spell.names_eq _ _ (by repeat' constructor)]
  decide +kernel

/-- `Generative._generate` of the working tree copies `__dict__` -/
theorem generate_copies_dict : SaVerif.Gen.GenerativeTables.generateCopies = true := by decide

example : WellFormed [[1], [2, 3]] { attrs := [(0, 0), (1, 1)] } := by
  intro kv h; simp at h; rcases h with rfl | rfl <;> simp

example : (chain [[1]] { attrs := [(0, 0)] } [.rebuild 0 5, .rebuild 0 6]).2.length = 3 := by decide +kernel

end SaVerif.Props.C03
