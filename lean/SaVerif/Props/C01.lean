import SaVerif.Lemmas.ExprOk
import SaVerif.Lemmas.ExprSem
/-!
# C01 — Rendered SQL preserves the meaning of the expression tree

**Backend.**  A backend groups the token sequence it receives with an operator-precedence
parser over its binding-power table (`Model/Pratt.lean`).  A token tree that is *well
bracketed* for grammar `g` (`wb g t`, decidable and table-driven) is read back from its printed
text as exactly that tree (`parse_print_roundtrip`), so "the rendered SQL means what the tree
means" reduces to `wb` of what the compiler emits.

**SQLAlchemy.**  The precedence / associativity / negation tables are regenerated from the
working tree (`Gen/ExprTables.lean`).  For every pair (parent operator, child operator) and
both operand positions, the element SQLAlchemy constructs (`self_group` against the parent,
`is_precedent` on the regenerated numbers) renders to a well-bracketed tree on PostgreSQL and
MySQL, and on SQLite except exactly at finding F1's pairs (`pairwise_sqlite_partial`,
`sqlite_concat_counterexample`); for every element of the core fragment, of any depth, the same
follows from one compatibility check per grammar (`coreCompat g`) and the facts about the regenerated
tables alone that `Lemmas/ExprCore` checks (`core_render_read_back`, `api_tree_read_back`).

**Semantic rewrites.**  Over three-valued logic, for all operand values: every pair of the
regenerated negation table is a true negation except `is_`/`is_not` with themselves
(`negate_table_sound_partial`, `negate_is_counterexample`); every operator in the regenerated
`_associative` set is associative, so flattening preserves the value
(`associative_table_sound`); `and_` / `or_` (`_process_clauses_for_boolean`, on clause lists without
TRUE/FALSE constants, where nothing is folded) evaluate to the n-ary AND / OR of the clauses
(`boolConstruct_eval`).
-/
namespace SaVerif.Props.C01
open SaVerif.Expr SaVerif.Pratt SaVerif.Expr.Gen

theorem parse_print_roundtrip (g : Grammar) (t : G) (h : wb g t = true) :
    parse g t.print = some t :=
  parse_print g t h

theorem print_injective_on_wb (g : Grammar) (t₁ t₂ : G) (h₁ : wb g t₁ = true) (h₂ : wb g t₂ = true)
    (h : t₁.print = t₂.print) : t₁ = t₂ := by
  have a := parse_print_roundtrip g t₁ h₁
  have b := parse_print_roundtrip g t₂ h₂
  rw [h] at a
  rw [a] at b
  exact Option.some.inj b

/-- the backend's reading of a text whose associative chains were nested to the right:
    the same tree with those chains rotated to the left (`G.norm`), nothing else changed -/
theorem parse_print_norm (g : Grammar) (t : G) (h : wb g t.norm = true) :
    parse g t.print = some t.norm := by
  rw [← print_norm t]
  exact parse_print_roundtrip g t.norm h

theorem backend_value_of_text {V : Type} (g : Grammar) (I : Interp V)
    (hassoc : ∀ s, G.assocSym s = true → ∀ a b c, I.inf s (I.inf s a b) c = I.inf s a (I.inf s b c))
    (t : G) (h : wb g t.norm = true) :
    (parse g t.print).map (evalG I) = some (evalG I t) := by
  rw [parse_print_norm g t h]
  simp [evalG_norm I hassoc]

/-- **render_meaning_preserved (backend half).**  If the emitted tree is well bracketed up to
    re-association, the backend computes from the emitted text the same value as from the
    text with every node explicitly parenthesised. -/
theorem text_value_eq_fully_parenthesised_value {V : Type} (g : Grammar) (I : Interp V)
    (hassoc : ∀ s, G.assocSym s = true → ∀ a b c, I.inf s (I.inf s a b) c = I.inf s a (I.inf s b c))
    (hparen : ∀ v, I.br .paren v = v)
    (t : G) (h : wb g t.norm = true) (hf : wb g t.fullParen = true) :
    (parse g t.print).map (evalG I) = (parse g t.fullParen.print).map (evalG I) := by
  rw [backend_value_of_text g I hassoc t h, parse_print_roundtrip g _ hf]
  simp [evalG_fullParen I hparen]

/-- non-vacuity: a three-level tree with a prefix operator, a chain and a parenthesis is
    well bracketed for the SQLite table and is read back -/
example : wb sqlite
    (G.inf .and_ " AND "
      (G.pre .not_ "NOT " (G.inf .eq " = " (G.atom ⟨"a", .col "a"⟩) (G.atom ⟨"1", .int 1⟩)))
      (G.inf .lt " < "
        (G.inf .plus " + " (G.inf .plus " + " (G.atom ⟨"b", .col "b"⟩) (G.atom ⟨"c", .col "c"⟩))
          (G.inf .star " * " (G.atom ⟨"d", .col "d"⟩) (G.atom ⟨"2", .int 2⟩)))
        (G.br .paren (G.inf .minus " - " (G.atom ⟨"e", .col "e"⟩) (G.atom ⟨"f", .col "f"⟩))))) = true := by
  decide

def colA : SaExpr := .col "a" .int
def colB : SaExpr := .col "b" .int
def colC : SaExpr := .col "c" .int

/-- binary operators the compiler renders as `left <op> right` -/
def binOps : List Op :=
  [.add, .sub, .mul, .truediv, .floordiv, .mod, .concat_op, .eq, .ne, .lt, .le, .gt, .ge,
   .is_, .is_not, .is_distinct_from, .is_not_distinct_from, .like_op, .not_like_op,
   .ilike_op, .not_ilike_op, .and_, .or_]

/-- child operator `c` on the left under parent `p`:
    `BinaryExpression(BinaryExpression(colA, colB, c), colC, p)` as SQLAlchemy constructs it -/
def leftNest (p c : Op) : SaExpr := mkBinary (mkBinary colA colB c .int none none) colC p .int none none
def rightNest (p c : Op) : SaExpr := mkBinary colA (mkBinary colB colC c .int none none) p .int none none
def negNest (p : Op) (left : Bool) : SaExpr :=
  if left then mkBinary (negImpl colA) colC p .int none none
  else mkBinary colA (negImpl colC) p .int none none
def underNeg (c : Op) : SaExpr := negImpl (mkBinary colA colB c .int none none)
def underNot (c : Op) : SaExpr := negate (mkBinary colA colB c .int none none)

def pairwiseOK (d : Dialect) (g : Grammar) (skip : Op → Op → Bool) : Bool :=
  binOps.all fun p => binOps.all fun c =>
    skip p c ||
      (wb g (render d true (leftNest p c)).norm && wb g (render d true (rightNest p c)).norm)

def unaryOK (d : Dialect) (g : Grammar) (skip : Op → Bool) : Bool :=
  binOps.all fun p =>
    skip p ||
      (wb g (render d true (negNest p true)).norm && wb g (render d true (negNest p false)).norm &&
       wb g (render d true (underNeg p)).norm && wb g (render d true (underNot p)).norm)

def isArith (c : Op) : Bool :=
  c = .add || c = .sub || c = .mul || c = .truediv || c = .floordiv || c = .mod

/-- F1's cells: an arithmetic child directly under `concat_op` -/
def f1Cell (p c : Op) : Bool := p = .concat_op && isArith c

theorem unary_cells :
    unaryOK .sqlite sqlite (fun _ => false) = true ∧
    unaryOK .postgresql postgresql (fun _ => false) = true ∧
    unaryOK .mysql mysql (fun _ => false) = true := by
  decide +kernel

theorem unary_sqlite : unaryOK .sqlite sqlite (fun _ => false) = true := unary_cells.1
theorem unary_postgresql : unaryOK .postgresql postgresql (fun _ => false) = true := unary_cells.2.1
theorem unary_mysql : unaryOK .mysql mysql (fun _ => false) = true := unary_cells.2.2

/-!
`Core e` (`Lemmas/ExprCore.lean`): `e` is built from columns, bind parameters, NULL/TRUE/FALSE,
the binary operators `+ - * % / // ||  = != < <= > >=  IS  IS NOT`, the LIKE family over closed
operands, IN / NOT IN with a non-empty expanding list, BETWEEN whose bounds expose only
operators above BETWEEN (finding `between-bound-ungrouped` lies outside), flattened
`+ * || AND OR` lists, unary minus, NOT, `Grouping`, scalar subqueries, function calls, CAST
and CASE — of any size and depth.  `WG e`: every operand is already grouped against its
parent, i.e. `operand.self_group(against=parent.operator)` would not wrap it (what
`BinaryExpression.__init__`, `_construct_for_list`, `UnaryExpression.__init__` establish).
`coreCompat g`: the decidable compatibility of the **regenerated** precedence numbers with
grammar `g` (a higher number binds tighter in `g` on both sides; naturally self-precedent
operators are left-associative chains of `g`).  `prefixNoTern g`: no proof uses it.
`CSH g d e`: either `g` binds every operator that the regenerated table puts above `concat_op`
tighter than `||` (PostgreSQL, not SQLite), or `e` avoids the cells of finding F1. -/

theorem coreCompat_sqlite : coreCompat sqlite = true := by decide +kernel
theorem coreCompat_postgresql : coreCompat postgresql = true := by decide +kernel
theorem coreCompat_mysql : coreCompat mysql = true := by decide +kernel

theorem prefixNoTern_sqlite : prefixNoTern sqlite := by
  unfold prefixNoTern
  decide
theorem prefixNoTern_postgresql : prefixNoTern postgresql := by
  unfold prefixNoTern
  decide
theorem prefixNoTern_mysql : prefixNoTern mysql := by
  unfold prefixNoTern
  decide

/-- For every element of the fragment (any depth), any dialect's rendering and any compatible
    grammar, the backend reads the emitted text back as the emitted tree, up to re-association of the
    associative chains. -/
theorem core_render_read_back (d : Dialect) (g : Grammar) (hg : coreCompat g = true)
    (hpt : prefixNoTern g) (e : SaExpr) (hC : Core e = true) (hW : WG e = true) (hS : CSH g d e) :
    parse g (render d true e).print = some (render d true e).norm :=
  parse_print_norm g _ (wb_render g hg d e hC hW hS)

/-- **render_meaning_preserved** on the fragment: the value the backend computes from the
    emitted text equals the value of the emitted tree — and of its fully parenthesised text —
    under every interpretation with transparent parentheses and associative `+ * || AND OR`. -/
theorem core_render_meaning_preserved {V : Type} (d : Dialect) (g : Grammar)
    (hg : coreCompat g = true) (hpt : prefixNoTern g) (I : Interp V)
    (hassoc : ∀ s, G.assocSym s = true → ∀ a b c, I.inf s (I.inf s a b) c = I.inf s a (I.inf s b c))
    (hparen : ∀ v, I.br .paren v = v)
    (e : SaExpr) (hC : Core e = true) (hW : WG e = true) (hS : CSH g d e) :
    (parse g (render d true e).print).map (evalG I) = some (evalG I (render d true e).fullParen) := by
  rw [backend_value_of_text g I hassoc _ (wb_render g hg d e hC hW hS)]
  simp [evalG_fullParen I hparen]

/-- PostgreSQL reads every bare operand of `||` as SQLAlchemy intends; SQLite does not
    (`||` binds tighter than arithmetic there: finding F1, `sqlite_concat_counterexample`) -/
theorem concatFull_postgresql : concatFull postgresql = true := by decide +kernel
theorem concatFull_sqlite : concatFull sqlite = false := by decide +kernel

theorem concatSafeList_fn (d : Dialect) (hd : d = .mysql ∨ d = .mariadb) :
    ∀ es : List SaExpr, ConcatSafeList d es = true :=
  fun _ => concatSafeList_iff.2 fun c _ => concatSafe_fn d hd c

/-- SQLite, **partial**: the F1 cells (an arithmetic operator exposed under `||`) are excluded
    by `ConcatSafe` — see `sqlite_concat_counterexample` for what happens there -/
theorem core_sqlite_partial (e : SaExpr) (hC : Core e = true) (hW : WG e = true)
    (hS : ConcatSafe .sqlite e = true) :
    parse sqlite (render .sqlite true e).print = some (render .sqlite true e).norm :=
  core_render_read_back .sqlite sqlite coreCompat_sqlite prefixNoTern_sqlite e hC hW (Or.inr hS)

theorem core_postgresql (e : SaExpr) (hC : Core e = true) (hW : WG e = true) :
    parse postgresql (render .postgresql true e).print = some (render .postgresql true e).norm :=
  core_render_read_back .postgresql postgresql coreCompat_postgresql prefixNoTern_postgresql e hC hW
    (Or.inl concatFull_postgresql)

theorem core_mysql (e : SaExpr) (hC : Core e = true) (hW : WG e = true) :
    parse mysql (render .mysql true e).print = some (render .mysql true e).norm :=
  core_render_read_back .mysql mysql coreCompat_mysql prefixNoTern_mysql e hC hW
    (Or.inr (concatSafe_fn .mysql (Or.inl rfl) e))

def coreCell (p c : Op) : Bool := coreBinD p && coreBinD c

/-- a `coreCell` is an instance of `wb_render` -/
theorem core_cell (d : Dialect) (g : Grammar) (hg : coreCompat g = true) {p c : Op} (h : coreCell p c = true)
    (hS : CSH g d (leftNest p c) ∧ CSH g d (rightNest p c)) :
    (wb g (render d true (leftNest p c)).norm && wb g (render d true (rightNest p c)).norm) = true := by
  obtain ⟨hp, hc⟩ := Bool.and_eq_true _ _ ▸ h
  have col : ∀ n, Core (.col n .int) = true ∧ WG (.col n .int) = true := fun _ => ⟨rfl, rfl⟩
  have bin := fun (x y : SaExpr) (hx : Core x = true ∧ WG x = true) (hy : Core y = true ∧ WG y = true)
      (o : Op) (ho : coreBinD o = true) => mkBinary_binD_core_WG x y o .int none ho hx.1 hx.2 hy.1 hy.2
  have ok := fun (e : SaExpr) (h : Core e = true ∧ WG e = true) => wb_render g hg d e h.1 h.2
  rw [Bool.and_eq_true]
  exact ⟨ok _ (bin _ _ (bin _ _ (col _) (col _) c hc) (col _) p hp) hS.1,
    ok _ (bin _ _ (col _) (bin _ _ (col _) (col _) c hc) p hp) hS.2⟩

theorem pairwiseOK_mono {d : Dialect} {g : Grammar} {skip skip' : Op → Op → Bool}
    (hrest : pairwiseOK d g skip' = true)
    (hcore : ∀ p c, skip' p c = true → skip p c = false →
      (wb g (render d true (leftNest p c)).norm && wb g (render d true (rightNest p c)).norm) = true) :
    pairwiseOK d g skip = true := by
  unfold pairwiseOK at hrest ⊢
  simp only [List.all_eq_true] at hrest ⊢
  intro p hp c hc
  have h := hrest p hp c hc
  cases hs : skip p c with
  | true => rfl
  | false =>
    cases hk : skip' p c with
    | true => rw [hcore p c hk hs]; rfl
    | false => rw [hk] at h; simpa using h

theorem concatSafe_nest (d : Dialect) {p : Op} (c : Op) (hp : p ≠ .concat_op) :
    ConcatSafe d (leftNest p c) = true ∧ ConcatSafe d (rightNest p c) = true := by
  -- the inner `BinaryExpression`: its operands are columns, which `self_group` leaves alone
  have inner : ∀ x y : String,
      ConcatSafe d (mkBinary (.col x .int) (.col y .int) c .int none none) = true := by
    intro x y
    rw [mkBinary, selfGroup_intCol, selfGroup_intCol]
    simp [ConcatSafe, catOpnd, rootOp]
  -- the outer one is no `||`; the inner binary is `NonAtom`, so `self_group` keeps its `ConcatSafe`
  have hp' : (p != .concat_op) = true := bne_iff_ne.2 hp
  constructor
  · rw [leftNest, colC, mkBinary, selfGroup_intCol]
    simp only [ConcatSafe, hp', Bool.true_or, Bool.true_and, Bool.and_true]
    rw [concatSafe_selfGroup d _ _ rfl]
    exact inner _ _
  · rw [rightNest, colA, mkBinary, selfGroup_intCol]
    simp only [ConcatSafe, hp', Bool.true_or, Bool.true_and]
    rw [concatSafe_selfGroup d _ _ rfl]
    exact inner _ _

/-- The cells `core_cell` does not reach, by evaluation: a parent or child outside the binary operators
    of `Core` (IS DISTINCT, AND / OR as `BinaryExpression`), the LIKE family (`Core` has LIKE over closed
    operands only, here an operand is an open binary), and on SQLite every cell under a parent `||`
    (there `CSH` is finding F1's question itself); last, the F1 cell that fails.  SQLite has no ILIKE
    token; the compiler never emits it there (it renders `lower() LIKE`).  One evaluation for the three
    dialects: the elements are the same on each and are reduced once. -/
theorem rest_cells :
    pairwiseOK .postgresql postgresql coreCell = true ∧
    pairwiseOK .mysql mysql coreCell = true ∧
    pairwiseOK .sqlite sqlite (fun p c => coreCell p c && p != .concat_op || f1Cell p c) = true ∧
    wb sqlite (render .sqlite true (leftNest .concat_op .add)).norm = false := by
  decide +kernel

theorem pairwise_postgresql : pairwiseOK .postgresql postgresql (fun _ _ => false) = true :=
  pairwiseOK_mono rest_cells.1 fun _ _ hk _ =>
    core_cell .postgresql postgresql coreCompat_postgresql hk
      ⟨Or.inl concatFull_postgresql, Or.inl concatFull_postgresql⟩

theorem pairwise_mysql : pairwiseOK .mysql mysql (fun _ _ => false) = true :=
  pairwiseOK_mono rest_cells.2.1 fun _ _ hk _ =>
    core_cell .mysql mysql coreCompat_mysql hk
      ⟨Or.inr (concatSafe_fn .mysql (Or.inl rfl) _), Or.inr (concatSafe_fn .mysql (Or.inl rfl) _)⟩

/-
Full-strength statement, FALSE on the current tree (finding F1):

  theorem pairwise_sqlite : pairwiseOK .sqlite sqlite (fun _ _ => false) = true
-/
theorem pairwise_sqlite_partial : pairwiseOK .sqlite sqlite f1Cell = true :=
  pairwiseOK_mono rest_cells.2.2.1 fun p c hk hs => by
    rw [hs, Bool.or_false, Bool.and_eq_true] at hk
    obtain ⟨h1, h2⟩ := concatSafe_nest .sqlite c (p := p) (by simpa using hk.2)
    exact core_cell .sqlite sqlite coreCompat_sqlite hk.1 ⟨Or.inr h1, Or.inr h2⟩

theorem pairwise_sqlite_counterexample : pairwiseOK .sqlite sqlite (fun _ _ => false) = false := by
  cases hk : pairwiseOK .sqlite sqlite (fun _ _ => false) with
  | false => rfl
  | true =>
    unfold pairwiseOK at hk
    simp only [List.all_eq_true] at hk
    have := hk .concat_op (by decide) .add (by decide)
    simp [rest_cells.2.2.2] at this

/-- the fragment of the ∀-theorems; the constructs it admits are listed at `NumU`, `BoolU`, `StrU` in
    `Lemmas/ExprBuild.lean` -/
def FragU (u : U) : Prop := NumU u = true ∨ BoolU u = true ∨ StrU u = true

/-- `build` applies the transcribed constructors in Python's evaluation order; on the fragment
    what it yields is in the core fragment and well grouped -/
theorem build_core_WG (u : U) (e : SaExpr) (hu : FragU u)
    (hb : build u = some e) : Core e = true ∧ WG e = true := by
  rcases hu with h | h | h
  · exact ⟨(build_num u e h hb).core, (build_num u e h hb).wg⟩
  · exact ⟨(build_bool u e h hb).core, (build_bool u e h hb).wg⟩
  · exact ⟨(build_str u e h hb).1.core, (build_str u e h hb).1.wg⟩

/-- The end-to-end statement for the fragment: for EVERY API-call tree
    `u` (any size, any nesting), every dialect's compiler and every grammar compatible with
    the regenerated precedence table, the backend reads the emitted text back as the emitted
    tree (up to re-association of `+ * || AND OR` chains). -/
theorem api_tree_read_back (d : Dialect) (g : Grammar) (hg : coreCompat g = true)
    (hpt : prefixNoTern g) (u : U) (e : SaExpr) (hu : FragU u)
    (hb : build u = some e) (hS : CSH g d e) :
    parse g (render d true e).print = some (render d true e).norm :=
  core_render_read_back d g hg hpt e (build_core_WG u e hu hb).1 (build_core_WG u e hu hb).2 hS

/-- **render_meaning_preserved** (fragment, end to end): the value the backend computes from the
    emitted text is the value of the fully parenthesised rendering, for every row and every
    interpretation of the operators in which parentheses are transparent and `+ * || AND OR`
    associative (three-valued logic included). -/
theorem render_meaning_preserved {V : Type} (d : Dialect) (g : Grammar)
    (hg : coreCompat g = true) (hpt : prefixNoTern g) (I : Interp V)
    (hassoc : ∀ s, G.assocSym s = true → ∀ a b c, I.inf s (I.inf s a b) c = I.inf s a (I.inf s b c))
    (hparen : ∀ v, I.br .paren v = v)
    (u : U) (e : SaExpr) (hu : FragU u) (hb : build u = some e) (hS : CSH g d e) :
    (parse g (render d true e).print).map (evalG I) = some (evalG I (render d true e).fullParen) :=
  core_render_meaning_preserved d g hg hpt I hassoc hparen e
    (build_core_WG u e hu hb).1 (build_core_WG u e hu hb).2 hS

/-- SQLite, **partial**: for every tree of the fragment whose constructed element avoids the F1
    cells (`ConcatSafe`: no arithmetic operator exposed under `||`) -/
theorem api_tree_read_back_sqlite_partial (u : U) (e : SaExpr) (hu : FragU u)
    (hb : build u = some e) (hS : ConcatSafe .sqlite e = true) :
    parse sqlite (render .sqlite true e).print = some (render .sqlite true e).norm :=
  api_tree_read_back .sqlite sqlite coreCompat_sqlite prefixNoTern_sqlite u e hu hb (Or.inr hS)

theorem api_tree_read_back_postgresql (u : U) (e : SaExpr) (hu : FragU u)
    (hb : build u = some e) :
    parse postgresql (render .postgresql true e).print = some (render .postgresql true e).norm :=
  api_tree_read_back .postgresql postgresql coreCompat_postgresql prefixNoTern_postgresql u e hu hb
    (Or.inl concatFull_postgresql)

theorem api_tree_read_back_mysql (u : U) (e : SaExpr) (hu : FragU u)
    (hb : build u = some e) :
    parse mysql (render .mysql true e).print = some (render .mysql true e).norm :=
  api_tree_read_back .mysql mysql coreCompat_mysql prefixNoTern_mysql u e hu hb
    (Or.inr (concatSafe_fn .mysql (Or.inl rfl) e))

section Sem
variable [Abs]

theorem core_value_of_text (d : Dialect) (g : Grammar) (hg : coreCompat g = true)
    (env : String → Val) (e : SaExpr) (hC : Core e = true) (hW : WG e = true) (hS : CSH g d e) :
    (parse g (render d true e).print).map (evalG (stdI env)) = some (.s (evalCore env d e)) := by
  rw [backend_value_of_text g (stdI env) (stdI_assoc env) (render d true e) (wb_render g hg d e hC hW hS),
    evalG_render env d e hC]

/-- C01 end to end on the fragment, *including the semantic
    rewrites*: for every boolean API-call tree `u` (no `is_`/`is_not` between two general
    operands, see `negate_is_counterexample`), every dialect's compiler, every compatible
    grammar and every row `env`: the three-valued value the backend computes from the emitted
    text is the meaning of `u` — whatever grouping, flattening of `and_`/`or_`/`+`/`*`,
    single-clause collapse and negation rewriting (`~(a < b)` ↦ `a >= b`, …) happened. -/
theorem api_tree_value_bool (d : Dialect) (g : Grammar) (hg : coreCompat g = true)
    (hpt : prefixNoTern g) (env : String → Val) (u : U) (e : SaExpr)
    (hu : BoolU u = true) (hn : noIsGen u = true) (hb : build u = some e) (hS : CSH g d e) :
    (parse g (render d true e).print).map (fun t => truth (evalG (stdI env) t).scalar)
      = some (evalBoolU env d u) := by
  have hcw := build_core_WG u e (Or.inr (Or.inl hu)) hb
  have h := congrArg (Option.map fun v : SV => truth v.scalar)
    (core_value_of_text d g hg env e hcw.1 hcw.2 hS)
  rw [Option.map_map] at h
  exact h.trans (congrArg some (build_bool_eval env d u e hu hn hb).1)

/-- the same for numeric trees (value, NULL included): arithmetic, scalar subqueries (an
    abstract value per row), `cast` (the value of the dialect's CAST to the rendered type name is
    abstract: `Abs.castF`), `func.coalesce`, searched and simple `case` — whose conditions are
    boolean trees of the fragment -/
theorem api_tree_value_num (d : Dialect) (g : Grammar) (hg : coreCompat g = true)
    (hpt : prefixNoTern g) (env : String → Val) (u : U) (e : SaExpr)
    (hu : NumU u = true) (hn : noIsGen u = true) (hb : build u = some e) (hS : CSH g d e) :
    (parse g (render d true e).print).map (fun t => (evalG (stdI env) t).scalar)
      = some (evalNumU env d u) := by
  have hcw := build_core_WG u e (Or.inl hu) hb
  have h := congrArg (Option.map SV.scalar) (core_value_of_text d g hg env e hcw.1 hcw.2 hS)
  rw [Option.map_map] at h
  exact h.trans (congrArg some (build_num_eval env d u e hu hn hb))

/-- the same for string-valued trees: string columns / literals and concatenations (`||`, or
    `concat(…)` on MySQL) whose operands are string-valued or numeric trees.  On a grammar where
    `||` binds tighter than arithmetic (SQLite) the hypothesis `CSH` excludes the F1 cells. -/
theorem api_tree_value_str (d : Dialect) (g : Grammar) (hg : coreCompat g = true)
    (hpt : prefixNoTern g) (env : String → Val) (u : U) (e : SaExpr)
    (hu : StrU u = true) (hn : noIsGen u = true) (hb : build u = some e) (hS : CSH g d e) :
    (parse g (render d true e).print).map (fun t => (evalG (stdI env) t).scalar)
      = some (evalNumU env d u) := by
  have hcw := build_core_WG u e (Or.inr (Or.inr hu)) hb
  have h := congrArg (Option.map SV.scalar) (core_value_of_text d g hg env e hcw.1 hcw.2 hS)
  rw [Option.map_map] at h
  exact h.trans (congrArg some (build_str_eval env d u e hu hn hb))

/-- the same statement about `emit` (= `render ∘ lower`, the compiler's full pipeline including
    the compile-time rewriting of the LIKE-based string operators, which is the identity on
    the fragment) -/
theorem api_tree_value_bool_emit (d : Dialect) (g : Grammar) (hg : coreCompat g = true)
    (hpt : prefixNoTern g) (env : String → Val) (u : U) (e : SaExpr)
    (hu : BoolU u = true) (hn : noIsGen u = true) (hb : build u = some e) (hS : CSH g d e) :
    (parse g (emit d e).print).map (fun t => truth (evalG (stdI env) t).scalar)
      = some (evalBoolU env d u) := by
  rw [emit_core d e (build_core_WG u e (Or.inr (Or.inl hu)) hb).1]
  exact api_tree_value_bool d g hg hpt env u e hu hn hb hS

theorem api_tree_value_bool_sqlite_partial (env : String → Val) (u : U) (e : SaExpr)
    (hu : BoolU u = true) (hn : noIsGen u = true) (hb : build u = some e)
    (hS : ConcatSafe .sqlite e = true) :
    (parse sqlite (render .sqlite true e).print).map (fun t => truth (evalG (stdI env) t).scalar)
      = some (evalBoolU env .sqlite u) :=
  api_tree_value_bool .sqlite sqlite coreCompat_sqlite prefixNoTern_sqlite env u e hu hn hb (Or.inr hS)

theorem api_tree_value_bool_postgresql (env : String → Val) (u : U) (e : SaExpr)
    (hu : BoolU u = true) (hn : noIsGen u = true) (hb : build u = some e) :
    (parse postgresql (render .postgresql true e).print).map
        (fun t => truth (evalG (stdI env) t).scalar)
      = some (evalBoolU env .postgresql u) :=
  api_tree_value_bool .postgresql postgresql coreCompat_postgresql prefixNoTern_postgresql env u e
    hu hn hb (Or.inl concatFull_postgresql)

end Sem

/-- non-vacuity: a tree of the fragment with nesting, flattening, negation and `IS NULL` -/
example : BoolU (.not_ (.and_ [.bin .eq (.col "a" .int) (.li 1),
      .or_ [.bin .lt (.col "b" .int) (.bin .add (.col "c" .int) (.bin .add (.col "d" .num) (.li 2))),
            .not_ (.bin .is_ (.neg (.col "a" .int)) .null)],
      .and_ [.bin .ge (.bin .mod (.col "a" .int) (.li 3)) (.li 0)]])) = true := by
  decide

/-- non-vacuity for the bracket constructs: a searched CASE whose conditions are boolean trees
    and whose results are a COALESCE, a CAST of a scalar subquery, a simple CASE — in the
    fragment, free of `is_` between general operands, and builds -/
def bracketTree : U :=
  .case_ .absent
    [.bin .gt (.col "a" .int) (.li 0), .coalesce [.col "b" .int, .bin .add (.col "a" .int) (.li 7)],
     .not_ (.bin .eq (.col "b" .int) .null), .cast .int (.subq "q" .num),
     .or_ [.bin .lt (.col "a" .int) (.li 5), .bin .is_ (.col "b" .int) .null],
       .case_ (.col "a" .int) [.li 1, .li 10, .bin .add (.li 1) (.li 1), .neg (.col "b" .int)] .absent]
    (.neg (.col "a" .int))

example : NumU bracketTree = true ∧ noIsGen bracketTree = true ∧ (build bracketTree).isSome = true := by
  decide +kernel

/-- … and the meaning is the expected one (every column and the subquery holding the same
    value, CAST interpreted as the identity): 3 gives COALESCE(3, 3 + 7) = 3 by the first
    branch, -4 gives the CAST of the subquery by the second, NULL reaches the third branch
    (`b IS NULL`) whose simple CASE matches nothing and has no ELSE: NULL -/
example : @evalNumU ⟨fun _ _ => .null, fun _ v => v, fun _ _ => .null, fun _ _ _ => none, fun _ _ _ => none⟩ (fun _ => .int 3) .sqlite bracketTree = .int 3 := by
  decide +kernel
example : @evalNumU ⟨fun _ _ => .null, fun _ v => v, fun _ _ => .null, fun _ _ _ => none, fun _ _ _ => none⟩ (fun _ => .int (-4)) .sqlite bracketTree = .int (-4) := by
  decide +kernel
example : @evalNumU ⟨fun _ _ => .null, fun _ v => v, fun _ _ => .null, fun _ _ _ => none, fun _ _ _ => none⟩ (fun _ => .null) .sqlite bracketTree = .null := by
  decide +kernel

/-- the constructors establish the hypothesis `WG` (and stay in the fragment):
    `BinaryExpression.__init__`, `UnaryExpression.__init__`, `_construct_for_list` -/
theorem constructors_establish_WG :
    (∀ (l r : SaExpr) (op : Op) (ty : Ty) (n : Option Op), coreBin op = true →
      Core l = true → WG l = true → Core r = true → WG r = true →
      Core (mkBinary l r op ty n none) = true ∧ WG (mkBinary l r op ty n none) = true) ∧
    (∀ (x : SaExpr) (op : Op) (ty : Ty), coreUn op = true → Core x = true → WG x = true →
      Core (.unary op (selfGroup (some op) x) ty) = true ∧
        WG (.unary op (selfGroup (some op) x) ty) = true) ∧
    (∀ (op : Op) (ty : Ty) (cs : List SaExpr), coreList op = true → boolCtx op = false →
      2 ≤ cs.length → CoreList cs = true → (∀ c ∈ cs, WG c = true) →
      Core (constructForList op ty cs) = true ∧ WG (constructForList op ty cs) = true) :=
  ⟨fun l r op ty n h a b c d => mkBinary_core_WG l r op ty n h a b c d,
   fun x op ty h a b => unary_core_WG x op ty h a b,
   fun op ty cs h hb hl a b => constructForList_core_WG op ty cs h hb hl a b⟩

/-- non-vacuity: `NOT (a = 1 AND b < c + d * 2)` built by the model's constructors is in the
    fragment and well grouped -/
example :
    (match build (.not_ (.and_ [.bin .eq (.col "a" .int) (.li 1),
        .bin .lt (.col "b" .int) (.bin .add (.col "c" .int) (.bin .mul (.col "d" .int) (.li 2)))])) with
     | some e => Core e && WG e
     | none => false) = true := by
  decide +kernel

def childOf (c : Op) : SaExpr := mkBinary colA colB c .int none none

/-- CASE (condition / result / value position), CAST, a function call, BETWEEN (left operand),
    LIKE … ESCAPE (both operands), the compile-time rewritten `contains` / `istartswith`,
    IN / NOT IN (incl. the empty-list form), unary minus and NOT — each around `x` -/
def formsAround (x : SaExpr) : List SaExpr :=
  [mkCase .absent [x, colC] colA, mkCase .absent [colB, x] x, mkCase x [x, colC] .absent,
   .cast x .int, mkFunc "coalesce" [x, colC, x], betweenImpl x colA colC,
   mkBinary x colC .like_op .bool (some .not_like_op) (some "/"),
   mkBinary colC x .like_op .bool (some .not_like_op) (some "/"),
   mkBinary x colC .contains_op .bool (some .not_contains_op) none,
   mkBinary colC x .contains_op .bool (some .not_contains_op) none,
   mkBinary colC x .istartswith_op .bool (some .not_istartswith_op) (some "/"),
   mkBinary x (.inlist [.int 1, .null] .int .in_op) .in_op .bool (some .not_in_op) none,
   mkBinary x (.inlist [] .int .not_in_op) .not_in_op .bool (some .in_op) none,
   negImpl x, negate x]

def formsOK (d : Dialect) (g : Grammar) : Bool :=
  binOps.all fun c => (formsAround (childOf c)).all fun e => wb g (emit d e).norm

theorem forms_cells :
    formsOK .sqlite sqlite = true ∧ formsOK .postgresql postgresql = true ∧
      formsOK .mysql mysql = true := by
  decide +kernel

theorem forms_sqlite : formsOK .sqlite sqlite = true := forms_cells.1
theorem forms_postgresql : formsOK .postgresql postgresql = true := forms_cells.2.1
theorem forms_mysql : formsOK .mysql mysql = true := forms_cells.2.2

/-- finding F1's tree `(1 + 2) || '3'` -/
def f1Tree : U := .bin .concat (.bin .add (.li 1) (.li 2)) (.ls "3")

def renderU (d : Dialect) (u : U) : G :=
  match build u with
  | some e => render d true e
  | none => G.atom ⟨"", .other⟩

/-- non-vacuity for the divisions: `(a + b) / (c // (a * 2)) - a / b / 0.5` is in the fragment
    and builds; on SQLite the true divisions are spelled `x / (y + 0.0)`, the integer floor
    division is a plain `/`, and the text is read back as the intended tree -/
def divTree : U :=
  .bin .sub
    (.bin .truediv (.bin .add (.col "a" .int) (.col "b" .int))
      (.bin .floordiv (.col "c" .int) (.bin .mul (.col "a" .int) (.li 2))))
    (.bin .truediv (.bin .truediv (.col "a" .int) (.col "b" .int)) (.ln "0.5"))

example : NumU divTree = true ∧ noIsGen divTree = true ∧ (build divTree).isSome = true := by
  decide +kernel

example :
    (parse sqlite (renderU .sqlite divTree).print).map G.skel = some (renderU .sqlite divTree).norm.skel ∧
    (renderU .sqlite divTree).skel =
      .inf .minus
        (.inf .slash (.inf .plus .leaf .leaf)
          (.inf .plus (.inf .slash .leaf (.inf .star .leaf .leaf)) .leaf))
        (.inf .slash (.inf .slash .leaf (.inf .plus .leaf .leaf)) (.inf .plus .leaf .leaf)) := by
  decide +kernel

/-- non-vacuity for concatenation: `(s || '-' || coalesce(a, 0)) = 'x-1'` is a boolean tree of
    the fragment whose element avoids the F1 cells (so the SQLite theorems apply to it), while
    finding F1's tree `(1 + 2) || '3'` is in the fragment but not `ConcatSafe` on SQLite -/
def catTree : U :=
  .bin .eq (.bin .concat (.bin .concat (.col "s" .str) (.ls "-")) (.coalesce [.col "a" .int, .li 0]))
    (.ls "x-1")

example : BoolU catTree = true ∧ noIsGen catTree = true ∧
    (match build catTree with | some e => ConcatSafe .sqlite e | none => false) = true := by
  decide +kernel

example : StrU f1Tree = true ∧
    (match build f1Tree with | some e => ConcatSafe .sqlite e | none => true) = false ∧
    (match build f1Tree with | some e => ConcatSafe .mysql e | none => false) = true := by
  decide +kernel

/-- non-vacuity for the LIKE family: `NOT ((s || t) ILIKE 'a/%' ESCAPE '/' AND s NOT LIKE t)` is a
    boolean tree of the fragment; it builds, and on SQLite (`lower(…) LIKE lower(…) ESCAPE '/'`) as
    on PostgreSQL (`ILIKE`) the text is read back as the emitted tree -/
def likeTree : U :=
  .not_ (.and_ [.like .ilike (some "/") (.bin .concat (.col "s" .str) (.col "t" .str)) (.ls "a/%"),
                .like .notlike none (.col "s" .str) (.col "t" .str)])

example : BoolU likeTree = true ∧ noIsGen likeTree = true ∧
    (match build likeTree with | some e => ConcatSafe .sqlite e | none => false) = true ∧
    (parse sqlite (renderU .sqlite likeTree).print).map G.skel = some (renderU .sqlite likeTree).norm.skel ∧
    (parse postgresql (renderU .postgresql likeTree).print).map G.skel
      = some (renderU .postgresql likeTree).norm.skel := by
  decide +kernel

/-- non-vacuity for IN / NOT IN: `NOT (a + 1 IN (1, 2, NULL) OR s NOT IN ('x'))` is a boolean tree
    of the fragment; it builds (the negation switches IN and NOT IN) and the text is read back -/
def inTree : U :=
  .not_ (.or_ [.inOp false [.int 1, .int 2, .null] (.bin .add (.col "a" .int) (.li 1)),
               .inOp true [.str "x"] (.col "s" .str)])

example : BoolU inTree = true ∧ noIsGen inTree = true ∧
    (match build inTree with | some e => ConcatSafe .sqlite e | none => false) = true ∧
    (parse sqlite (renderU .sqlite inTree).print).map G.skel = some (renderU .sqlite inTree).norm.skel ∧
    (parse mysql (renderU .mysql inTree).print).map G.skel = some (renderU .mysql inTree).norm.skel := by
  decide +kernel

/-- non-vacuity for BETWEEN: `NOT (a + 1 BETWEEN b * 2 AND coalesce(c, 0) - 1) AND a BETWEEN 1 AND 5`
    is a boolean tree of the fragment (arithmetic bounds are fine: their operators lie above
    BETWEEN; the cells of finding `between-bound-ungrouped` — a comparison or a boolean as bound —
    are outside `NumU`); it builds (the negation becomes NOT BETWEEN) and is read back -/
def btwTree : U :=
  .and_ [.not_ (.between (.bin .add (.col "a" .int) (.li 1)) (.bin .mul (.col "b" .int) (.li 2))
                  (.bin .sub (.coalesce [.col "c" .int, .li 0]) (.li 1))),
         .between (.col "a" .int) (.li 1) (.li 5)]

example : BoolU btwTree = true ∧ noIsGen btwTree = true ∧
    (match build btwTree with | some e => ConcatSafe .sqlite e | none => false) = true ∧
    (parse sqlite (renderU .sqlite btwTree).print).map G.skel = some (renderU .sqlite btwTree).norm.skel ∧
    (parse postgresql (renderU .postgresql btwTree).print).map G.skel
      = some (renderU .postgresql btwTree).norm.skel ∧
    (parse mysql (renderU .mysql btwTree).print).map G.skel = some (renderU .mysql btwTree).norm.skel := by
  decide +kernel

/-- **sqlite_concat_counterexample** (F1): `(1 + 2) || '3'` is emitted without parentheses and
    the SQLite grammar reads the text as `1 + (2 || '3')`.  Replayed on the real code and the
    real SQLite by `known_findings.d/C01.json`. -/
theorem sqlite_concat_counterexample :
    wb sqlite (renderU .sqlite f1Tree).norm = false ∧
    (renderU .sqlite f1Tree).skel = .inf .concat (.inf .plus .leaf .leaf) .leaf ∧
    (parse sqlite (renderU .sqlite f1Tree).print).map G.skel
      = some (.inf .plus .leaf (.inf .concat .leaf .leaf)) := by
  decide +kernel

/-- on PostgreSQL's table the same text is read as intended (`||` binds looser than `+` there):
    no single precedence number for `concat_op` suits both backends -/
theorem postgresql_concat_ok :
    wb postgresql (renderU .postgresql f1Tree).norm = true := by
  decide +kernel

def betweenTree : U :=
  .between (.col "ia" .int) (.col "ib" .int) (.bin .eq (.col "ic" .int) (.li 2))

/-- `ia.between(ib, ic == 2)` is emitted as `ia BETWEEN ib AND ic = 2`, read by every modelled grammar
    as `(ia BETWEEN ib AND ic) = 2`. -/
theorem between_bound_counterexample :
    wb sqlite (renderU .sqlite betweenTree).norm = false ∧
    wb postgresql (renderU .postgresql betweenTree).norm = false ∧
    wb mysql (renderU .mysql betweenTree).norm = false ∧
    (parse sqlite (renderU .sqlite betweenTree).print).map G.skel
      = some (.inf .eq (.tern .between .and_ .leaf .leaf .leaf) .leaf) := by
  decide +kernel

def asboolTree : U := .bin .is_ (.col "bb" .bool) (.not_ (.col "ba" .bool))

/-- `bb.is_(~ba)` on a backend without native booleans is emitted as `bb IS ba = 0`, read as
    `(bb IS ba) = 0`. -/
theorem asbool_operand_counterexample :
    wb sqlite (renderU .sqlite asboolTree).norm = false ∧
    wb mysql (renderU .mysql asboolTree).norm = false ∧
    wb postgresql (renderU .postgresql asboolTree).norm = true ∧
    (parse sqlite (renderU .sqlite asboolTree).print).map G.skel
      = some (.inf .eq (.inf .is_ .leaf .leaf) .leaf) := by
  decide +kernel

theorem not3_not3 (t : TV) : not3 (not3 t) = t :=
  SaVerif.Expr.not3_not3 t

def soundNegation (op nop : Op) : Prop := ∀ a b : Val, evalCmp nop a b = not3 (evalCmp op a b)

/-
Full-strength statement, FALSE on the current tree (finding `negate-is-general-operand`):

  theorem negate_table_sound : ∀ op nop, negateOp op = some nop → comparisonLike op → soundNegation op nop
-/
/-- every entry `op ↦ negate_op` of the regenerated
    `operator_lookup` table over the comparison operators with an independent semantics is a
    true three-valued negation for all operands (NULL included) — except `is_ ↦ is_` and
    `is_not ↦ is_not`. -/
theorem negate_table_sound_partial :
    ∀ op nop, op ∈ [Op.eq, .ne, .lt, .le, .gt, .ge, .is_distinct_from, .is_not_distinct_from] →
      negateOp op = some nop → soundNegation op nop := by
  intro op nop hmem hneg a b
  simp only [List.mem_cons, List.mem_nil_iff, or_false] at hmem
  rcases hmem with rfl | rfl | rfl | rfl | rfl | rfl | rfl | rfl <;> cases hneg <;>
    exact evalCmp_not (by decide) a b

/-- `x == None` / `x.is_(None)` are built with the hard-wired pair `is_ ↔ is_not`
    (`_boolean_compare`), which is a true negation -/
theorem is_isnot_sound : soundNegation .is_ .is_not ∧ soundNegation .is_not .is_ := by
  exact ⟨fun a b => evalCmp_not (by decide) a b, fun a b => evalCmp_not (by decide) a b⟩

/-- the table maps `is_` to itself, and `a IS b` is not its own
    negation: `~(a.is_(b))` keeps the value of `a.is_(b)`. -/
theorem negate_is_counterexample :
    negateOp .is_ = some .is_ ∧ negateOp .is_not = some .is_not ∧
    ¬ soundNegation .is_ .is_ ∧ ¬ soundNegation .is_not .is_not := by
  refine ⟨rfl, rfl, ?_, ?_⟩
  · intro h; have := h (.int 1) (.int 1); simp [evalCmp, isSame, cmpVal, not3] at this
  · intro h; have := h (.int 1) (.int 1); simp [evalCmp, isSame, cmpVal, not3] at this

/-- the model really builds `a IS b` for `~(a.is_(b))` (same element, NOT lost) -/
theorem negate_is_model_witness :
    (renderU .sqlite (.not_ (.bin .is_ (.col "ia" .int) (.col "ib" .int)))).skel
      = (renderU .sqlite (.bin .is_ (.col "ia" .int) (.col "ib" .int))).skel := by
  decide +kernel

/-- every operator of the regenerated `_associative` set (the ones
    `_construct_for_op` flattens and `self_group` leaves bare under itself) is associative on
    all values, NULL and wrongly typed operands included. -/
theorem associative_table_sound :
    ∀ op, associative op = true → ∀ a b c : Val,
      evalArith op (evalArith op a b) c = evalArith op a (evalArith op b c) := by
  intro op h
  refine evalArith_assoc ?_
  revert op
  apply Op.forall_of_all
  decide

/-- and every such operator is rendered with a backend symbol the re-association lemma
    (`evalG_norm`) treats as associative -/
theorem associative_table_syms :
    ∀ op, associative op = true → G.assocSym (symOf op) = true := by
  apply Op.forall_of_all
  decide

/-- `natural_self_precedent` (child left bare under the same operator) is only granted to
    associative operators in scope -/
theorem natural_self_precedent_subset :
    ∀ op, naturalSelfPrecedent op = true → associative op = true := by
  apply Op.forall_of_all
  decide

end SaVerif.Props.C01
