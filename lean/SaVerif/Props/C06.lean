import SaVerif.Lemmas.Ident
import SaVerif.Gen.IdentTables
/-!
# C06 — Identifier quoting round-trips every representable name

Theorems about M-STR/identifiers (`SaVerif/Model/Ident.lean`, a transcription of
`IdentifierPreparer` and its dialect subclasses).  The general theorems hold for
every preparer satisfying the decidable side conditions `wf` / `compat`; these are
discharged for each shipped dialect (`compat` against the keyword lists of `sqlite_compat`,
`pg_compat_partial`, `other_compat`) by `decide` over `SaVerif/Gen/IdentTables.lean`,
which the translator regenerates from the working tree on every run — so an edit to
a reserved-word list, to `LEGAL_CHARACTERS`, to the quote characters or to
`_escape_identifier` / `_unescape_identifier` re-runs these proofs.
-/
namespace SaVerif.Props.C06
open SaVerif.Ident SaVerif.Gen.IdentTables

/-- what `unformat_identifiers` returns for a component: the name itself, except
    that under `format`/`pyformat` paramstyles a *quoted* name keeps the `%%` that
    `_escape_identifier` wrote for the DBAPI (`_unescape_identifier` does not undo it) -/
def img (p : Prep) (n : Str) : Str :=
  if requiresQuotes p n = some true then n.flatMap (pctChar (dbl p)) else n

/-- **unformat_format** — for every list of non-empty names (any characters: quotes,
    dots, newlines, percent signs, unicode), `unformat_identifiers` applied to the
    dotted rendering returns one component per name, each the image `img` of the name. -/
theorem unformat_format (p : Prep) (h : WF p) (names : List Str) (hne : ∀ n ∈ names, n ≠ [])
    (text : Str) (hf : formatDotted p names = some text) :
    unformat p text = names.map (img p) := by
  unfold formatDotted at hf
  cases hq : quoteAll p names with
  | none => simp [hq] at hf
  | some qs =>
    simp only [hq, Option.map_some, Option.some.injEq] at hf
    subst hf
    unfold unformat
    rw [findall_format p h names qs hq hne _ (Nat.le_refl _), List.map_map]
    apply List.map_congr_left
    intro n hn
    rcases requiresQuotes_cases p (hne n hn) with hr | hr
    · have hne' : (escape p n).isEmpty = false := by
        simpa using escape_ne_nil p h n (hne n hn)
      simp only [Function.comp, grp_quoted hr, img, if_pos hr, hne', Bool.false_eq_true, if_false]
      exact unescape_escape p h n
    · -- an unquoted component contains no closing-quote character
      obtain ⟨_, _, hfq, _⟩ := bare_chars p h n hr
      simp only [Function.comp, grp_bare hr, img, hr]
      exact unescape_bare p h hfq

theorem unformat_format_exact (p : Prep) (h : WF p) (names : List Str) (hne : ∀ n ∈ names, n ≠ [])
    (hp : ∀ n ∈ names, dbl p = false ∨ 37 ∉ n) (text : Str)
    (hf : formatDotted p names = some text) : unformat p text = names := by
  rw [unformat_format p h names hne text hf]
  refine (List.map_congr_left fun n hn => ?_).trans (List.map_id names)
  rw [img, flatMap_pctChar_id _ n (hp n hn), ite_self]
  rfl

theorem unformat_format_nopct (p : Prep) (h : WF p) (names : List Str)
    (hne : ∀ n ∈ names, n ≠ []) (hp : ∀ n ∈ names, 37 ∉ n) (text : Str)
    (hf : formatDotted p names = some text) : unformat p text = names :=
  unformat_format_exact p h names hne (fun n hn => .inr (hp n hn)) text hf

/-- **lex_quoted** — a delimited identifier produced by `quote_identifier`, after the
    DBAPI's `%`-formatting where the paramstyle has one, is a single token for the
    backend lexer and denotes exactly `n`; whatever follows is left untouched. -/
theorem lex_quoted (p : Prep) (b : Backend) (h : WF p) (hiq : b.iq = p.iq) (hfq : b.fq = p.fq)
    (n rest : Str) (hn : n ≠ []) (hr : ∀ c t, rest = c :: t → c ≠ p.fq) :
    ∃ t, serverSees p (quoteIdentifier p n) = some t ∧ lexIdent b (t ++ rest) = some (n, rest) := by
  refine ⟨_, serverSees_quoted p h n, ?_⟩
  have hb := lexQuotedBody_dup p.fq n rest hr
  have hne : n.isEmpty = false := by simpa using hn
  simp [lexIdent, hiq, hfq, hb, hne]

/-- anchor-conditional form: for a preparer whose `legal_characters` is anchored with `$`
    (`legalNl = true`) the statement needs the hypothesis `hnl` — names that end in a
    newline after a non-empty run of legal characters are emitted unquoted there
    (`lex_quote_counterexample`).
    For `\Z`-anchored preparers the hypothesis is vacuous: see `lex_quote` below. -/
theorem lex_quote_partial (p : Prep) (b : Backend) (hw : WF p) (hc : Compat p b)
    (n q rest : Str) (hn : n ≠ []) (hq : quote p none n = some q)
    (hnl : requiresQuotes p n = some false → p.legalNl = false ∨ n.getLast? ≠ some 10)
    (hr : ∀ c t, rest = c :: t → c ≠ p.fq ∧ b.isCont c = false) :
    ∃ t, serverSees p q = some t ∧
      lexIdent b (t ++ rest) =
        some (if requiresQuotes p n = some true then n else b.foldStr n, rest) := by
  rcases quote_none_cases hq with ⟨hrq, rfl⟩ | ⟨hrq, rfl⟩
  · simpa [hrq] using lex_quoted p b hw hc.iq hc.fq n rest hn (fun c t e => (hr c t e).1)
  · obtain ⟨_, _, _, hpct⟩ := bare_chars p hw q hrq
    refine ⟨q, serverSees_of_no_pct p hpct, ?_⟩
    simpa [hrq] using lex_bare p b hw hc q rest hrq (hnl hrq) (fun c t e => (hr c t e).2)

/-- on backends that do not fold to upper case the stored name is `n` itself -/
theorem lex_quote_partial_exact (p : Prep) (b : Backend) (hw : WF p) (hc : Compat p b)
    (hf : b.fold ≠ 2) (n q rest : Str) (hn : n ≠ []) (hq : quote p none n = some q)
    (hnl : requiresQuotes p n = some false → p.legalNl = false ∨ n.getLast? ≠ some 10)
    (hr : ∀ c t, rest = c :: t → c ≠ p.fq ∧ b.isCont c = false) :
    ∃ t, serverSees p q = some t ∧ lexIdent b (t ++ rest) = some (n, rest) := by
  obtain ⟨t, h1, h2⟩ := lex_quote_partial p b hw hc n q rest hn hq hnl hr
  refine ⟨t, h1, ?_⟩
  rw [h2]
  rcases requiresQuotes_cases p hn with hrq | hrq
  · rw [if_pos hrq]
  · rw [if_neg (by rw [hrq]; decide), foldStr_id p b hc.special n hrq hf]

/-- **lex_quote** — full statement: with `legal_characters` anchored by `\Z`, for EVERY
    non-empty name (newlines anywhere included) the rendered identifier, after the DBAPI's
    `%`-formatting where the paramstyle has one, is exactly one token of the backend lexer
    and denotes the name (up to the backend's folding of regular identifiers). -/
theorem lex_quote (p : Prep) (b : Backend) (hw : WF p) (hc : Compat p b) (hz : p.legalNl = false)
    (n q rest : Str) (hn : n ≠ []) (hq : quote p none n = some q)
    (hr : ∀ c t, rest = c :: t → c ≠ p.fq ∧ b.isCont c = false) :
    ∃ t, serverSees p q = some t ∧
      lexIdent b (t ++ rest) =
        some (if requiresQuotes p n = some true then n else b.foldStr n, rest) :=
  lex_quote_partial p b hw hc n q rest hn hq (fun _ => Or.inl hz) hr

/-- **reserved_quoted** — if the backend's grammar treats `k` as a keyword, every
    upper/lower/mixed-case spelling of `k` is rendered quoted. -/
theorem reserved_quoted (p : Prep) (b : Backend) (hc : Compat p b) (n : Str)
    (hk : n.map asciiLowerChar ∈ b.keywords) : requiresQuotes p n = some true := by
  have hascii : ∀ c ∈ n, c < 128 := fun c hcn => Nat.lt_of_not_le fun hge => by
    have h1 := hc.kwAscii _ hk _ (List.mem_map_of_mem hcn)
    rw [asciiLowerChar_high c hge] at h1
    exact Nat.not_le_of_lt h1 hge
  have hres : p.reserved.contains (lower p n) = true := by
    rw [lower_ascii p n hascii]
    simpa using hc.kw _ hk
  unfold requiresQuotes
  simp only [hres, if_true]

/-- **quote_cache_transparent** — starting from an empty memo, any sequence of
    `quote` calls (plain strings and `quoted_name`s with any `quote` flag, repeated
    or not) returns what the memo-free function returns for each call. -/
theorem quote_cache_transparent (p : Prep) (ops : List (Option Bool × Str)) :
    quoteSeq p [] ops = ops.map (fun op => quote p op.1 op.2) :=
  quoteSeq_spec p ops [] (cacheOK_nil p)

/-- **denormalize_normalize** — for every ASCII name `X` as a case-folding server
    (Oracle style) reports it — reserved words, names with illegal initial characters,
    upper, lower and mixed case — `denormalize_name(normalize_name(X))` is `X` again:
    the name SQLAlchemy hands back to catalog queries is the one the server stored.
    (`denormalize_normalize_gen` states it for any name under the two case-map
    identities `lower∘lower = lower`, `upper∘lower = upper`.) -/
theorem denormalize_normalize (p : Prep) (X n : Str) (f : Option Bool)
    (hX : ∀ c ∈ X, c < 128) (h : normalizeName p X = some (n, f)) :
    denormalizeName p f n = some X := by
  have hlo : ∀ c ∈ X.map asciiLowerChar, c < 128 :=
    List.forall_mem_map.2 fun a ha => asciiLowerChar_lt a (hX a ha)
  apply denormalize_normalize_gen p X n f _ _ h
  · rw [lower_ascii p X hX, lower_ascii p _ hlo, List.map_map]
    exact List.map_congr_left fun c _ => asciiLowerChar_idem c
  · rw [lower_ascii p X hX, upper_ascii p _ hlo, upper_ascii p X hX, List.map_map]
    exact List.map_congr_left fun c _ => asciiUpperChar_lower c

def allPreps : List Prep :=
  [default, sqlite, postgresql, pgasyncpg, mysql, mariadb, mysqlansi, mssql, oracle]

def plainPreps : List Prep := [default, sqlite, pgasyncpg, mssql, oracle]

theorem all_wf : ∀ p ∈ allPreps, wf p = true := by decide +kernel

theorem plain_no_doubling : ∀ p ∈ plainPreps, dbl p = false := by decide +kernel

-- `allPreps` less postgresql, mysql, mariadb and mysqlansi
theorem plain_subset : plainPreps ⊆ allPreps :=
  List.Sublist.subset <| .cons_cons _ <| .cons_cons _ <| .cons _ <| .cons_cons _ <| .cons _ <| .cons _ <|
    .cons _ <| .cons_cons _ <| .cons_cons _ .slnil

/-- **unformat_format** for every shipped dialect -/
theorem unformat_format_dialects (p : Prep) (hp : p ∈ allPreps) (names : List Str)
    (hne : ∀ n ∈ names, n ≠ []) (text : Str) (hf : formatDotted p names = some text) :
    unformat p text = names.map (img p) :=
  unformat_format p (wf_sound p (all_wf p hp)) names hne text hf

theorem unformat_format_exact_dialects (p : Prep) (hp : p ∈ plainPreps) (names : List Str)
    (hne : ∀ n ∈ names, n ≠ []) (text : Str) (hf : formatDotted p names = some text) :
    unformat p text = names :=
  unformat_format_exact p (wf_sound p (all_wf p (plain_subset hp))) names hne
    (fun _ _ => .inl (plain_no_doubling p hp)) text hf

/-- SQLite: the backend keyword list is what the linked sqlite3 library rejects -/
def sqliteBackend : Backend := Backends.sqlite sqliteRejected

theorem sqlite_compat : compat sqlite sqliteBackend = true := compat_of_cert _ _ (by decide +kernel)

/-- **reserved_quoted (SQLite)**: every spelling of every word that sqlite3 refuses as
    a bare identifier is quoted (`returning` and `nothing` among them: it fails if either is
    missing from `RESERVED_WORDS`). -/
theorem reserved_quoted_sqlite (n : Str) (hk : n.map asciiLowerChar ∈ sqliteRejected) :
    requiresQuotes sqlite n = some true :=
  reserved_quoted sqlite sqliteBackend (compat_sound _ _ sqlite_compat) n hk

/-- every shipped preparer anchors `legal_characters` with `\Z` (regenerated table; this is
    the obligation that breaks if the `$` anchor comes back) -/
theorem anchored_Z : ∀ p ∈ allPreps, p.legalNl = false := by decide +kernel

/-- **lex_quote (SQLite)**, full: for every non-empty name, what SQLite's tokenizer reads
    back from the rendered identifier is the name -/
theorem lex_quote_sqlite (n q rest : Str) (hn : n ≠ []) (hq : quote sqlite none n = some q)
    (hr : ∀ c t, rest = c :: t → c ≠ 34 ∧ sqliteBackend.isCont c = false) :
    lexIdent sqliteBackend (q ++ rest) = some (n, rest) := by
  have hw := wf_sound sqlite (all_wf sqlite (by simp [allPreps]))
  obtain ⟨t, h1, h2⟩ := lex_quote_partial_exact sqlite sqliteBackend hw (compat_sound _ _ sqlite_compat)
    (by decide) n q rest hn hq (fun _ => .inl (anchored_Z sqlite (by simp [allPreps]))) hr
  rw [serverSees_of_not_dbl (plain_no_doubling sqlite (by simp [plainPreps]))] at h1
  cases h1
  exact h2

/-- with a `$` anchor (`legalNl := true`) the hypothesis `hnl` of `lex_quote_partial` cannot be
    dropped: `"a\n"` is rendered unquoted and SQLite reads the identifier `a` -/
theorem lex_quote_counterexample :
    quote { sqlite with legalNl := true } none [97, 10] = some [97, 10] ∧
    lexIdent sqliteBackend [97, 10] = some ([97], [10]) := by decide +kernel

/-- PostgreSQL with the keywords of the manual (Appendix C) less `pgGap`, the ones the translator
    found missing from the dialect's `RESERVED_WORDS` (not executable offline, reported as a finding
    by the harness) -/
def pgBackend : Backend :=
  Backends.postgresql (pgKeywords.filter (fun k => !pgGap.contains k))

theorem pg_compat_partial : compat postgresql pgBackend = true ∧ compat pgasyncpg pgBackend = true := by
  have h : compatCert postgresql pgBackend = true ∧ compatCert pgasyncpg pgBackend = true := by
    decide +kernel
  exact ⟨compat_of_cert _ _ h.1, compat_of_cert _ _ h.2⟩

/-- full statement (fails for the `pgGap` words on the current tree):
    `n.map asciiLowerChar ∈ pgKeywords → requiresQuotes postgresql n = some true` -/
theorem reserved_quoted_pg_partial (n : Str) (hk : n.map asciiLowerChar ∈ pgKeywords)
    (hg : n.map asciiLowerChar ∉ pgGap) : requiresQuotes postgresql n = some true := by
  apply reserved_quoted postgresql pgBackend (compat_sound _ _ pg_compat_partial.1) n
  simp only [pgBackend, Backends.postgresql, List.mem_filter, hk, true_and]
  simpa using hg

/-- each gap word is a documented keyword and, wherever it is absent from
    `RESERVED_WORDS`, it is rendered unquoted (stated conditionally so that adding
    the word upstream does not break the proof) -/
theorem reserved_quoted_pg_gap : ∀ k ∈ pgGap, k ∈ pgKeywords ∧
    (postgresql.reserved.contains k = false → requiresQuotes postgresql k = some false) := by
  decide +kernel

/-- **lex_quote (PostgreSQL, both paramstyles)**, every name; partial only in that the
    backend keyword list excludes the `pgGap` words -/
theorem lex_quote_pg_partial (p : Prep) (hp : p = postgresql ∨ p = pgasyncpg) (n q rest : Str)
    (hn : n ≠ []) (hq : quote p none n = some q)
    (hr : ∀ c t, rest = c :: t → c ≠ p.fq ∧ pgBackend.isCont c = false) :
    ∃ t, serverSees p q = some t ∧ lexIdent pgBackend (t ++ rest) = some (n, rest) := by
  have hmem : p ∈ allPreps := by rcases hp with rfl | rfl <;> simp [allPreps]
  have hc : compat p pgBackend = true := by
    rcases hp with rfl | rfl
    · exact pg_compat_partial.1
    · exact pg_compat_partial.2
  exact lex_quote_partial_exact p pgBackend (wf_sound p (all_wf p hmem)) (compat_sound _ _ hc)
    (by decide) n q rest hn hq (fun _ => .inl (anchored_Z p hmem)) hr

/-- MySQL / MariaDB / MSSQL / Oracle: the regular-identifier alphabet and quoting
    style agree with the backend grammar; stated for the empty keyword list only. -/
theorem other_compat :
    compat mysql (Backends.mysql []) = true ∧ compat mariadb (Backends.mysql []) = true ∧
    compat mysqlansi (Backends.mysqlAnsi []) = true ∧ compat mssql (Backends.mssql []) = true ∧
    compat oracle (Backends.oracle []) = true := by
  have h : compatCert mysql (Backends.mysql []) = true ∧ compatCert mariadb (Backends.mysql []) = true ∧
      compatCert mysqlansi (Backends.mysqlAnsi []) = true ∧ compatCert mssql (Backends.mssql []) = true ∧
      compatCert oracle (Backends.oracle []) = true := by decide +kernel
  exact ⟨compat_of_cert _ _ h.1, compat_of_cert _ _ h.2.1, compat_of_cert _ _ h.2.2.1,
    compat_of_cert _ _ h.2.2.2.1, compat_of_cert _ _ h.2.2.2.2⟩

/-- the hypotheses of `lex_quoted` for every shipped dialect paired with its backend -/
theorem lex_quoted_dialects :
    ∀ pb ∈ [(default, Backends.sqlite []), (sqlite, sqliteBackend), (postgresql, pgBackend),
            (pgasyncpg, pgBackend), (mysql, Backends.mysql []), (mariadb, Backends.mysql []),
            (mysqlansi, Backends.mysqlAnsi []), (mssql, Backends.mssql []),
            (oracle, Backends.oracle [])],
      wf pb.1 = true ∧ pb.2.iq = pb.1.iq ∧ pb.2.fq = pb.1.fq := fun pb h =>
  -- `List.map Prod.fst` of the nine pairs evaluates to `allPreps`
  ⟨all_wf pb.1 (show pb.1 ∈ allPreps from List.mem_map_of_mem (f := Prod.fst) h),
    (by decide +kernel : ∀ pb ∈ _, pb.2.iq = pb.1.iq ∧ pb.2.fq = pb.1.fq) pb h⟩

-- a name with every troublesome character, in a three-part dotted name
example : formatDotted sqlite [ofS "a\"b.c", ofS "select", ofS "x_1"]
    = some (ofS "\"a\"\"b.c\".\"select\".x_1") := by
  rw [ofS_ofList, ofS_ofList, ofS_ofList, ofS_ofList]
  decide +kernel
example : unformat sqlite (ofS "\"a\"\"b.c\".\"select\".x_1")
    = [ofS "a\"b.c", ofS "select", ofS "x_1"] := by
  rw [ofS_ofList, ofS_ofList, ofS_ofList, ofS_ofList]
  decide +kernel
example : quoteIdentifier mssql (ofS "a]b") = ofS "[a]]b]" := by
  rw [ofS_ofList, ofS_ofList]
  decide +kernel
example : unformat mssql (ofS "[a]]b].[T]") = [ofS "a]b", ofS "T"] := by
  rw [ofS_ofList, ofS_ofList, ofS_ofList]
  decide +kernel
-- percent doubling is visible on pyformat dialects (img ≠ id there)
example : (formatDotted postgresql [ofS "a%b"]).map (unformat postgresql)
    = some [ofS "a%%b"] := by
  rw [ofS_ofList, ofS_ofList]
  decide +kernel
example : lexIdent pgBackend (ofS "\"a%b\" FROM") = some (ofS "a%b", ofS " FROM") := by
  rw [ofS_ofList, ofS_ofList, ofS_ofList]
  decide +kernel
example : requiresQuotes sqlite (ofS "ReTuRnInG") = some true := by
  rw [ofS_ofList]
  decide +kernel
example : ofS "returning" ∈ sqliteRejected := by
  rw [ofS_ofList]
  decide +kernel
example : quoteSeq sqlite [] [(none, ofS "a b"), (some false, ofS "a b"), (none, ofS "a b")]
    = [some (ofS "\"a b\""), some (ofS "a b"), some (ofS "\"a b\"")] := by
  rw [ofS_ofList, ofS_ofList]
  decide +kernel
example : lexIdent (Backends.oracle []) (ofS "abc ") = some (ofS "ABC", ofS " ") := by
  rw [ofS_ofList, ofS_ofList, ofS_ofList]
  decide +kernel
-- normalize_name: all-upper plain name folds to lower, reserved words and illegal initials do not
example : normalizeName sqlite (ofS "ABC") = some (ofS "abc", none) := by
  rw [ofS_ofList, ofS_ofList]
  decide +kernel
example : normalizeName sqlite (ofS "ORDER") = some (ofS "ORDER", none) := by
  rw [ofS_ofList]
  decide +kernel
example : normalizeName sqlite (ofS "1ABC") = some (ofS "1ABC", none) := by
  rw [ofS_ofList]
  decide +kernel
example : normalizeName sqlite (ofS "abc") = some (ofS "abc", some true) := by
  rw [ofS_ofList]
  decide +kernel
example : denormalizeName sqlite none (ofS "abc") = some (ofS "ABC") := by
  rw [ofS_ofList, ofS_ofList]
  decide +kernel
example : denormalizeName sqlite (some true) (ofS "abc") = some (ofS "abc") := by
  rw [ofS_ofList]
  decide +kernel

end SaVerif.Props.C06
