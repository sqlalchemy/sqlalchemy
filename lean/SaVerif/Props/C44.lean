import SaVerif.Lemmas.Version
/-!
# C44 — Version counters prevent lost updates

Theorems about M-ORM/version (`SaVerif/Model/Version.lean`): any number of
sessions, rows and operations; histories are arbitrary `List Op` (all
interleavings), invariants are proved by induction over `run`.  One step is read through
`KStep`: what it does to one primary key as the table and every session hold it.
-/
namespace SaVerif.Props.C44
open SaVerif.Version SaVerif.Gen.VersionCfg

/-! ## the regenerated table (translator obligations)

`counterStart` / `counterStep` are read from the lambda in orm/mapper.py on every
run; a source edit re-runs these two `decide`s. -/

/-- the default generator really counts upwards -/
theorem counter_step_pos : 0 < counterStep := by decide

/-- a fresh row gets a non-zero version (so `(x or start)` never sees 0 again) -/
theorem counter_first_pos : 0 < counterStart + counterStep := by decide

/-- `persistence._emit_update_statements`: `allow_executemany` excludes versioned rows
    (`… and not needs_version_id`), so each versioned record is its own UPDATE statement and is
    post-fetched from its own parameters.  Read from the source on every run. -/
theorem versioned_update_row_by_row : versionedUpdateExecutemany = false := by decide

/-- `SessionTransaction._restore_snapshot(dirty_only=True)`: the states expired when a
    SAVEPOINT is rolled back include the modified ones.  Read from the source on every run. -/
theorem savepoint_rollback_expires_modified : savepointRollbackExpiresModified = true := by decide

theorem only_successful_commit_changes_db (c : Cfg) (st : St) (op : Op)
    (h : ∀ s, op = .commit s → (step c st op).2 ≠ .flush .ok) : (step c st op).1.db = st.db :=
  (step_quiet c st op h).db

theorem failed_commit_db_unchanged (c : Cfg) (st : St) (s : Nat)
    (h : (step c st (.commit s)).2 ≠ .flush .ok) : (step c st (.commit s)).1.db = st.db :=
  only_successful_commit_changes_db c st _ (fun s' hs => by cases hs; exact h)

theorem tryflush_db_unchanged (c : Cfg) (st : St) (s : Nat) :
    (step c st (.tryflush s)).1.db = st.db :=
  only_successful_commit_changes_db c st _ (fun _ hs => by cases hs)

/-- **stale_flush_fails_no_change**.  Session `s` holds a persistent object for row
    `k` whose loaded version is `v`, it is going to write it (marked deleted, or a
    net change), and the table no longer has a row `k` with version `v`: the commit
    does not succeed and the table is unchanged. -/
theorem stale_flush_fails_no_change (c : Cfg) (st : St) (s k : Nat) (p : PObj) (v : Nat)
    (hk : k < c.npk) (hp : (st.sess s k).pers = some p) (hv : p.ver = some v)
    (hw : p.del = true ∨ (netChange p = true ∧ (st.sess s k).pend = none))
    (hstale : ∀ r, st.db k = some r → r.ver ≠ v) :
    (step c st (.commit s)).2 ≠ .flush .ok ∧ (step c st (.commit s)).1.db = st.db := by
  have key : (step c st (.commit s)).2 ≠ .flush .ok := by
    refine fun hok => flushOutcome_not_ok_of hk ?_ (commit_ok_state c st s hok).1
    have hnm : noMatch (some v) (st.db k) = true := by
      unfold noMatch
      cases hr : st.db k with
      | none => rfl
      | some r => exact bne_iff_ne.2 fun h => hstale r hr (Option.some.inj h).symm
    rcases hsl : st.sess s k with ⟨pers, pend⟩
    rw [hsl] at hp hw
    cases hp
    unfold actOf
    rcases hw with hdel | ⟨hnet, hpend⟩
    · cases pend with
      | none =>
        dsimp only
        rw [hdel, hv]
        exact Or.inr hnm
      | some w =>
        dsimp only
        rw [hdel, hv]
        exact Or.inl hnm
    · cases hpend
      dsimp only
      rw [hv]
      cases p.del with
      | true => exact Or.inr hnm
      | false =>
        rw [(Bool.and_eq_true_iff.1 hnet).1, hnet]
        exact Or.inl hnm
  exact ⟨key, failed_commit_db_unchanged c st s key⟩

theorem flushOk_db (c : Cfg) (st : St) (s k : Nat) :
    (flushOk c st s true).db k =
      if k < c.npk then applyRow c.gen st.clock k (actOf (st.sess s k) (st.db k)) (st.db k)
      else st.db k := by
  simp only [flushOk, if_true]

theorem flushOk_sess_other (c : Cfg) (st : St) (s t : Nat) (h : t ≠ s) :
    (flushOk c st s true).sess t = st.sess t := by
  simp only [flushOk]
  exact updSess_other _ _ _ _ h

/-- the writer's slot after the commit, before expire_on_commit -/
def slotAfter (c : Cfg) (st : St) (s k : Nat) : Slot :=
  if k < c.npk then afterFlushSlot c.gen st.clock k (st.sess s k) (st.db k) else st.sess s k

theorem slotAfter_of_lt {c : Cfg} {k : Nat} (hk : k < c.npk) (st : St) (s : Nat) :
    slotAfter c st s k = afterFlushSlot c.gen st.clock k (st.sess s k) (st.db k) := if_pos hk

theorem slotAfter_of_not_lt {c : Cfg} {k : Nat} (hk : ¬ k < c.npk) (st : St) (s : Nat) :
    slotAfter c st s k = st.sess s k := if_neg hk

theorem flushOk_sess_self (c : Cfg) (st : St) (s k : Nat) :
    (flushOk c st s true).sess s k =
      if c.eoc then expireSlot (slotAfter c st s k) else slotAfter c st s k := by
  simp only [flushOk, updSess_same, if_true, slotAfter]
  by_cases hk : k < c.npk
  · simp only [if_pos hk]
    rw [batchFix_eq versioned_update_row_by_row]
  · simp only [if_neg hk]

theorem flushOk_lost (c : Cfg) (st : St) (s : Nat) :
    (flushOk c st s true).lost = (st.lost || anyPk c.npk (fun k => lostAt (st.sess s k) (st.db k))) := by
  simp [flushOk]

theorem flushOk_reins (c : Cfg) (st : St) (s : Nat) :
    (flushOk c st s true).reins =
      (st.reins || anyPk c.npk (fun k => reinsAt (st.everDel k) (actOf (st.sess s k) (st.db k)))) := by
  simp [flushOk]

theorem flushOk_everDel (c : Cfg) (st : St) (s k : Nat) :
    (flushOk c st s true).everDel k =
      (st.everDel k || (decide (k < c.npk) && isDelAct (actOf (st.sess s k) (st.db k)))) := by
  simp [flushOk]

theorem lostAt_false_of_seen (sl : Slot) (row : Option Row)
    (h : ∀ p w r, sl.pers = some p → p.ver = some w → row = some r → p.seen = r.stamp) :
    lostAt sl row = false := by
  have aux : ∀ p r, sl.pers = some p → row = some r → (seenAtFlush p row != some r.stamp) = false := by
    intro p r hp hr
    unfold seenAtFlush
    cases hv : p.ver with
    | none =>
      rw [hr]
      exact bne_self_eq_false _
    | some w =>
      rw [h p w r hp hv hr]
      exact bne_self_eq_false _
  unfold lostAt
  split
  next hp _ => exact aux _ _ hp rfl
  next hp _ => exact aux _ _ hp rfl
  next hp _ => exact aux _ _ hp rfl
  · rfl

/-- a slot the next flush has nothing to do for -/
def SlotIdle (sl : Slot) : Prop :=
  sl.pend = none ∧ ∀ p, sl.pers = some p → p.mod = false ∧ p.del = false

theorem actOf_idle {sl : Slot} (h : SlotIdle sl) (row : Option Row) : actOf sl row = .nothing := by
  obtain ⟨pers, pend⟩ := sl
  obtain ⟨h1, h2⟩ := h
  simp only at h1 h2
  subst h1
  cases pers with
  | none => rfl
  | some p =>
    obtain ⟨hm, hd⟩ := h2 p rfl
    simp [actOf, hm, hd]

theorem SlotIdle.of_map {sl : Slot} {o : Option PObj} {g : PObj → PObj} (hpend : sl.pend = none)
    (hpers : sl.pers = o.map g) (hg : ∀ p, (g p).mod = false ∧ (g p).del = false) : SlotIdle sl := by
  refine ⟨hpend, fun p hp => ?_⟩
  obtain ⟨q, _, rfl⟩ := Option.map_eq_some_iff.1 (hpers.symm.trans hp)
  exact hg q

theorem rollbackSlot_idle (sl : Slot) : SlotIdle (rollbackSlot sl) :=
  .of_map rfl rfl fun _ => ⟨rfl, rfl⟩

theorem spRollbackSlot_idle (sl : Slot) : SlotIdle (spRollbackSlot sl) :=
  .of_map rfl rfl fun q => by
    unfold spRollbackObj
    rw [savepoint_rollback_expires_modified, Bool.and_true]
    cases q.mod <;> exact ⟨rfl, rfl⟩

theorem expireSlot_idle {sl : Slot} (h : sl.pend = none) : SlotIdle (expireSlot sl) :=
  .of_map h rfl fun _ => ⟨rfl, rfl⟩

theorem failSlot_idle (insp eoc : Bool) (sl : Slot) : SlotIdle (failSlot insp eoc sl) := by
  unfold failSlot
  split
  · split
    · exact expireSlot_idle (spRollbackSlot_idle sl).1
    · exact spRollbackSlot_idle sl
  · exact rollbackSlot_idle sl

/-- **failed_commit_leaves_nothing_to_write**: after a commit that did not succeed — followed
    by `rollback()`, or, when the flush ran inside a SAVEPOINT, by a rollback of the SAVEPOINT
    only and a commit of the enclosing transaction — the session holds no pending object, no
    deletion mark and no modified object: the rejected write cannot be applied later. -/
theorem failed_commit_leaves_nothing_to_write (c : Cfg) (st : St) (s : Nat)
    (h : (step c st (.commit s)).2 ≠ .flush .ok) (k : Nat) :
    SlotIdle ((step c st (.commit s)).1.sess s k) := by
  rw [commit_fail_state c st s h]
  dsimp only
  rw [updSess_same]
  exact failSlot_idle _ _ _

theorem idle_commit_db_unchanged (c : Cfg) (st : St) (s : Nat)
    (h : ∀ k, k < c.npk → SlotIdle (st.sess s k)) : (step c st (.commit s)).1.db = st.db := by
  by_cases hok : (step c st (.commit s)).2 = .flush .ok
  · obtain ⟨_, hst⟩ := commit_ok_state c st s hok
    rw [hst]
    funext k
    rw [flushOk_db]
    split
    · rename_i hk
      rw [actOf_idle (h k hk)]
      rfl
    · rfl
  · exact failed_commit_db_unchanged c st s hok

/-- **failed_commit_then_commit_db_unchanged**: the commit that follows a rejected one (no new
    modification in between) writes nothing — the rejected change does not come back. -/
theorem failed_commit_then_commit_db_unchanged (c : Cfg) (st : St) (s : Nat)
    (h : (step c st (.commit s)).2 ≠ .flush .ok) :
    (step c (step c st (.commit s)).1 (.commit s)).1.db = st.db := by
  rw [idle_commit_db_unchanged c _ s (fun k _ => failed_commit_leaves_nothing_to_write c st s h k)]
  exact failed_commit_db_unchanged c st s h

/-- **writer_version_eq_row_after_commit**: after a successful commit the row written for `k`
    (UPDATE, row switch or INSERT) exists and, unless expire_on_commit wiped it, the writer's
    object carries exactly the version and content stamp now stored in that row — for every
    record of the flush, whatever the other records of the same flush are. -/
theorem writer_version_eq_row_after_commit (c : Cfg) (st : St) (s k : Nat)
    (hok : (step c st (.commit s)).2 = .flush .ok) (hk : k < c.npk)
    (hw : isUpdAct (actOf (st.sess s k) (st.db k)) = true ∨ ∃ v, actOf (st.sess s k) (st.db k) = .ins v) :
    ∃ r', (step c st (.commit s)).1.db k = some r' ∧
      (c.eoc = false → ∃ p', ((step c st (.commit s)).1.sess s k).pers = some p' ∧
        p'.ver = some r'.ver ∧ p'.seen = r'.stamp) := by
  obtain ⟨_, hst⟩ := commit_ok_state c st s hok
  rw [hst, flushOk_db, if_pos hk, flushOk_sess_self, slotAfter_of_lt hk]
  unfold afterFlushSlot
  cases ha : actOf (st.sess s k) (st.db k) with
  | upd v old | switch v old | ins v =>
    -- `applyRow` and `afterFlushSlot` build row and object from the same `newVer` and `tick`
    simp only [applyRow]
    exact ⟨_, rfl, fun he => ⟨_, by rw [he]; rfl, rfl, rfl⟩⟩
  | nothing | clean | del old | insDel v =>
    rw [ha] at hw
    rcases hw with h | ⟨_, h⟩ <;> cases h

structure View where
  row : Option Row
  everDel : Bool
  pers : Nat → Option PObj

def viewAt (st : St) (k : Nat) : View := ⟨st.db k, st.everDel k, fun s => (st.sess s k).pers⟩

/-- `R`: the step inserted a primary key that had been deleted (`St.reins` goes up). -/
inductive KStep (g : Gen) (R : Prop) (v : View) : View → Prop
  /-- every operation but a successful `commit` (`Quiet`), and a successful commit at a key it
      has no statement for -/
  | quiet (pers' : Nat → Option PObj)
      (h : ∀ s p', pers' s = some p' → Origin (v.pers s) v.row p') :
      KStep g R v ⟨v.row, v.everDel, pers'⟩
  /-- a successful commit of session `s` that plans `Act.upd` / `Act.switch` (UPDATE of the row
      whose version matched, `old` its version) or `Act.ins` (INSERT, no row before) for the key,
      at stamp `t`: the writer's object carries the new version and stamp unless
      expire_on_commit wiped it -/
  | write (s : Nat) (val : Int) (old : Option Nat) (t : Nat) (pers' : Nat → Option PObj)
      (hold : (∃ r, v.row = some r ∧ old = some r.ver) ∨
        (v.row = none ∧ old = none ∧ (v.everDel = true → R)))
      (hs : ∀ p', pers' s = some p' → p'.ver = none ∨ (p'.ver = some (newVer g old t) ∧ p'.seen = t))
      (ho : ∀ u, u ≠ s → pers' u = v.pers u) :
      KStep g R v ⟨some ⟨val, newVer g old t, t⟩, v.everDel, pers'⟩
  /-- a successful commit of session `s` that plans `Act.del` (the writer's object goes) or
      `Act.insDel` (it keeps the object of the row inserted and deleted in the same flush) -/
  | delete (s : Nat) (t : Nat) (pers' : Nat → Option PObj)
      (hs : ∀ p', pers' s = some p' → p'.ver = none ∨ (p'.ver = some (newVer g none t) ∧ p'.seen = t))
      (ho : ∀ u, u ≠ s → pers' u = v.pers u) :
      KStep g R v ⟨none, true, pers'⟩

theorem kstep_quiet {st st' : St} (q : Quiet st st') (g : Gen) (R : Prop) (k : Nat) :
    KStep g R (viewAt st k) (viewAt st' k) := by
  have e : viewAt st' k = ⟨st.db k, st.everDel k, fun s => (st'.sess s k).pers⟩ := by
    unfold viewAt
    rw [q.db, q.everDel]
  rw [e]
  exact .quiet _ fun s p' h => q.origin s k p' h

theorem kstep_commit (c : Cfg) (st : St) (s : Nat)
    (ho : flushOutcome c.npk (st.sess s) st.db = .ok) (k : Nat) :
    KStep c.gen ((flushOk c st s true).reins = true) (viewAt st k) (viewAt (flushOk c st s true) k) := by
  have hoth : ∀ u, u ≠ s → ((flushOk c st s true).sess u k).pers = (st.sess u k).pers :=
    fun u hu => by rw [flushOk_sess_other _ _ _ _ hu]
  -- the writer's object is the one the flush left, possibly expired by expire_on_commit
  have hself : ∀ p', ((flushOk c st s true).sess s k).pers = some p' →
      ∃ q, (slotAfter c st s k).pers = some q ∧ DescendsFrom p' q := by
    intro p' hp'
    rw [flushOk_sess_self] at hp'
    split at hp'
    · exact descends_expireSlot _ p' hp'
    · exact ⟨p', hp', Or.inr ⟨rfl, rfl⟩⟩
  -- no statement for `k`: the writer's object descends from the one it had
  have same : (∀ q, (slotAfter c st s k).pers = some q →
      ∃ p, (st.sess s k).pers = some p ∧ q.ver = p.ver ∧ q.seen = p.seen) →
      KStep c.gen ((flushOk c st s true).reins = true) (viewAt st k)
        ⟨st.db k, st.everDel k, fun u => ((flushOk c st s true).sess u k).pers⟩ := by
    refine fun hq => .quiet _ fun u p' hp' => Or.inl ?_
    by_cases hu : u = s
    · subst hu
      obtain ⟨q, hq', hd⟩ := hself p' hp'
      obtain ⟨p, hp, e1, e2⟩ := hq q hq'
      exact ⟨p, hp, hd.imp_right fun ⟨h1, h2⟩ => ⟨h1.trans e1, h2.trans e2⟩⟩
    · exact ⟨p', (hoth u hu).symm.trans hp', Or.inr ⟨rfl, rfl⟩⟩
  unfold viewAt
  rw [flushOk_everDel, flushOk_db]
  by_cases hk : k < c.npk
  · rw [if_pos hk, decide_eq_true hk, Bool.true_and]
    rw [slotAfter_of_lt hk] at hself same
    have fk := flushK_of_pass c.gen st.clock k (st.everDel k) _ _ (flushOutcome_ok ho hk)
    generalize applyRow c.gen st.clock k (actOf (st.sess s k) (st.db k)) (st.db k) = row' at fk
    generalize afterFlushSlot c.gen st.clock k (st.sess s k) (st.db k) = sl' at fk hself same
    cases fk with
    | same sl' hp hd hr hl =>
      rw [hd, Bool.or_false]
      refine same fun q hq => ?_
      rcases hp with hp | ⟨p, hp, hp2⟩
      · exact ⟨q, hp.symm.trans hq, rfl, rfl⟩
      · cases hp2.symm.trans hq
        exact ⟨p, hp, rfl, rfl⟩
    | upd r v hrow hseen hd hr =>
      rw [hd, Bool.or_false]
      refine .write s v (some r.ver) _ _ (Or.inl ⟨r, hrow, rfl⟩) (fun p' hp' => ?_) hoth
      obtain ⟨q, hq, hd⟩ := hself p' hp'
      cases hq
      exact hd
    | ins v hrow hd hr hl =>
      rw [hd, Bool.or_false]
      refine .write s v none _ _ (Or.inr ⟨hrow, rfl, fun he => ?_⟩) (fun p' hp' => ?_) hoth
      · rw [flushOk_reins, anyPk_true hk (hr.trans he), Bool.or_true]
      · obtain ⟨q, hq, hd⟩ := hself p' hp'
        cases hq
        exact hd
    | del sl' hd hr hsl hseen =>
      rw [hd, Bool.or_true]
      refine .delete s (tick st.clock k) _ (fun p' hp' => ?_) hoth
      obtain ⟨q, hq, hd⟩ := hself p' hp'
      rcases hsl with hn | ⟨v, hv⟩
      · cases hn.symm.trans hq
      · cases hv.symm.trans hq
        exact hd
  · rw [if_neg hk, decide_eq_false hk, Bool.false_and, Bool.or_false]
    rw [slotAfter_of_not_lt hk] at same
    exact same fun q hq => ⟨q, hq, rfl, rfl⟩

theorem step_kstep (c : Cfg) (st : St) (op : Op) (k : Nat) :
    KStep c.gen ((step c st op).1.reins = true) (viewAt st k) (viewAt (step c st op).1 k) := by
  rcases step_quiet_or_commit c st op with q | ⟨s, ho, hst⟩
  · exact kstep_quiet q _ _ k
  · rw [hst]
    exact kstep_commit c st s ho k

theorem version_monotone_step (c : Cfg) (hc : c.gen = .counter) (st : St) (op : Op) (k : Nat) (r' : Row)
    (h1 : (step c st op).1.db k = some r') :
    (∀ r, st.db k = some r → r' = r ∨ (r'.ver = r.ver + counterStep ∧ r.ver < r'.ver)) ∧
      (st.db k = none → r'.ver = counterStart + counterStep) := by
  have hs := step_kstep c st op k
  generalize hv' : viewAt (step c st op).1 k = v' at hs
  have h1 : v'.row = some r' := hv' ▸ h1
  change (∀ r, (viewAt st k).row = some r → _) ∧ ((viewAt st k).row = none → _)
  cases hs with
  | quiet pers' _ =>
    exact ⟨fun r hr => Or.inl (Option.some.inj (h1.symm.trans hr)), fun hn => nomatch h1.symm.trans hn⟩
  | write s val old t pers' hold _ _ =>
    cases h1
    rcases hold with ⟨r, hr, rfl⟩ | ⟨hn, rfl, _⟩
    · refine ⟨fun r0 hr0 => ?_, fun hn => nomatch hr.symm.trans hn⟩
      cases hr.symm.trans hr0
      have := counter_step_pos
      simp only [newVer, hc, Option.getD_some]
      exact Or.inr ⟨trivial, by omega⟩
    · refine ⟨fun r0 hr0 => (nomatch hn.symm.trans hr0), fun _ => ?_⟩
      simp only [newVer, hc, Option.getD_none]
  | delete => cases h1

/-- **version_monotone**: under the integer counter a successful commit leaves each
    existing row identical or gives it a strictly larger version, `old + counterStep`
    (= `old + 1` for the current source, see `counter_step_pos`); a row that did not
    exist starts at `counterStart + counterStep` (= 1). -/
theorem version_monotone (c : Cfg) (hc : c.gen = .counter) (st : St) (s : Nat)
    (hok : (step c st (.commit s)).2 = .flush .ok) (k : Nat) (r' : Row)
    (h1 : (step c st (.commit s)).1.db k = some r') :
    (∀ r, st.db k = some r → r' = r ∨ (r'.ver = r.ver + counterStep ∧ r.ver < r'.ver)) ∧
      (st.db k = none → r'.ver = counterStart + counterStep) :=
  version_monotone_step c hc st _ k r' h1

/-- versions coincide with stamps: a version value identifies one write -/
structure FreshK (v : View) : Prop where
  row : ∀ r, v.row = some r → r.ver = r.stamp
  obj : ∀ s p w, v.pers s = some p → p.ver = some w → p.seen = w

theorem FreshK.step {R : Prop} {v v' : View} (h : FreshK v) (hs : KStep .fresh R v v') : FreshK v' := by
  cases hs with
  | quiet pers' hq =>
    refine ⟨h.row, fun s p' w hp' hw => ?_⟩
    rcases hq s p' hp' with ⟨p, hp, hex | ⟨h1, h2⟩⟩ | ⟨r, hr, h1, h2⟩
    · cases hex.symm.trans hw
    · exact h2.trans (h.obj s p w hp (h1.symm.trans hw))
    · cases h1.symm.trans hw
      exact h2.trans (h.row r hr).symm
  | write s val old t pers' _ hs ho | delete s t pers' hs ho =>
    refine ⟨fun r hr => by cases hr <;> rfl, fun u p' w hp' hw => ?_⟩
    by_cases hu : u = s
    · subst hu
      rcases hs p' hp' with hn | ⟨h1, h2⟩
      · cases hn.symm.trans hw
      · cases h1.symm.trans hw
        exact h2
    · exact h.obj u p' w ((ho u hu).symm.trans hp') hw

def FreshInv (st : St) : Prop := ∀ k, FreshK (viewAt st k)

theorem no_lost_of_seen (c : Cfg) (st : St) (s : Nat)
    (ho : flushOutcome c.npk (st.sess s) st.db = .ok)
    (hs : ∀ k p w r, (st.sess s k).pers = some p → p.ver = some w → st.db k = some r → w = r.ver →
      p.seen = r.stamp) :
    anyPk c.npk (fun k => lostAt (st.sess s k) (st.db k)) = false := by
  refine List.any_eq_false.2 fun k hk => Bool.eq_false_iff.1 ?_
  have fk := flushK_of_pass c.gen st.clock k (st.everDel k) _ _
    (flushOutcome_ok ho (List.mem_range.1 hk))
  generalize applyRow c.gen st.clock k (actOf (st.sess s k) (st.db k)) (st.db k) = row' at fk
  generalize afterFlushSlot c.gen st.clock k (st.sess s k) (st.db k) = sl' at fk
  cases fk with
  | same sl' hp hd hr hl => exact hl
  | upd r w hrow hseen hd hr =>
    exact lostAt_false_of_seen _ _ fun p w' r0 hp hw hr0 => hs k p w' r0 hp hw hr0
      (Option.some.inj (hrow.symm.trans hr0) ▸ hseen p w' hp hw)
  | ins w hrow hd hr hl => exact hl
  | del sl' hd hr hsl hseen =>
    exact lostAt_false_of_seen _ _ fun p w' r0 hp hw hr0 => hs k p w' r0 hp hw hr0 (hseen r0 p w' hr0 hp hw)

theorem lost_step (c : Cfg) (st : St) (op : Op) (hl : st.lost = false)
    (hs : ∀ s k p w r, (st.sess s k).pers = some p → p.ver = some w → st.db k = some r → w = r.ver →
      p.seen = r.stamp) : (step c st op).1.lost = false := by
  rcases step_quiet_or_commit c st op with q | ⟨s, ho, hst⟩
  · exact q.lost.trans hl
  · rw [hst, flushOk_lost, hl, no_lost_of_seen c st s ho (hs s)]
    rfl

theorem freshInv_init : FreshInv St.init :=
  fun _ => ⟨fun _ => nofun, fun _ _ _ => nofun⟩

theorem freshInv_step (c : Cfg) (hc : c.gen = .fresh) (st : St) (op : Op)
    (h : FreshInv st ∧ st.lost = false) :
    FreshInv (step c st op).1 ∧ (step c st op).1.lost = false :=
  ⟨fun k => (h.1 k).step (hc ▸ step_kstep c st op k),
    lost_step c st op h.2 fun s k p w r hp hw hr e =>
      ((h.1 k).obj s p w hp hw).trans (e.trans ((h.1 k).row r hr))⟩

theorem freshInv_run (c : Cfg) (hc : c.gen = .fresh) (ops : List Op) (st : St)
    (h : FreshInv st ∧ st.lost = false) : FreshInv (run c st ops) ∧ (run c st ops).lost = false := by
  induction ops generalizing st with
  | nil => exact h
  | cons o os ih => exact ih _ (freshInv_step c hc st o h)

/-- **no_lost_update_fresh**: with a version generator that returns never-used
    values, in every history (any sessions, rows, interleaving) no successful flush
    replaces or deletes a row content its session had not seen. -/
theorem no_lost_update_fresh (c : Cfg) (hc : c.gen = .fresh) (ops : List Op) :
    (run c St.init ops).lost = false :=
  (freshInv_run c hc ops St.init ⟨freshInv_init, rfl⟩).2

/-- holds as long as no deleted primary key has been inserted again -/
structure CounterK (v : View) : Prop where
  obj : ∀ s p w r, v.pers s = some p → p.ver = some w → v.row = some r →
    w ≤ r.ver ∧ (w = r.ver → p.seen = r.stamp)
  del_none : v.everDel = true → v.row = none
  fresh_pk : ∀ s, v.row = none → v.everDel = false → v.pers s = none

theorem CounterK.step {R : Prop} {v v' : View} (h : CounterK v) (hR : ¬ R) (hs : KStep .counter R v v') :
    CounterK v' := by
  have hpos := counter_step_pos
  cases hs with
  | quiet pers' hq =>
    refine ⟨fun s p' w r hp' hw hr => ?_, h.del_none, fun s hn he => ?_⟩
    · rcases hq s p' hp' with ⟨p, hp, hex | ⟨h1, h2⟩⟩ | ⟨r0, hr0, h1, h2⟩
      · cases hex.symm.trans hw
      · rw [h2]; exact h.obj s p w r hp (h1.symm.trans hw) hr
      · cases hr0.symm.trans hr
        cases h1.symm.trans hw
        exact ⟨Nat.le_refl _, fun _ => h2⟩
    · cases hp' : pers' s with
      | none => exact hp'
      | some p' =>
        rcases hq s p' hp' with ⟨p, hp, _⟩ | ⟨r0, hr0, _⟩
        · cases (h.fresh_pk s hn he).symm.trans hp
        · cases hn.symm.trans hr0
  | write s val old t pers' hold hs ho =>
    refine ⟨fun u p' w r' hp' hw hr' => ?_, fun he => ?_, fun _ => nofun⟩
    · cases hr'
      by_cases hu : u = s
      · subst hu
        rcases hs p' hp' with hn | ⟨h1, h2⟩
        · cases hn.symm.trans hw
        · cases h1.symm.trans hw
          exact ⟨Nat.le_refl _, fun _ => h2⟩
      · have hpu : v.pers u = some p' := (ho u hu).symm.trans hp'
        rcases hold with ⟨r, hr, rfl⟩ | ⟨hn, _, hre⟩
        · have := (h.obj u p' w r hpu hw hr).1
          simp only [newVer, Option.getD_some]
          exact ⟨by omega, fun e => by omega⟩
        · -- the primary key was never used: nobody holds an object for it
          cases hed : v.everDel with
          | true => exact absurd (hre hed) hR
          | false => cases (h.fresh_pk u hn hed).symm.trans hpu
    · rcases hold with ⟨r, hr, _⟩ | ⟨_, _, hre⟩
      · cases hr.symm.trans (h.del_none he)
      · exact absurd (hre he) hR
  | delete s t pers' hs ho => exact ⟨fun _ _ _ _ _ _ => nofun, fun _ => rfl, fun _ _ => nofun⟩

def CounterInv (st : St) : Prop := ∀ k, CounterK (viewAt st k)

theorem counterInv_init : CounterInv St.init :=
  fun _ => ⟨fun _ _ _ _ _ => nofun, nofun, fun _ _ _ => rfl⟩

theorem reins_of_step (c : Cfg) (st : St) (op : Op) (h : (step c st op).1.reins = false) :
    st.reins = false := by
  rcases step_quiet_or_commit c st op with q | ⟨s, _, hst⟩
  · exact q.reins.symm.trans h
  · rw [hst, flushOk_reins, Bool.or_eq_false_iff] at h
    exact h.1

def NoLostUnlessReins (st : St) : Prop := st.reins = false → CounterInv st ∧ st.lost = false

theorem noLostUnlessReins_step (c : Cfg) (hc : c.gen = .counter) (st : St) (op : Op)
    (h : NoLostUnlessReins st) : NoLostUnlessReins (step c st op).1 := by
  intro hre
  obtain ⟨hi, hl⟩ := h (reins_of_step c st op hre)
  exact ⟨fun k => (hi k).step (ne_true_of_eq_false hre) (hc ▸ step_kstep c st op k),
    lost_step c st op hl fun s k p w r hp hw hr => ((hi k).obj s p w r hp hw hr).2⟩

theorem noLostUnlessReins_run (c : Cfg) (hc : c.gen = .counter) (ops : List Op) (st : St)
    (h : NoLostUnlessReins st) : NoLostUnlessReins (run c st ops) := by
  induction ops generalizing st with
  | nil => exact h
  | cons o os ih => exact ih _ (noLostUnlessReins_step c hc st o h)

/-
Full statement (FALSE of the model and of the code, see the counterexample):
  theorem no_lost_update (c : Cfg) (ops : List Op) : (run c St.init ops).lost = false
-/

/-- **no_lost_update_partial**: with the integer counter, in every history, a
    successful flush can replace a content its session had not seen only after a
    deleted primary key was inserted again (the counter restarted at 1). -/
theorem no_lost_update_partial (c : Cfg) (hc : c.gen = .counter) (ops : List Op) :
    (run c St.init ops).lost = true → (run c St.init ops).reins = true := by
  intro hl
  cases hre : (run c St.init ops).reins with
  | true => rfl
  | false =>
    have := (noLostUnlessReins_run c hc ops St.init (fun _ => ⟨counterInv_init, rfl⟩) hre).2
    rw [this] at hl; cases hl

/-- the ABA history: session 1 loads row 0 (version 1); session 0 deletes it and
    inserts a new row 0 (version 1 again); session 1's update succeeds. -/
def abaOps : List Op :=
  [.add 0 0 1, .commit 0, .get 1 0, .del 0 0, .commit 0, .add 0 0 2, .commit 0, .set 1 0 3, .commit 1]

/-- without the proviso of `no_lost_update_partial`, `(run c St.init ops).lost = false` is false
    of the model and of the code -/
theorem no_lost_update_counterexample :
    (run ⟨.counter, false, 1⟩ St.init abaOps).lost = true ∧
    ((run ⟨.counter, false, 1⟩ St.init abaOps).db 0).map (·.val) = some 3 := by
  decide

/-
Full statement (FALSE, see the counterexample):
  (step c st (.commit s)).2 = .flush .ok → (st.sess s k).pend = some v → k < c.npk →
    ∃ r, (step c st (.commit s)).1.db k = some r ∧ r.val = v
-/

/-- **commit_applies_pending_partial**: after a successful commit every pending
    object is in the table with its value — provided the flush did not go through
    the insert-then-delete path of a row switch onto an expired, deleted-marked
    object whose row had vanished. -/
theorem commit_applies_pending_partial (c : Cfg) (st : St) (s k : Nat) (v : Int)
    (hok : (step c st (.commit s)).2 = .flush .ok) (hk : k < c.npk)
    (hpend : (st.sess s k).pend = some v)
    (hno : rowSwitchVanishedKeepsDelete = false ∨
      ∀ p, (st.sess s k).pers = some p → p.del = true → p.ver = none → st.db k ≠ none) :
    ∃ r, (step c st (.commit s)).1.db k = some r ∧ r.val = v := by
  obtain ⟨ho, hst⟩ := commit_ok_state c st s hok
  rw [hst, flushOk_db, if_pos hk]
  rcases hsl : st.sess s k with ⟨pers, pend⟩
  rw [hsl] at hpend hno
  cases hpend
  unfold actOf
  cases pers with
  | none => exact ⟨_, rfl, rfl⟩
  | some p =>
    dsimp only
    cases hdel : p.del with
    | false => exact ⟨_, rfl, rfl⟩
    | true =>
      cases hx : p.ver.isNone && (st.db k).isNone with
      | false => exact ⟨_, rfl, rfl⟩
      | true =>
        rcases hno with hb | hno
        · rw [hb]
          exact ⟨_, rfl, rfl⟩
        · have hx := Bool.and_eq_true_iff.1 hx
          exact absurd (Option.isNone_iff_eq_none.1 hx.2) (hno p rfl hdel (Option.isNone_iff_eq_none.1 hx.1))

/-- session 0 holds an expired object for row 0 which session 1 deleted; session 0
    deletes its object and adds a new object with the same primary key: the commit
    succeeds and the table is empty. -/
def insDelOps : List Op :=
  [.add 0 0 1, .commit 0, .get 1 0, .del 1 0, .commit 1, .expire 0 0, .del 0 0, .add 0 0 6]

/-- `commit_applies_pending_partial` without its proviso `hno` is false -/
theorem commit_applies_pending_counterexample (_h : rowSwitchVanishedKeepsDelete = true) :
    let st := run ⟨.counter, false, 1⟩ St.init insDelOps
    (st.sess 0 0).pend = some 6 ∧
    (step ⟨.counter, false, 1⟩ st (.commit 0)).2 = .flush .ok ∧
    (step ⟨.counter, false, 1⟩ st (.commit 0)).1.db 0 = none := by
  revert _h
  decide

/-- a stale flush: hypotheses of `stale_flush_fails_no_change` are satisfiable -/
example :
    let c : Cfg := ⟨.counter, false, 1⟩
    let st := run c St.init [.add 0 0 1, .commit 0, .get 1 0, .set 0 0 2, .commit 0, .set 1 0 3]
    ((st.sess 1 0).pers.map (fun p => (p.cval, p.val, p.mod))) = some (some 1, some 3, true) ∧
    (st.db 0).map (·.val) = some 2 ∧
    (step c st (.commit 1)).2 = .flush .stale := by decide

/-- a successful update: version 1 → 2 -/
example :
    let c : Cfg := ⟨.counter, true, 2⟩
    let st := run c St.init [.add 0 1 7, .commit 0, .get 1 1, .set 1 1 8]
    (step c st (.commit 1)).2 = .flush .ok ∧ 
    ((step c st (.commit 1)).1.db 1).map (·.val) = some 8 ∧
    ((step c st (.commit 1)).1.db 1).map (·.ver) = (st.db 1).map (·.ver + counterStep) := by decide

/-- a stale flush inside a SAVEPOINT (`nested`): session 1 loaded row 0 (version 1), session 0
    committed version 2; session 1 opens a SAVEPOINT, modifies, flushes: stale; the SAVEPOINT
    is rolled back and the enclosing transaction committed: the object is expired, the table
    keeps session 0's value, and a further commit of session 1 succeeds without writing -/
example :
    let c : Cfg := ⟨.counter, false, 1⟩
    let st := run c St.init [.add 0 0 1, .commit 0, .get 1 0, .set 0 0 2, .commit 0, .nested 1, .set 1 0 3]
    st.sp 1 = true ∧
    (step c st (.commit 1)).2 = .flush .stale ∧
    ((step c st (.commit 1)).1.sess 1 0).pers.map (fun p => (p.ver, p.val, p.mod)) = some (none, none, false) ∧
    (step c (step c st (.commit 1)).1 (.commit 1)).2 = .flush .ok ∧
    ((step c (step c st (.commit 1)).1 (.commit 1)).1.db 0).map (fun r => (r.val, r.ver)) = some (2, 2) := by decide

/-- one flush, two rows with different versions (row 0 at 2, row 1 at 1): each object gets
    the version of its own row -/
example :
    let c : Cfg := ⟨.counter, false, 2⟩
    let st := run c St.init [.add 0 0 1, .add 0 1 1, .commit 0, .set 0 0 2, .commit 0, .set 0 0 3, .set 0 1 3]
    (step c st (.commit 0)).2 = .flush .ok ∧
    ((step c st (.commit 0)).1.db 0).map (·.ver) = some 3 ∧ ((step c st (.commit 0)).1.db 1).map (·.ver) = some 2 ∧
    ((step c st (.commit 0)).1.sess 0 0).pers.map (·.ver) = some (some 3) ∧
    ((step c st (.commit 0)).1.sess 0 1).pers.map (·.ver) = some (some 2) := by decide

/-- fresh generator: the ABA history is caught (stale), nothing is lost -/
example : (run ⟨.fresh, false, 1⟩ St.init abaOps).lost = false ∧
    (runOut ⟨.fresh, false, 1⟩ St.init abaOps).getLast?.map (·.1) = some (.flush .stale) := by decide

end SaVerif.Props.C44
