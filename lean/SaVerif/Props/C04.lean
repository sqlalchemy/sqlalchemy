import SaVerif.Lemmas.Bind
import SaVerif.Gen.BindTables
/-!
# C04 — bound parameters reach the right placeholders in every paramstyle

Theorems about M-BIND (`SaVerif/Model/Bind.lean`, transcription of
`SQLCompiler._process_positional / _process_numeric /
_process_parameters_for_postcompile` and of the parameter assembly in
`DefaultExecutionContext._init_compiled`).

A statement is a list of segments (`Seg`): text, `%(name)s` bind templates and
`__[POSTCOMPILE_name…]` tokens, exactly what the visit methods concatenate into
`self.string`.  The compiler then *re-discovers* the binds by regular-expression
scans of that string; the theorems say when this re-discovery is exact
(`SafeSegs`, the "NoPattern" guard) and that the parameter sequence assembled from
`positiontup` is aligned with the placeholders.  The guard is necessary:
`positional_counterexample` (finding F2) and the `…_counterexample` theorems below
are the model-level images of defects that the harness replays on the real code.
-/
namespace SaVerif.Props.C04
open SaVerif.Bind

/-- the three regexes the scanners `matchA` / `matchB` / `matchAt .both` transcribe -/
theorem patterns_match :
    SaVerif.Gen.BindTables.patterns =
      ["%\\(([^)]+?)\\)s", "__\\[POSTCOMPILE_(\\S+?)(~~.+?~~)?\\]",
       "%\\(([^)]+?)\\)s|__\\[POSTCOMPILE_(\\S+?)(~~.+?~~)?\\]"] := rfl

/-- `BIND_TEMPLATES` as transcribed in `Style.template` / `pyformatTemplate` -/
theorem templates_match :
    SaVerif.Gen.BindTables.bindTemplates =
      [("format", "%%s"), ("named", ":%(name)s"), ("numeric", ":[_POSITION]"),
       ("numeric_dollar", "$[_POSITION]"), ("pyformat", "%%(%(name)s)s"), ("qmark", "?")] := rfl

/-- `bindname_escape_characters` as read from the working tree (the model takes the map
    of escaped names, `Compiled.escaped`, as given): every escaped name is free of the characters
    the scanners treat specially (`%`, `(`, `)`, `[`, `]`, space, `:` and `.`) -/
theorem escape_table_match :
    SaVerif.Gen.BindTables.escapeChars =
      [(' ', "_"), ('%', "P"), ('(', "A"), (')', "Z"), ('.', "_"), (':', "C"), ('[', "_"),
       (']', "_")] := rfl

/-- root of finding `escaped-bindname-collision` -/
theorem escape_table_not_injective :
    ∃ a b, a ≠ b ∧ (a, "_") ∈ SaVerif.Gen.BindTables.escapeChars ∧
      (b, "_") ∈ SaVerif.Gen.BindTables.escapeChars :=
  ⟨'.', ' ', by decide, by decide, by decide⟩

theorem tokens_fuel_independent (m : Mode) (s : Str) (f : Nat) (h : s.length < f) :
    tokensAux m f s = tokens m s :=
  tokensAux_fuel m h (Nat.lt_succ_self _)

/-- **scan_round_trip**: for every statement (any number of segments, any names and
    texts) satisfying the NoPattern guard of the scanning mode, the scan of the
    rendered string returns the segments themselves: each hole where it was rendered,
    with its own name (and bind-expression wrapper), and nothing else. -/
theorem scan_round_trip (m : Mode) (segs : List Seg) (h : SafeSegs m segs) :
    tokens m (renderSegs segs) = pieceToks (segs.map (Seg.toPiece m)) := by
  rw [← renderPieces_toPiece m segs]
  exact tokens_render m _ h

def placeholderOf (st : Style) : Str := if st = .format then ['%', 's'] else ['?']

/-- **positional_alignment**: under the guard, `_process_positional` replaces exactly
    the bind segments by the placeholder (`posString`) and `positiontup` lists exactly
    the names of the bind and post-compile segments in textual order (`segNames`):
    the i-th placeholder stands for the i-th name. -/
theorem positional_alignment (c : Compiled) (st : Style) (segs : List Seg)
    (hpre : c.pre = renderSegs segs) (hesc : c.escaped = [])
    (hsafe : SafeSegs .both segs) :
    processPositional c st =
      .ok { string := posString (placeholderOf st) segs,
            positiontup := some (segNames segs), nextNumericPos := 0 } := by
  unfold processPositional
  rw [hpre, scan_round_trip .both segs hsafe, hesc]
  simp only [List.isEmpty_nil, if_true, subPositional_pieceToks, hitNames_pieceToks, placeholderOf]

/-- **numeric_alignment**: under the guard of the pyformat scan, `_process_numeric`
    (for either numbering order: plain, or insertmanyvalues "non-VALUES binds first")
    replaces every bind segment by `:k` / `$k` where `k` is the 1-based position of
    that segment's own name among the numbered (non post-compile) names of
    `positiontup`; those names are distinct and the counter handed to the expansion
    step is one past their number. -/
theorem numeric_alignment (c : Compiled) (st : Style) (segs : List Seg)
    (hpre : c.pre = renderSegs segs) (hesc : c.escaped = [])
    (hsafe : SafeSegs .onlyA segs)
    (hkinds : ∀ n ∈ bindSegNames segs,
      n ∈ numericOrder c ∧ ∃ b, c.kindOf n = some b ∧ b.kind = .plain) :
    processNumeric c st =
        .ok { string := numString st.idChar
                (plainKeys (numberBinds c st.idChar (numericOrder c) 1 []).2) segs,
              positiontup := some (akeys (numberBinds c st.idChar (numericOrder c) 1 []).2),
              nextNumericPos := (numberBinds c st.idChar (numericOrder c) 1 []).1 } ∧
      NumInv st.idChar (numberBinds c st.idChar (numericOrder c) 1 []).2
        (numberBinds c st.idChar (numericOrder c) 1 []).1 ∧
      (∀ n ∈ bindSegNames segs,
        n ∈ plainKeys (numberBinds c st.idChar (numericOrder c) 1 []).2) := by
  have hinv := numberBinds_inv c st.idChar (numericOrder c) 1 [] (NumInv.init _)
  have hall : ∀ n ∈ bindSegNames segs,
      n ∈ plainKeys (numberBinds c st.idChar (numericOrder c) 1 []).2 := fun n hn =>
    mem_plainKeys_numberBinds c _ _ 1 [] n (hkinds n hn).1 (hkinds n hn).2 List.not_mem_nil
  refine ⟨?_, hinv, hall⟩
  unfold processNumeric
  generalize numberBinds c st.idChar (numericOrder c) 1 [] = r at hinv hall ⊢
  obtain ⟨num, pp⟩ := r
  simp only at hinv hall ⊢
  have hid : (pp.map (fun kv => (escapeName c.escaped kv.1, kv.2))) = pp := by
    rw [hesc]; exact List.map_id pp
  rw [hid, adict_of_nodup _ hinv.nodup, hpre, scan_round_trip .onlyA segs hsafe,
    subLookup_pieceToks st.idChar pp num hinv segs hall]
  simp [hesc]

theorem stage1_positional (c : Compiled) {st : Style} (hst : st = .qmark ∨ st = .format) :
    stage1 c st = processPositional c st := by
  rcases hst with rfl | rfl <;> rfl

theorem stage1_numeric (c : Compiled) {st : Style} (hst : st = .numeric ∨ st = .numericDollar) :
    stage1 c st = processNumeric c st := by
  rcases hst with rfl | rfl <;> rfl

/-- **positional_delivery**: qmark / format, no expanding or literal-execute
    parameter: the DBAPI receives the statement with one placeholder per bind segment
    and the tuple whose i-th element is the value of the i-th bind segment's own
    parameter — whatever the texts, names, number and order of the segments. -/
theorem positional_delivery (c : Compiled) (st : Style) (segs : List Seg)
    (params : List (Str × PVal)) (env : Str → PVal)
    (hst : st = .qmark ∨ st = .format)
    (hpre : c.pre = renderSegs segs) (hesc : c.escaped = [])
    (hsafe : SafeSegs .both segs) (hpc : hasPostCompile c = false)
    (henv : ∀ n ∈ segNames segs, alookup n params = some (env n)) :
    initCompiled c st params =
      .ok (posString (placeholderOf st) segs, .tuple ((segNames segs).map env)) := by
  have hp : st.positional = true := by rcases hst with rfl | rfl <;> rfl
  have hcol := collectPos_map params id env _ henv
  rw [List.map_id] at hcol
  unfold initCompiled
  rw [stage1_positional c hst, positional_alignment c st segs hpre hesc hsafe]
  simp only [hpc, Bool.false_eq_true, if_false, hp, if_true, hcol]

/-- **numeric_delivery**: numeric / numeric_dollar, nothing post-compiled: the tuple is
    the values of the names of `positiontup` in order -/
theorem numeric_delivery (c : Compiled) (st : Style) (segs : List Seg)
    (params : List (Str × PVal)) (env : Str → PVal)
    (hst : st = .numeric ∨ st = .numericDollar)
    (hpre : c.pre = renderSegs segs) (hesc : c.escaped = [])
    (hsafe : SafeSegs .onlyA segs) (hpc : hasPostCompile c = false)
    (hkinds : ∀ n ∈ bindSegNames segs,
      n ∈ numericOrder c ∧ ∃ b, c.kindOf n = some b ∧ b.kind = .plain)
    (henv : ∀ n ∈ akeys (numberBinds c st.idChar (numericOrder c) 1 []).2,
      alookup n params = some (env n)) :
    initCompiled c st params =
        .ok (numString st.idChar
               (plainKeys (numberBinds c st.idChar (numericOrder c) 1 []).2) segs,
             .tuple ((akeys (numberBinds c st.idChar (numericOrder c) 1 []).2).map env)) := by
  have hp : st.positional = true := by rcases hst with rfl | rfl <;> rfl
  have hcol := collectPos_map params id env _ henv
  rw [List.map_id] at hcol
  unfold initCompiled
  rw [stage1_numeric c hst, (numeric_alignment c st segs hpre hesc hsafe hkinds).1]
  simp only [hpc, Bool.false_eq_true, if_false, hp, if_true, hcol]

/-- the name numbered `k` among `plainKeys pp` has its value at index `k - 1` of the
    tuple, if `plainKeys pp = akeys pp` (assumed here; `numeric_delivery` does not derive it) -/
theorem numeric_placeholder_value (idc : Char) (pp : List (Str × Option Str)) (num : Nat)
    (_hinv : NumInv idc pp num) (hall : plainKeys pp = akeys pp) (env : Str → PVal) (n : Str)
    (hn : n ∈ plainKeys pp) :
    ((akeys pp).map env)[(plainKeys pp).idxOf n + 1 - 1]? = some (env n) := by
  have hlt := List.idxOf_lt_length_of_mem hn
  rw [← hall]
  simp only [Nat.add_sub_cancel, List.getElem?_map]
  rw [List.getElem?_eq_getElem hlt]
  simp

/-- the replacement text of an expanding parameter (what `process_expanding` inserts) -/
def replOf (c : Compiled) (st : Style) (params : List (Str × PVal)) (n : Str) : Str :=
  match c.kindOf n, alookup n params with
  | some b, some (.many vs) => (leep st b n vs).2
  | _, _ => []

theorem pc_mem_segNames {segs : List Seg} {n : Str} {g : Option Str} (h : Seg.pc n g ∈ segs) :
    n ∈ segNames segs := by
  induction segs with
  | nil => cases h
  | cons s r ih =>
    rcases List.mem_cons.mp h with rfl | h'
    · exact List.mem_cons_self ..
    · cases s <;> simp [segNames, ih h']

/-- **expanding_alignment** (qmark / format): for ANY statement — any number and order
    of text, bind and expanding-IN segments, any list lengths including empty — whose
    names are distinct and whose generated names `name_1 … name_k` are fresh
    (`NoClash`; finding `expanded-name-clashes-with-bind-name` is its negation), the
    DBAPI receives the statement in which every expanding token has been replaced by
    its `k` placeholders (or the empty-set expression) and a parameter tuple that is
    the concatenation, in textual order, of each plain parameter's value and each
    expanding parameter's elements: expansion of one parameter never shifts the
    values of the parameters after it. -/
theorem expanding_alignment (c : Compiled) (st : Style) (segs : List Seg)
    (params : List (Str × PVal))
    (hst : st = .qmark ∨ st = .format)
    (hpre : c.pre = renderSegs segs) (hesc : c.escaped = [])
    (hsafe : SafeSegs .both segs)
    (hsafeB : SafeSegs .onlyB (posSegs (placeholderOf st) segs))
    (hpc : hasPostCompile c = true)
    (hnc : NoClash c st params (segNames segs))
    (hok : ∀ n ∈ segNames segs, NameOk c params n)
    (hpcs : ∀ n g, Seg.pc n g ∈ segs → g = none ∧ isExpanding c n = true) :
    initCompiled c st params =
      .ok (expString (placeholderOf st) (replOf c st params) segs,
           .tuple (((segNames segs).flatMap (contrib c st params)).map (·.2))) := by
  have hp : st.positional = true := by rcases hst with rfl | rfl <;> rfl
  have hn : st.isNumeric = false := by rcases hst with rfl | rfl <;> rfl
  obtain ⟨s', hloop, hinv⟩ := pcLoop_inv hesc hp hn hnc hok
    (segNames segs) [] _ (List.nil_append _) (LoopInv.init c st params)
  have hrepl : ∀ n g, Seg.pc n g ∈ segs → g = none ∧
      alookup n s'.repl = some (replOf c st params n) := by
    intro n g hm
    obtain ⟨hg, hex⟩ := hpcs n g hm
    refine ⟨hg, ?_⟩
    have hin := pc_mem_segNames hm
    rcases hok n hin with ⟨b, v, hk, hpl, hv⟩ | ⟨b, vs, hk, hpe, hv⟩
    · rw [isExpanding_of hk] at hex; simp [hpl] at hex
    · rw [hinv.repl n hin b vs hk hpe hv]
      simp [replOf, hk, hv]
  have hgen : ∀ kv ∈ (segNames segs).flatMap (contrib c st params),
      alookup kv.1 s'.params = some kv.2 := by
    intro kv hkv
    obtain ⟨m, hm, hkm⟩ := List.mem_flatMap.mp hkv
    rcases contrib_key_cases hnc hm (hok m hm) kv hkm with h | h
    · exact hinv.generated kv hkv (.inl h)
    · exact hinv.generated kv hkv (.inr (h.1 ▸ h.2))
  unfold initCompiled
  rw [stage1_positional c hst, positional_alignment c st segs hpre hesc hsafe]
  simp only [hpc, if_true]
  unfold postcompile
  simp only [hp, if_true, hloop, hn, Bool.and_false, Bool.false_eq_true, if_false]
  rw [posString_eq, scan_round_trip .onlyB _ hsafeB,
    subExpanding_posSegs (placeholderOf st) s'.repl (replOf c st params) segs hrepl]
  simp only [hinv.newPos]
  rw [collectPos_map s'.params Prod.fst Prod.snd _ hgen]

def f2Pre : Str := "INSERT INTO w (\"%(id)s\") VALUES (%(id)s)".toList

/-- **positional_counterexample** (finding F2): a quoted identifier `"%(id)s"` in the
    text is taken for a bind: two positions are recorded for a statement with one
    bind, and the identifier is rewritten to `"?"`. -/
theorem positional_counterexample :
    processPositional { pre := f2Pre, binds := [⟨"id".toList, .plain, []⟩], escaped := [],
                        valuesBind := none } .qmark =
      .ok { string := "INSERT INTO w (\"?\") VALUES (?)".toList,
            positiontup := some ["id".toList, "id".toList], nextNumericPos := 0 } := by
  -- the kernel decodes UTF-8 byte by byte in `String.toList`: literals to lists first
  unfold f2Pre
  repeat rw [String.toList_ofList]
  decide +kernel

/-- a literal-execute parameter whose name needs escaping is inlined and nothing is left
    to bind (`parameters.pop(name)`, not `pop(escaped_name)`; former finding
    `literal-execute-escaped-name-keyerror`, fixed in /repo by 35f86e1) -/
theorem literal_execute_escaped_name_inlined :
    initCompiled { pre := "SELECT __[POSTCOMPILE_a_b]".toList,
                   binds := [⟨"a.b".toList, .litExec, []⟩],
                   escaped := [("a.b".toList, "a_b".toList)], valuesBind := none }
      .qmark [("a.b".toList, .one "7".toList)] = .ok ("SELECT 7".toList, .tuple []) := by
  repeat rw [String.toList_ofList]
  decide +kernel

/-- finding `escaped-bindname-collision` (named style): `a.b` and `a b` both escape to
    `a_b`; the DBAPI dict has ONE entry, so both placeholders take the value of the
    second parameter -/
theorem escaped_collision_counterexample :
    initCompiled { pre := "x = :a_b AND y = :a_b".toList,
                   binds := [⟨"a.b".toList, .plain, []⟩, ⟨"a b".toList, .plain, []⟩],
                   escaped := [("a.b".toList, "a_b".toList), ("a b".toList, "a_b".toList)],
                   valuesBind := none }
      .named [("a.b".toList, .one "1".toList), ("a b".toList, .one "2".toList)] =
      .ok ("x = :a_b AND y = :a_b".toList, .dict [("a_b".toList, .one "2".toList)]) := by
  repeat rw [String.toList_ofList]
  decide +kernel

/-- finding `expanded-name-clashes-with-bind-name`: expanding parameter `x` with
    three values generates `x_1 … x_3`; the unrelated parameter `x_1` (value 25) is
    overwritten by the first IN element (10) -/
theorem expanded_name_clash_counterexample :
    initCompiled { pre := "x > %(x_1)s AND x IN (__[POSTCOMPILE_x])".toList,
                   binds := [⟨"x_1".toList, .plain, []⟩, ⟨"x".toList, .expanding, []⟩],
                   escaped := [], valuesBind := none }
      .qmark [("x_1".toList, .one "25".toList),
              ("x".toList, .many ["10".toList, "30".toList, "50".toList])] =
      .ok ("x > ? AND x IN (?, ?, ?)".toList,
           .tuple [.one "10".toList, .one "10".toList, .one "30".toList, .one "50".toList]) := by
  repeat rw [String.toList_ofList]
  decide +kernel

/-! Non-vacuity: the guards are satisfiable by non-trivial statements. -/

def exSegs : List Seg :=
  [.text "SELECT t.x % ".toList, .bind "p_1".toList, .text " FROM t WHERE t.y IN (".toList,
   .pc "y_1".toList none, .text ") AND lower(t.s) IN (".toList,
   .pc "s_1".toList (some "lower(~~REPL~~)".toList), .text ") LIMIT ".toList,
   .bind "param_1".toList]

theorem exSegs_safe :
    SafeSegs .both exSegs ∧ SafeSegs .onlyA exSegs ∧ SafeSegs .onlyB exSegs := by
  unfold exSegs
  repeat rw [String.toList_ofList]
  decide +kernel

example : SafeSegs .both exSegs := exSegs_safe.1

example : SafeSegs .onlyA exSegs := exSegs_safe.2.1

example : SafeSegs .onlyB exSegs := exSegs_safe.2.2

def exC : Compiled :=
  { pre := renderSegs exSegs2, binds := [⟨"a".toList, .plain, []⟩, ⟨"b".toList, .expanding, "NOTHING".toList⟩],
    escaped := [], valuesBind := none }
where exSegs2 : List Seg :=
  [.text "x > ".toList, .bind "a".toList, .text " AND y IN (".toList, .pc "b".toList none,
   .text ")".toList]

def exParams : List (Str × PVal) :=
  [("a".toList, .one "1".toList), ("b".toList, .many ["2".toList, "3".toList])]

/-- the hypotheses of `expanding_alignment` are satisfiable, and its conclusion is the
    expected call -/
example :
    initCompiled exC .qmark exParams =
      .ok ("x > ? AND y IN (?, ?)".toList,
           .tuple [.one "1".toList, .one "2".toList, .one "3".toList]) := by
  rw [expanding_alignment exC .qmark exC.exSegs2 exParams (.inl rfl) rfl rfl]
  case hpc => rfl
  case hnc => exact ⟨by decide +kernel, by decide +kernel, by decide +kernel⟩
  case hok =>
    have : segNames exC.exSegs2 = ["a".toList, "b".toList] := rfl
    rw [this, List.forall_mem_cons, List.forall_mem_singleton]
    exact ⟨.inl ⟨⟨"a".toList, .plain, []⟩, "1".toList, by decide +kernel, rfl, by decide +kernel⟩,
      .inr ⟨⟨"b".toList, .expanding, "NOTHING".toList⟩, ["2".toList, "3".toList],
        by decide +kernel, rfl, by decide +kernel⟩⟩
  case hpcs =>
    intro n g hm
    simp only [exC.exSegs2, List.mem_cons, List.mem_nil_iff, or_false, reduceCtorEq,
      false_or, Seg.pc.injEq] at hm
    obtain ⟨rfl, rfl⟩ := hm
    exact ⟨rfl, by decide +kernel⟩
  -- left: the conclusion and the two `SafeSegs` guards
  all_goals
    simp only [exC.exSegs2, exParams]
    repeat rw [String.toList_ofList]
    decide +kernel

example : segNames exSegs = ["p_1".toList, "y_1".toList, "s_1".toList, "param_1".toList] :=
  rfl

end SaVerif.Props.C04
