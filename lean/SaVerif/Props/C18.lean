import SaVerif.Gen.LimitForms
/-!
# C18 — LIMIT/OFFSET and their dialect emulations return exactly the requested slice

For every rendering form the list semantics of the rendered SQL equals
`slice off lim rows` (`rows.drop off`, cut to `lim` rows if there is a limit) of the fully
ordered result, for every result list and every pair of numbers.  The MSSQL ROW_NUMBER()
wrapper carries no ORDER BY on the outer query (finding F13): for it the statement is proved up
to permutation for an arbitrary arrangement of the derived table, and exactly when the derived
table keeps the numbering order.
-/
namespace SaVerif.Props.C18
open SaVerif.Limit

/-- `LIMIT l OFFSET o`; `LIMIT -1` / `LIMIT ALL` = no limit -/
theorem limit_offset_is_slice {α : Type} (o : Nat) (l : Option Nat) (rows : List α) :
    limitOffset (l.map (fun n => (n : Int))) o rows = slice o l rows := by
  cases l with
  | none => rfl
  | some n =>
    simp only [limitOffset, sqlLimit, slice]
    have : ¬ ((n : Int) < 0) := by omega
    simp [this]

/-- SQLite renders an OFFSET without LIMIT as `LIMIT -1 OFFSET o` -/
theorem sqlite_limit_minus_one_is_slice {α : Type} (o : Nat) (rows : List α) :
    limitOffset (some (-1)) o rows = slice o none rows := by
  simp [limitOffset, sqlLimit, slice]

/-- MySQL `LIMIT o, l` -/
theorem mysql_limit_is_slice {α : Type} (o l : Nat) (rows : List α) :
    mysqlLimit o l rows = slice o (some l) rows := rfl

/-- MySQL renders an OFFSET without LIMIT as `LIMIT o, 18446744073709551615`: the slice,
    as long as the result has at most 2^64-1 rows -/
theorem mysql_offset_only_is_slice {α : Type} (o : Nat) (rows : List α)
    (h : rows.length ≤ 18446744073709551615) :
    mysqlLimit o 18446744073709551615 rows = slice o none rows := by
  simp only [mysqlLimit, slice]
  apply List.take_of_length_le
  rw [List.length_drop]; omega

/-- `OFFSET o ROWS FETCH FIRST l ROWS ONLY` (PostgreSQL fetch(), MSSQL 2012+, Oracle 12c+) -/
theorem offset_fetch_is_slice {α : Type} (o : Nat) (l : Option Nat) (rows : List α) :
    offsetFetch o l rows = slice o l rows := by
  cases l <;> rfl

/-- `SELECT TOP l` (MSSQL, only rendered without OFFSET) -/
theorem top_is_slice {α : Type} (l : Nat) (rows : List α) :
    top l rows = slice 0 (some l) rows := by
  simp [top, slice]

/-- `k` is the number of the first row; it is there for the induction, the callers put 0 -/
theorem filter_zipIdx_gt {α : Type} (n : Nat) : ∀ (off k : Nat) (rows : List α), n = off + k →
    (rows.zipIdx k).filter (fun x => decide (n < x.2 + 1)) = (rows.drop off).zipIdx n := by
  intro off
  induction off with
  | zero =>
    intro k rows h
    rw [Nat.zero_add] at h
    subst h
    exact List.filter_eq_self.2 fun x hx =>
      decide_eq_true (Nat.lt_succ_of_le (List.le_snd_of_mem_zipIdx hx))
  | succ o ih =>
    intro k rows h
    cases rows with
    | nil => rfl
    | cons a t =>
      have hk : ¬ n < k + 1 := by omega
      rw [List.zipIdx_cons, List.filter_cons, if_neg (by simpa using hk), List.drop_succ_cons]
      exact ih (k + 1) t (by omega)

theorem filter_zipIdx_le {α : Type} (n : Nat) : ∀ (lim k : Nat) (rows : List α), n = lim + k →
    (rows.zipIdx k).filter (fun x => decide (x.2 + 1 ≤ n)) = (rows.take lim).zipIdx k := by
  intro lim
  induction lim with
  | zero =>
    intro k rows h
    refine List.filter_eq_nil_iff.2 fun x hx => ?_
    have := List.le_snd_of_mem_zipIdx hx
    simp only [decide_eq_true_eq]
    omega
  | succ l ih =>
    intro k rows h
    cases rows with
    | nil => rfl
    | cons a t =>
      have hk : k + 1 ≤ n := by omega
      rw [List.zipIdx_cons, List.filter_cons, if_pos (by simpa using hk), List.take_succ_cons,
        List.zipIdx_cons, ih (k + 1) t (by omega)]

theorem numbered_map_fst {α : Type} (rows : List α) : (numbered rows).map (·.1) = rows := by
  unfold numbered
  rw [List.map_map]
  exact List.zipIdx_map_fst 0 rows

theorem numbered_gt_map_fst {α : Type} (off : Nat) (rows : List α) :
    ((numbered rows).filter (fun x => decide (off < x.2))).map (·.1) = rows.drop off := by
  unfold numbered
  rw [List.filter_map, List.map_map]
  exact (congrArg (List.map (·.1)) (filter_zipIdx_gt off off 0 rows rfl)).trans (List.zipIdx_map_fst _ _)

theorem numbered_le {α : Type} (n : Nat) (rows : List α) :
    (numbered rows).filter (fun x => decide (x.2 ≤ n)) = numbered (rows.take n) := by
  unfold numbered
  rw [List.filter_map]
  exact congrArg _ (filter_zipIdx_le n n 0 rows rfl)

/-- the wrapper applied to the derived table in numbering order is exactly the slice, for
    every combination of offset / limit for which the wrapper is rendered -/
theorem row_number_wrapper_is_slice_ordered {α : Type} (o l : Option Nat) (rows : List α)
    (h : o.isSome ∨ l.isSome) :
    rowNumberWrapper o l (numbered rows) = slice (o.getD 0) l rows := by
  unfold rowNumberWrapper
  cases o with
  | none =>
    cases l with
    | none => simp at h
    | some lim =>
      simp only [rnPred]
      rw [numbered_le, numbered_map_fst]
      rfl
  | some off =>
    cases l with
    | none => exact numbered_gt_map_fst off rows
    | some lim =>
      simp only [rnPred]
      rw [← List.filter_filter, numbered_le, numbered_gt_map_fst, List.drop_take, Nat.add_sub_cancel]
      rfl

/-- (F13) the derived table of the MSSQL wrapper has
    no ORDER BY and neither has the outer query, so SQL lets its rows arrive in any
    order; whatever that order, the rows returned are exactly the rows of the slice — as a
    multiset.  (The full "in slice order" statement is not provable: see the
    counterexample.) -/
theorem row_number_wrapper_is_slice_perm {α : Type} (o l : Option Nat) (rows : List α)
    (inner : List (α × Nat)) (hinner : inner.Perm (numbered rows))
    (h : o.isSome ∨ l.isSome) :
    (rowNumberWrapper o l inner).Perm (slice (o.getD 0) l rows) := by
  rw [← row_number_wrapper_is_slice_ordered o l rows h]
  unfold rowNumberWrapper
  exact (hinner.filter _).map _

/-- with a derived table delivered in another order the wrapper returns the slice's rows in
    another order: nothing in the rendered SQL forbids it -/
theorem row_number_wrapper_order_counterexample :
    ∃ (rows : List Nat) (inner : List (Nat × Nat)),
      inner.Perm (numbered rows) ∧
      rowNumberWrapper (some 1) (some 2) inner ≠ slice 1 (some 2) rows :=
  ⟨[10, 20, 30, 40], [(30, 3), (20, 2), (10, 1), (40, 4)], by decide +kernel, by decide +kernel⟩

/-- Oracle's pre-12c forms (limit only, offset only, both),
    with `max_row = limit + offset` as the code computes it -/
theorem rownum_wrapper_is_slice {α : Type} (o l : Option Nat) (rows : List α) :
    rownumWrapper o l rows = slice (o.getD 0) l rows := by
  cases o with
  | none =>
    cases l <;> simp [rownumWrapper, slice]
  | some off =>
    cases l with
    | none => exact numbered_gt_map_fst off rows
    | some lim => exact (numbered_gt_map_fst off _).trans (by rw [List.drop_take, Nat.add_sub_cancel]; rfl)

/-- Python `l[a:b]` for `0 ≤ a`, `0 ≤ b` -/
def pySlice (a : Nat) (b : Option Nat) (l : List α) : List α :=
  match b with
  | none => l.drop a
  | some stop => (l.take stop).drop a

/-- `stmt.offset(k).slice(a, b)` / `q.offset(k)[a:b]` must select
    `rows[k:][a:b]`; that is the slice with offset `k + a` and limit `b - a` which
    `_make_slice` computes (it must ADD the slice start to the existing offset — also when
    the start is 0 — and never drop it). -/
theorem slice_after_offset {α : Type} (k a : Nat) (b : Option Nat) (rows : List α) :
    pySlice a b (rows.drop k) = slice (k + a) (b.map (· - a)) rows := by
  cases b with
  | none => simp [pySlice, slice, List.drop_drop]
  | some stop =>
    simp only [pySlice, slice, Option.map_some]
    rw [List.drop_take, List.drop_drop, Nat.add_comm]

theorem slice_zero_keeps_offset {α : Type} (k n : Nat) (rows : List α) :
    pySlice 0 (some n) (rows.drop k) = slice k (some n) rows := by
  simpa using slice_after_offset k 0 (some n) rows

theorem with_ties_extends_slice {α κ : Type} [BEq κ] (key : α → κ) (o l : Nat) (rows : List α) :
    slice o (some l) rows <+: withTies key o l rows ∧
    ∀ last, (slice o (some l) rows).getLast? = some last →
      ∀ r ∈ (withTies key o l rows).drop (slice o (some l) rows).length, (key r == key last) = true := by
  unfold withTies slice
  simp only
  cases hlast : ((rows.drop o).take l).getLast? with
  | none =>
    refine ⟨List.prefix_refl _, ?_⟩
    intro last h; cases h
  | some last =>
    refine ⟨List.prefix_append _ _, ?_⟩
    intro last' h
    cases h
    intro r hr
    simp only [List.drop_left] at hr
    have hall := List.all_takeWhile (l := (rows.drop o).drop l) (p := fun r => key r == key last)
    rw [List.all_eq_true] at hall
    exact hall r hr

theorem with_ties_zero {α κ : Type} [BEq κ] (key : α → κ) (o : Nat) (rows : List α) :
    withTies key o 0 rows = [] := by
  simp [withTies]

theorem percent_count_bounds (n p : Nat) (hp : p ≤ 100) :
    percentCount n p ≤ n ∧ (0 < n → 0 < p → 0 < percentCount n p) ∧ percentCount n 100 = n := by
  unfold percentCount
  refine ⟨?_, ?_, by omega⟩
  · have : n * p ≤ n * 100 := Nat.mul_le_mul_left n hp
    omega
  · intro hn hp0
    have : 1 ≤ n * p := Nat.mul_pos hn hp0
    omega

/-- every probe of every dialect configuration renders a form able to express what was
    asked (`TOP` never together with an OFFSET, no form silently dropped) -/
theorem forms_applicable :
    ∀ r ∈ Gen.LimitForms.rows, formApplicable r = true := by decide +kernel

/-- the emulations are only used by the configurations without OFFSET/FETCH support -/
theorem wrappers_only_where_needed :
    ∀ r ∈ Gen.LimitForms.rows,
      (r.form = .rowNumber → r.dialect = "mssql2008") ∧ (r.form = .rownum → r.dialect = "oracle11") := by
  decide +kernel

theorem modern_dialects_use_native_forms :
    ∀ r ∈ Gen.LimitForms.rows,
      r.dialect ∈ ["sqlite", "postgresql", "mysql", "mssql2012", "oracle12"] →
      r.form ≠ .rowNumber ∧ r.form ≠ .rownum := by decide +kernel

example : slice 1 (some 2) [10, 20, 30, 40] = [20, 30] := by decide +kernel
example : rowNumberWrapper (some 1) (some 2) (numbered [10, 20, 30, 40]) = [20, 30] := by decide +kernel
example : rownumWrapper (some 1) (some 2) [10, 20, 30, 40] = [20, 30] := by decide +kernel
example : rownumWrapper (some 5) (some 2) [10, 20, 30, 40] = ([] : List Nat) := by decide +kernel
example : limitOffset (some (-1)) 3 [10, 20, 30, 40] = [40] := by decide +kernel
example : withTies (fun (r : Nat × Nat) => r.2) 0 2 [(1, 5), (2, 7), (3, 7), (4, 9)]
    = [(1, 5), (2, 7), (3, 7)] := by decide +kernel
example : percentCount 7 30 = 3 := by decide +kernel

end SaVerif.Props.C18
