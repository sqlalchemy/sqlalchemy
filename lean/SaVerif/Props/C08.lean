import SaVerif.Lemmas.Like
/-!
# C08 — LIKE-based string operators with autoescape match literal semantics

Property theorems about the LIKE model (`SaVerif/Model/Like.lean`: transcription of
`_escaped_like_impl`, of the compiler's `'%' || ? || '%'` renderings and of SQLite's
`patternCompare`; `likeStd` is the SQL-standard matcher assumed for PostgreSQL/MySQL).

The full statement is false:

    theorem autoescape_correct (op : Op) (escape : Option Char) (p s : List Char) :
        evalSqlite false op escape true p s = (pyTest op.kind p' s' != op.neg)
      -- p', s' = p, s  (case-sensitive variants)  or  lowerS p, lowerS s  (i-variants)

It fails for exactly two input shapes, each with a `_counterexample` below and a
known finding replayed on the real code:
  * escape = "%"   (the compiler's own wildcards are `%`, which is then the escape too)
  * i-variants rendered with lower() and an escape character that is an ASCII letter
    (lower() is applied to the escaped bind value, destroying/creating escapes)
The `…_partial` theorems carry the forced hypotheses.  `_` is an admissible escape everywhere
(`escapeLike_spec` is unconditional: the escaping is a single pass); under the three chained
`replace` calls that commit 0431c3c of /repo replaces it is not: with escape `_` they turn `%` into
`__%` (finding `autoescape-escape-underscore-operand-has-percent`).
-/
namespace SaVerif.Props.C08
open SaVerif.Like SaVerif.Gen.LikeDefaults

/-- the specification: Python's `p in s`, `s.startswith(p)`, `s.endswith(p)` -/
def Holds : Kind → List Char → List Char → Prop
  | .contains, p, s => p <:+: s
  | .startswith, p, s => p <+: s
  | .endswith, p, s => p <:+ s

/-- the executable `pyTest` of the model (what the harness compares with CPython) is
    the mathematical prefix / suffix / infix relation -/
theorem pyTest_iff (k : Kind) (p s : List Char) : pyTest k p s = true ↔ Holds k p s := by
  cases k with
  | startswith => simp [pyTest, Holds]
  | endswith => simp [pyTest, Holds]
  | contains =>
    simp only [pyTest, Holds, anySuffix_iff, List.isPrefixOf_iff_prefix,
      List.infix_iff_prefix_suffix, and_comm]

example : pyTest .contains ['%', 'a'] ['x', '%', 'a', '_'] = true := by decide +kernel
example : pyTest .endswith ['a'] ['a', 'b'] = false := by decide +kernel

/-- for every escape character and every operand, the code puts exactly
    one escape character in front of every `%`, `_` and escape character. -/
theorem escapeLike_spec (esc : Char) (p : List Char) : escapeLike esc p = lit esc p :=
  escapeLike_eq_lit esc p

example : escapeLike '/' ['a', '%', '/', '_'] = ['a', '/', '%', '/', '/', '/', '_'] := by decide +kernel
example : escapeLike '_' ['%', '_'] = ['_', '%', '_', '_'] := by decide +kernel

/-- for every operand `p`, text `s` and escape character
    other than `%` (so `_` included), the rendered pattern matches exactly when the Python
    test holds. -/
theorem sqlite_like_correct_partial (esc : Char) (h1 : esc ≠ '%')
    (k : Kind) (p s : List Char) :
    likeSqlite false (some esc) (wrap k (escapeLike esc p)) s = true ↔ Holds k p s := by
  rw [sqlite_Lit_pyTest _ ((mAll_some esc).2 h1) (Lit_escapeLike esc p)]
  exact pyTest_iff k p s

example : likeSqlite false (some '_') (wrap .contains (escapeLike '_' ['%'])) ['a', '%'] = true := by decide +kernel
example : likeSqlite false (some '_') (wrap .contains (escapeLike '_' ['%'])) ['_', 'x'] = false := by decide +kernel

example : likeSqlite false (some '/') (wrap .contains (escapeLike '/' ['%', '_'])) ['a', '%', '_', 'b'] = true := by
  decide +kernel
example : likeSqlite false (some '/') (wrap .contains (escapeLike '/' ['%', '_'])) ['a', '%', 'x', 'b'] = false := by
  decide +kernel

/-- SQLite's default configuration (LIKE is ASCII case-insensitive): the same operators
    implement the case-folded test. -/
theorem sqlite_like_nocase_correct_partial (esc : Char) (h1 : esc ≠ '%')
    (k : Kind) (p s : List Char) :
    likeSqlite true (some esc) (wrap k (escapeLike esc p)) s = true ↔
      Holds k (lowerS p) (lowerS s) := by
  rw [sqlite_Lit true _ ((mAll_some esc).2 h1) (Lit_escapeLike esc p), raw_ceq_true, raw_beq]
  exact pyTest_iff k _ _

/-- the case-sensitive operators, their negations included -/
theorem sqlite_op_correct_partial (op : Op) (escape : Option Char) (p s : List Char)
    (hc : op.icase = false) (h1 : escape.getD defaultEscape ≠ '%') :
    evalSqlite false op escape true p s = (pyTest op.kind p s != op.neg) :=
  evalSqlite_Lit op escape true p s hc ((mAll_some _).2 h1) (Lit_escapeLike _ p)

example : evalSqlite false ⟨.endswith, false, true⟩ none true ['_'] ['a', 'b'] = true := by decide +kernel

/-- the i-variants, rendered `lower(col) LIKE … lower(?) …`; either `case_sensitive_like`
    setting -/
theorem sqlite_iop_correct_partial (nc : Bool) (op : Op) (escape : Option Char) (p s : List Char)
    (hi : op.icase = true) (h1 : escape.getD defaultEscape ≠ '%')
    (h3 : Caseless (escape.getD defaultEscape)) :
    evalSqlite nc op escape true p s = (pyTest op.kind (lowerS p) (lowerS s) != op.neg) := by
  have key : likeSqlite nc (some (escape.getD defaultEscape))
      (wrap op.kind (lowerS (escapeLike (escape.getD defaultEscape) p))) (lowerS s)
        = pyTest op.kind (lowerS p) (lowerS s) := by
    rw [escapeLike_eq_lit, lowerS_lit _ h3, Bool.eq_iff_iff,
      sqlite_Lit nc _ ((mAll_some _).2 h1) (lit_Lit _ (lowerS p)), raw_ceq_lower]
    exact raw_beq _ _ _
  simp only [evalSqlite, effective, if_true, hi, key]
  cases op.neg <;> simp

/-- the hypothesis `Caseless` can be met: the default escape `/` -/
example : Caseless '/' := caseless_of_not_letter _ (by decide) (by decide)
example : evalSqlite true ⟨.contains, true, false⟩ (some '^') true ['A', '%'] ['x', 'a', '%'] = true := by
  decide +kernel

/-- with the default escape (`escape=None`, read from the
    source by the translator) no side condition remains — all twelve operators, any
    operand, any text, either `case_sensitive_like` setting for the i-variants. -/
theorem autoescape_default_correct (op : Op) (p s : List Char) :
    (op.icase = false → evalSqlite false op none true p s = (pyTest op.kind p s != op.neg)) ∧
    (op.icase = true → ∀ nc, evalSqlite nc op none true p s =
        (pyTest op.kind (lowerS p) (lowerS s) != op.neg)) := by
  obtain ⟨hpct, -, hupper, hlower⟩ := gen_default
  exact ⟨fun hc => sqlite_op_correct_partial op none p s hc hpct, fun hi nc =>
    sqlite_iop_correct_partial nc op none p s hi hpct (caseless_of_not_letter _ hupper hlower)⟩

/-- explicit `escape=` without autoescape, operand escaped by the caller -/
theorem sqlite_explicit_escape_correct_partial (op : Op) (esc : Char) (q s : List Char)
    (hc : op.icase = false) (h1 : esc ≠ '%') :
    evalSqlite false op (some esc) false (lit esc q) s = (pyTest op.kind q s != op.neg) :=
  evalSqlite_Lit op (some esc) false _ s hc ((mAll_some esc).2 h1) (lit_Lit esc q)

/-- LIKE under the standard reading: any escape other than `%` -/
theorem std_like_correct_partial (esc : Char) (h1 : esc ≠ '%') (k : Kind) (p s : List Char) :
    likeStd false (some esc) (wrap k (escapeLike esc p)) s = true ↔ Holds k p s := by
  rw [escapeLike_eq_lit, std_lit false esc h1, ceq_false, raw_beq]
  exact pyTest_iff k p s

/-- native ILIKE (PostgreSQL rendering): no caselessness condition on the escape -/
theorem std_ilike_correct_partial (esc : Char) (h1 : esc ≠ '%') (k : Kind) (p s : List Char) :
    likeStd true (some esc) (wrap k (escapeLike esc p)) s = true ↔
      Holds k (lowerS p) (lowerS s) := by
  rw [escapeLike_eq_lit, std_lit true esc h1, raw_ceq_true, raw_beq]
  exact pyTest_iff k _ _

example : likeStd true (some 'a') (wrap .contains (escapeLike 'a' ['A', 'b'])) ['x', 'a', 'B'] = true := by
  decide +kernel

/-- escape `%`: `'a'.contains('a')` is not matched (SQLite: the trailing wildcard is a
    dangling escape; PostgreSQL raises for the same reason) -/
theorem escape_percent_counterexample :
    evalSqlite false ⟨.contains, false, false⟩ (some '%') true ['a'] ['a'] = false ∧
      pyTest .contains ['a'] ['a'] = true ∧
    evalStd false ⟨.startswith, false, false⟩ (some '%') true ['a'] ['a'] = false := by
  decide +kernel

/-- lower()-rendered i-variant with a letter as escape: `icontains('Ab', escape='a')`
    matches `b` -/
theorem icase_letter_escape_counterexample :
    evalSqlite false ⟨.contains, true, false⟩ (some 'a') true ['A', 'b'] ['b'] = true ∧
      pyTest .contains (lowerS ['A', 'b']) (lowerS ['b']) = false ∧
    evalSqlite false ⟨.contains, true, false⟩ (some 'A') true ['x', 'A', 'y'] ['x', 'a', 'y'] = false ∧
      pyTest .contains (lowerS ['x', 'A', 'y']) (lowerS ['x', 'a', 'y']) = true := by
  decide +kernel

end SaVerif.Props.C08
