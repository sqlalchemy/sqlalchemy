import SaVerif.Model.Visit
/-!
# C22 — Compiling a well-formed construct never fails with an internal error
(the part that is a finite table: visitor dispatch)

`Gen/VisitTable.lean` is regenerated from the working tree on every run: one row per
(built-in dialect, compiler kind, `__visit_name__` of a Visitable class).  A new construct
without compiler support, a renamed `visit_` method or a dialect compiler overriding
`visit_unsupported_compilation` with something else changes the table and re-runs these.
-/
namespace SaVerif.Props.C22
open SaVerif.Visit SaVerif.Gen.VisitTable

/-- on each of the six dialects (0 = sqlite, 1 = postgresql, 2 = mysql, 3 = mariadb, 4 = mssql,
    5 = oracle) and three compiler kinds (0 = sql, 1 = ddl, 2 = type) of the table,
    `visit_unsupported_compilation` is the documented one: it raises UnsupportedCompilationError -/
theorem fallback_documented_everywhere :
    ∀ d < 6, ∀ k < 3, fallbackOK d k = true := by decide +kernel

/-- for every visit name whatsoever (in the table or not),
    on every dialect and compiler kind, dispatch calls a method or raises
    UnsupportedCompilationError -/
theorem dispatch_never_internal (d k : Nat) (hd : d < 6) (hk : k < 3) (name : String) :
    dispatch d k name ≠ .internal := by
  unfold dispatch
  rw [fallback_documented_everywhere d hd k hk]
  split <;> simp

-- The rows of one compiler kind are picked out first: that list mentions neither the dialect nor
-- the name, so a sweep over dialects and names walks the whole table only once.
theorem hasMethod_filter (d k : Nat) (n : String) :
    hasMethod d k n =
      ((rows.filter fun r => r.2.1 == k && r.2.2.2).filter fun r => r.1 == d).any
        fun r => r.2.2.1 == n := by
  rw [hasMethod, List.filter_filter, List.any_filter]
  congr
  funext r
  simp only [Bool.and_comm, Bool.and_left_comm]

/-- the base constructs every statement is made of compile on every dialect
    (non-vacuity of the table: these rows exist and say `true`) -/
theorem core_constructs_supported :
    ∀ d < 6, (["select", "insert", "update", "delete", "binary", "bindparam", "column", "table",
                "label", "cast", "case", "cte", "compound_select", "function", "over", "unary"].all
              (fun n => hasMethod d 0 n)) = true := by
  simp only [hasMethod_filter]
  decide +kernel

example : dispatch 0 0 "no_such_construct" = .unsupported := by decide +kernel
example : dispatch 1 0 "select" = .method := by decide +kernel

end SaVerif.Props.C22
