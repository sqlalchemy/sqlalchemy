import SaVerif.Model.Upsert
import SaVerif.Lemmas.Imv
import SaVerif.Lemmas.ListFacts
/-!
# C56 — Upsert statements insert or update exactly as their conflict clause says

Theorems about the insert-or-update model (`SaVerif/Model/Upsert.lean`) and about the two
ways SQLAlchemy sends an executemany upsert to the database: one statement per parameter
set (`runRows`) or one multi-VALUES statement per batch (`runBatched`, batches produced by
`Imv.chunk`).  The specification of the property is `runRows`: the insert-or-update
fold, one parameter set after the other, each with its own bind values.
-/
namespace SaVerif.Props.C56
open SaVerif.Upsert

theorem eval_no_bound (e : Expr) (old new : Row) (b1 b2 : List Val)
    (h : exprUsesBound e = false) : eval e old new b1 = eval e old new b2 := by
  induction e with
  | const v => rfl
  | excluded c => rfl
  | existing c => rfl
  | bound k => simp [exprUsesBound] at h
  | add a b iha ihb =>
    simp only [exprUsesBound, Bool.or_eq_false_iff] at h
    simp only [eval, iha h.1, ihb h.2]

theorem holds_no_bound (w : Cond) (old new : Row) (b1 b2 : List Val)
    (h : condUsesBound w = false) : holds w old new b1 = holds w old new b2 := by
  cases w with
  | always => rfl
  | lt a b | ne a b =>
    simp only [condUsesBound, Bool.or_eq_false_iff] at h
    simp only [holds, eval_no_bound a old new b1 b2 h.1, eval_no_bound b old new b1 b2 h.2]
  | isNull a => simp only [holds, eval_no_bound a old new b1 b2 h]

theorem applySet_no_bound (set : List (Nat × Expr)) (old new : Row) (b1 b2 : List Val)
    (h : set.any (fun ce => exprUsesBound ce.2) = false) :
    applySet set old new b1 = applySet set old new b2 := by
  -- the fold over the evaluated assignments, which agree one by one
  have := congrArg (List.foldl (fun acc (cv : Nat × Val) => acc.set cv.1 cv.2) old)
    (List.map_congr_left fun ce hce => congrArg (Prod.mk ce.1)
      (eval_no_bound ce.2 old new b1 b2 (Bool.eq_false_iff.2 (List.any_eq_false.1 h ce hce))))
  rwa [List.foldl_map, List.foldl_map] at this

theorem pickClause_mem {cls : List Clause} {viol : List UIdx} {cl : Clause}
    (h : pickClause cls viol = some cl) : cl ∈ cls :=
  List.mem_of_find?_eq_some h

theorem step_no_bound (s : Stmt) (tbl : List Row) (r : Row) (b1 b2 : List Val)
    (h : stmtUsesBound s = false) : step s tbl r b1 = step s tbl r b2 := by
  -- the binds are only read by the SET and WHERE of the picked clause
  cases hpick : pickClause s.clauses (violated s tbl r) with
  | none => simp only [step, hpick]
  | some cl =>
    have hcl := List.any_eq_false.1 h cl (pickClause_mem hpick)
    cases hact : cl.action with
    | nothing => simp only [step, hpick, hact]
    | update set w =>
      rw [Bool.not_eq_true, hact, actionUsesBound, Bool.or_eq_false_iff] at hcl
      simp only [step, hpick, hact, holds_no_bound w _ r b1 b2 hcl.2,
        applySet_no_bound set _ r b1 b2 hcl.1]

theorem runBatch_eq_runRows_of_step (s : Stmt) (binds : List Val) :
    ∀ (ps : List Param), (∀ p ∈ ps, ∀ tbl, step s tbl p.row binds = step s tbl p.row p.binds) →
      ∀ (tbl : List Row), runBatch s binds tbl ps = runRows s tbl ps := by
  intro ps
  induction ps with
  | nil => intro _ tbl; rfl
  | cons p ps ih =>
    intro hall tbl
    have ih' := ih fun q hq => hall q (List.mem_cons_of_mem _ hq)
    simp only [runBatch, runRows, hall p List.mem_cons_self, ih']

theorem runBatch_eq_runRows (s : Stmt) (h : stmtUsesBound s = false) (binds : List Val)
    (ps : List Param) (tbl : List Row) : runBatch s binds tbl ps = runRows s tbl ps :=
  runBatch_eq_runRows_of_step s binds ps (fun p _ tbl => step_no_bound s tbl p.row binds p.binds h) tbl

theorem runRows_append (s : Stmt) :
    ∀ (a b : List Param) (tbl : List Row),
      runRows s tbl (a ++ b) =
        match runRows s tbl a with
        | .error e => .error e
        | .ok (t1, o1) =>
          match runRows s t1 b with
          | .error e => .error e
          | .ok (t2, o2) => .ok (t2, o1 ++ o2) := by
  intro a
  induction a with
  | nil =>
    intro b tbl
    simp only [List.nil_append, runRows]
    cases runRows s tbl b <;> rfl
  | cons p ps ih =>
    intro b tbl
    simp only [List.cons_append, runRows]
    cases step s tbl p.row p.binds with
    | error e => rfl
    | ok r =>
      simp only [ih]
      cases runRows s r.1 ps with
      | error e => rfl
      | ok r1 =>
        obtain ⟨t1, o1⟩ := r1
        dsimp only
        cases runRows s t1 b <;> rfl

theorem runBatched_eq_runRows_flatten (s : Stmt) (h : stmtUsesBound s = false) :
    ∀ (bs : List (List Param)) (tbl : List Row),
      runBatched s tbl bs = runRows s tbl bs.flatten := by
  intro bs
  induction bs with
  | nil => intro tbl; rfl
  | cons b bs ih =>
    intro tbl
    simp only [runBatched, List.flatten_cons, runRows_append, runBatch_eq_runRows s h, ih]
    rfl

/-- **upsert_batched_eq_rowwise** (`upsert_eq_spec` for the batched path): when the ON
    CONFLICT clause contains no bindparam(), sending the parameter sets in multi-VALUES
    batches of ANY positive size leaves the table in exactly the state — and produces
    exactly the RETURNING rows, or the error — of the insert-or-update fold over the
    parameter sets one by one. -/
theorem upsert_batched_eq_rowwise (s : Stmt) (h : stmtUsesBound s = false) (n : Nat) (hn : 0 < n)
    (tbl : List Row) (ps : List Param) :
    runBatched s tbl (SaVerif.Imv.chunk n ps) = runRows s tbl ps := by
  rw [runBatched_eq_runRows_flatten s h, SaVerif.Imv.chunk_flatten hn]

theorem runBatchedFixed_eq_runRows_flatten (s : Stmt) (h : stmtUsesBound s = false)
    (binds : List Val) :
    ∀ (bs : List (List Param)) (tbl : List Row),
      runBatchedFixed s binds tbl bs = runRows s tbl bs.flatten := by
  intro bs
  induction bs with
  | nil => intro tbl; rfl
  | cons b bs ih =>
    intro tbl
    simp only [runBatchedFixed, List.flatten_cons, runRows_append, runBatch_eq_runRows s h, ih]
    rfl

/-- the named-paramstyle variant (non-VALUES binds taken once from the first parameter set
    of the whole list) -/
theorem upsert_batched_fixed_eq_rowwise (s : Stmt) (h : stmtUsesBound s = false) (n : Nat)
    (hn : 0 < n) (binds : List Val) (tbl : List Row) (ps : List Param) :
    runBatchedFixed s binds tbl (SaVerif.Imv.chunk n ps) = runRows s tbl ps := by
  rw [runBatchedFixed_eq_runRows_flatten s h, SaVerif.Imv.chunk_flatten hn]

/-- for a single multi-VALUES statement, and with `bindparam()` allowed in ON CONFLICT: issue 13130
    cannot show when every parameter set carries the same binds -/
theorem upsert_batched_eq_rowwise_same_binds (s : Stmt) (binds : List Val) :
    ∀ (ps : List Param) (tbl : List Row), (∀ p ∈ ps, p.binds = binds) →
      runBatch s binds tbl ps = runRows s tbl ps :=
  fun ps tbl hall => runBatch_eq_runRows_of_step s binds ps (fun p hp _ => hall p hp ▸ rfl) tbl

/-- **upsert_bound_batched_counterexample** (issue 13130): with `SET a = bindparam()` the
    batched form is wrong — one statement has one SET clause, so every row of the batch
    is updated with the first set's value.  This is why `chooseMode` sends
    `has_upsert_bound_parameters` statements row by row (C12 `upsert_bound_never_batched`). -/
theorem upsert_bound_batched_counterexample :
    ∃ (s : Stmt) (tbl : List Row) (ps : List Param),
      stmtUsesBound s = true ∧
      runBatched s tbl (SaVerif.Imv.chunk 2 ps) ≠ runRows s tbl ps :=
  ⟨⟨[([0], [])], [⟨some ([0], []), .update [(1, .bound 0)] .always⟩], []⟩,
    [[some 1, some 0], [some 2, some 0]],
    [⟨[some 1, some 5], [some 7]⟩, ⟨[some 2, some 6], [some 8]⟩], by decide +kernel, by decide +kernel⟩

theorem findConflict_lt {u : UIdx} {tbl : List Row} {r : Row} {i : Nat}
    (h : findConflict u tbl r = some i) : i < tbl.length := by
  unfold findConflict at h
  dsimp only at h
  split at h
  · cases h; assumption
  · cases h

/-- accepted: plain insert, nothing done (DO NOTHING or a false WHERE), DO UPDATE of row `i` -/
theorem step_ok {s : Stmt} {tbl tbl' : List Row} {r : Row} {binds : List Val} {out : Option Row}
    (h : step s tbl r binds = .ok (tbl', out)) :
    (violated s tbl r = [] ∧ tbl' = tbl ++ [r] ∧ out = some r) ∨
    (tbl' = tbl ∧ out = none) ∨
    ∃ cl set w i, cl ∈ s.clauses ∧ cl.action = .update set w ∧ i < tbl.length ∧
      collidesElsewhere s tbl i (applySet set (tbl.getD i []) r binds) = false ∧
      tbl' = tbl.set i (applySet set (tbl.getD i []) r binds) ∧
      out = some (applySet set (tbl.getD i []) r binds) := by
  unfold step at h
  dsimp only at h
  by_cases hnn : (s.notNull.any fun c => (cell r c).isNone) = true
  · rw [if_pos hnn] at h
    cases h
  rw [if_neg hnn] at h
  by_cases hv : (violated s tbl r).isEmpty = true
  · rw [if_pos hv] at h
    cases h
    exact .inl ⟨List.isEmpty_iff.1 hv, rfl, rfl⟩
  rw [if_neg hv] at h
  cases hpick : pickClause s.clauses (violated s tbl r) with
  | none =>
    rw [hpick] at h
    cases h
  | some cl =>
    rw [hpick] at h
    dsimp only at h
    cases hact : cl.action with
    | nothing =>
      rw [hact] at h
      cases h
      exact .inr (.inl ⟨rfl, rfl⟩)
    | update set w =>
      rw [hact] at h
      dsimp only at h
      split at h
      · cases h
      rename_i i hfc
      split at h
      · split at h
        · cases h
        · rename_i hcoll
          cases h
          exact .inr (.inr ⟨cl, set, w, i, pickClause_mem hpick, hact, findConflict_lt hfc,
            (Bool.or_eq_false_iff.1 (Bool.not_eq_true _ ▸ hcoll)).1, rfl, rfl⟩)
      · cases h
        exact .inr (.inl ⟨rfl, rfl⟩)

theorem runRows_ok_induction {s : Stmt}
    {motive : List Row → List Param → List Row → List (Option Row) → Prop}
    (nil : ∀ tbl, motive tbl [] tbl [])
    (cons : ∀ {tbl p ps t1 out t2 outs}, step s tbl p.row p.binds = .ok (t1, out) →
      runRows s t1 ps = .ok (t2, outs) → motive t1 ps t2 outs →
      motive tbl (p :: ps) t2 (out :: outs)) :
    ∀ (ps : List Param) (tbl tbl' : List Row) (outs : List (Option Row)),
      runRows s tbl ps = .ok (tbl', outs) → motive tbl ps tbl' outs := by
  intro ps
  induction ps with
  | nil =>
    intro tbl tbl' outs h
    cases h
    exact nil tbl
  | cons p ps ih =>
    intro tbl tbl' outs h
    unfold runRows at h
    split at h
    · cases h
    rename_i t1 out hstep
    split at h
    · cases h
    rename_i t2 outs' hrest
    cases h
    exact cons hstep hrest (ih t1 _ outs' hrest)

/-- **returning_rows_in_param_order**: the row-at-a-time execution yields exactly one
    RETURNING slot per parameter set (`none` = nothing returned for that set: DO NOTHING or a
    false WHERE).  The statement is the count; that slot `i` belongs to set `i` is how `runRows`
    builds the list. -/
theorem returning_rows_in_param_order (s : Stmt) :
    ∀ (ps : List Param) (tbl tbl' : List Row) (outs : List (Option Row)),
      runRows s tbl ps = .ok (tbl', outs) → outs.length = ps.length :=
  runRows_ok_induction (fun _ => rfl) fun _ _ ih => congrArg (· + 1) ih

theorem step_returned_row_in_table (s : Stmt) (tbl tbl' : List Row) (r out : Row) (binds : List Val)
    (h : step s tbl r binds = .ok (tbl', some out)) : out ∈ tbl' := by
  rcases step_ok h with ⟨_, rfl, ho⟩ | ⟨_, ho⟩ | ⟨_, _, _, i, _, _, hi, _, rfl, ho⟩
  · cases ho
    exact List.mem_append_right _ List.mem_cons_self
  · cases ho
  · cases ho
    exact List.mem_iff_getElem.2 ⟨i, by rwa [List.length_set], List.getElem_set_self _⟩

/-- **do_nothing_keeps_existing**: if every clause is DO NOTHING, no existing row is ever
    touched: the old table is a prefix of the new one. -/
theorem do_nothing_keeps_existing (s : Stmt)
    (hall : ∀ cl ∈ s.clauses, cl.action = .nothing) :
    ∀ (ps : List Param) (tbl tbl' : List Row) (outs : List (Option Row)),
      runRows s tbl ps = .ok (tbl', outs) → tbl <+: tbl' :=
  runRows_ok_induction (motive := fun tbl _ tbl' _ => tbl <+: tbl') List.prefix_refl
    fun hstep _ ih => by
      refine List.IsPrefix.trans ?_ ih
      rcases step_ok hstep with ⟨_, rfl, _⟩ | ⟨rfl, _⟩ | ⟨cl, _, _, _, hcl, hact, _⟩
      · exact List.prefix_append _ _
      · exact List.prefix_refl _
      · rw [hall cl hcl] at hact
        cases hact

/-- every unique constraint holds in the table (NULLs never collide) -/
def UniqueOK (us : List UIdx) (tbl : List Row) : Prop :=
  ∀ u ∈ us, tbl.Pairwise (fun a b => conflictsOn u a b = false)

theorem conflictsOn_symm (u : UIdx) (a b : Row) : conflictsOn u a b = conflictsOn u b a := by
  unfold conflictsOn
  congr 2 <;> funext c
  · cases cell a c <;> cases cell b c <;> simp [Bool.beq_comm]
  · exact Bool.and_comm _ _

/-- **step_preserves_unique**: a parameter set that is accepted (insert, DO NOTHING, DO
    UPDATE) leaves every unique constraint of the table satisfied -/
theorem step_preserves_unique (s : Stmt) (tbl tbl' : List Row) (r : Row) (binds : List Val)
    (out : Option Row) (hok : UniqueOK s.uniques tbl)
    (h : step s tbl r binds = .ok (tbl', out)) : UniqueOK s.uniques tbl' := by
  rcases step_ok h with ⟨hviol, rfl, _⟩ | ⟨rfl, _⟩ | ⟨_, set, _, i, _, _, _, hcoll, rfl, _⟩
  · intro u hu
    refine List.pairwise_append.2 ⟨hok u hu, List.pairwise_singleton _ _, fun a ha b hb => ?_⟩
    cases List.mem_singleton.1 hb
    have h1 := List.filter_eq_nil_iff.1 hviol u hu
    rw [List.any_eq_true, not_exists] at h1
    rw [conflictsOn_symm]
    exact Bool.not_eq_true _ ▸ fun hc => h1 a ⟨ha, hc⟩
  · exact hok
  · intro u hu
    refine ListFacts.pairwise_set _ _ _ (hok u hu) fun j x hj hne => ?_
    have h2 := List.any_eq_false.1 hcoll u hu
    rw [Bool.not_eq_true, List.any_eq_false] at h2
    have h3 : ¬(j != i && conflictsOn u (applySet set (tbl.getD i []) r binds) x) = true :=
      h2 (x, j) (List.mem_zipIdx_iff_getElem?.2 hj)
    rw [bne_iff_ne.2 hne, Bool.true_and, Bool.not_eq_true] at h3
    exact ⟨conflictsOn_symm u _ _ ▸ h3, h3⟩

theorem upsert_preserves_unique (s : Stmt) :
    ∀ (ps : List Param) (tbl tbl' : List Row) (outs : List (Option Row)),
      UniqueOK s.uniques tbl → runRows s tbl ps = .ok (tbl', outs) → UniqueOK s.uniques tbl' :=
  fun ps tbl tbl' outs hok h =>
    runRows_ok_induction (motive := fun tbl _ tbl' _ => UniqueOK s.uniques tbl → UniqueOK s.uniques tbl')
      (fun _ h => h)
      (fun hstep _ ih hok => ih (step_preserves_unique s _ _ _ _ _ hok hstep))
      ps tbl tbl' outs h hok

def cellAgree (a b : Row) (cols : List Nat) : Prop := ∀ x ∈ cols, cell a x = cell b x

theorem eval_agree (e : Expr) (a b new : Row) (binds : List Val)
    (h : cellAgree a b (exprReads e)) : eval e a new binds = eval e b new binds := by
  induction e with
  | const v => rfl
  | excluded c => rfl
  | existing c => exact h c (by simp [exprReads])
  | bound k => rfl
  | add x y ihx ihy =>
    simp only [eval]
    rw [ihx (fun c hc => h c (by simp [exprReads, hc])),
      ihy (fun c hc => h c (by simp [exprReads, hc]))]

def NoReadAfterWrite : List (Nat × Expr) → Prop
  | [] => True
  | (c, _) :: rest => (∀ ce ∈ rest, c ∉ exprReads ce.2) ∧ NoReadAfterWrite rest

theorem cell_set_ne (r : Row) (c x : Nat) (v : Val) (h : c ≠ x) : cell (r.set c v) x = cell r x := by
  unfold cell
  rw [SaVerif.ListFacts.getD_set, if_neg fun hh => h hh.1]

/-- **mysql_sequential_eq_simultaneous**: MySQL applies the assignments of ON DUPLICATE KEY
    UPDATE left to right, later ones seeing earlier results; that equals the simultaneous
    (PostgreSQL / SQLite) reading whenever no right-hand side reads an earlier-assigned
    column — in particular for the usual `col = VALUES(col)` / `col = new.col` forms. -/
theorem mysql_sequential_eq_simultaneous (set : List (Nat × Expr)) (old new : Row)
    (binds : List Val) (h : NoReadAfterWrite set) :
    applySetSequential set old new binds = applySet set old new binds := by
  unfold applySetSequential applySet
  have : ∀ (set : List (Nat × Expr)) (acc : Row), NoReadAfterWrite set →
      (∀ ce ∈ set, cellAgree acc old (exprReads ce.2)) →
      set.foldl (fun acc ce => acc.set ce.1 (eval ce.2 acc new binds)) acc
        = set.foldl (fun acc ce => acc.set ce.1 (eval ce.2 old new binds)) acc := by
    intro set
    induction set with
    | nil => intro acc _ _; rfl
    | cons ce rest ih =>
      intro acc hraw hag
      obtain ⟨c, e⟩ := ce
      simp only [List.foldl_cons]
      rw [eval_agree e acc old new binds (hag (c, e) List.mem_cons_self)]
      apply ih _ hraw.2
      intro ce' hce' x hx
      rw [cell_set_ne _ c x _ fun heq => hraw.1 ce' hce' (heq ▸ hx)]
      exact hag ce' (List.mem_cons_of_mem _ hce') x hx
  exact this set old h (fun _ _ _ _ => rfl)

/-- the hypothesis is needed: `a = a + 1, b = a` differs between the two readings -/
theorem mysql_sequential_counterexample :
    applySetSequential [(0, .add (.existing 0) (.const (some 1))), (1, .existing 0)] [some 5, some 0] [] []
      ≠ applySet [(0, .add (.existing 0) (.const (some 1))), (1, .existing 0)] [some 5, some 0] [] [] := by
  decide +kernel

/-- a partial unique index only constrains the rows its predicate admits: two rows equal
    on the indexed column do not collide when the predicate column is NULL in one of them -/
example : runRows ⟨[([0], []), ([1], [2])], [⟨some ([1], [2]), .nothing⟩], [0]⟩
    [[some 1, some 10, none]] [⟨[some 2, some 10, some 5], []⟩, ⟨[some 3, some 10, some 6], []⟩]
    = .ok ([[some 1, some 10, none], [some 2, some 10, some 5]],
           [some [some 2, some 10, some 5], none]) := by decide +kernel

example : runRows ⟨[([0], []), ([1], [])], [⟨some ([0], []), .update [(2, .add (.existing 2) (.excluded 2))] .always⟩,
      ⟨none, .nothing⟩], [0]⟩
    [[some 1, some 10, some 5], [some 2, some 20, some 5]]
    [⟨[some 1, some 99, some 7], []⟩, ⟨[some 3, some 20, some 1], []⟩, ⟨[some 4, some 40, some 1], []⟩]
    = .ok ([[some 1, some 10, some 12], [some 2, some 20, some 5], [some 4, some 40, some 1]],
           [some [some 1, some 10, some 12], none, some [some 4, some 40, some 1]]) := by decide +kernel
example : runRows ⟨[([0], []), ([1], [])], [⟨some ([0], []), .nothing⟩], []⟩ [[some 1, some 10]]
    [⟨[some 2, some 10], []⟩] = .error .constraint := by decide +kernel
example : stmtUsesBound ⟨[([0], [])], [⟨some ([0], []), .update [(1, .excluded 1)] (.lt (.existing 1) (.excluded 1))⟩], []⟩
    = false := by decide +kernel
example : NoReadAfterWrite [(1, .excluded 1), (2, .add (.existing 2) (.excluded 2))] := by
  simp [NoReadAfterWrite, exprReads]

end SaVerif.Props.C56
