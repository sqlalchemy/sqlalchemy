import SaVerif.Lemmas.Expire
/-!
# C46 — Expired and refreshed attributes reflect the database

Theorems about M-ORM/expire (`SaVerif/Model/Expire.lean`).  `step_at` is the one walk over `step`: it
relates an identity before and after an operation by `Reach`; `pending_survives`, `step_wf` and
`coh_run` read their conclusions off it.  The `fresh_after_*` theorems say for one operation each
that the next read of a covered attribute (`read_of_fresh`) returns the database value.  The rows of
a query may carry all or only some of the entity's attribute columns (`Op.query pop filt cols`):
every theorem about a query is for all `cols`.
-/
namespace SaVerif.Props.C46
open SaVerif.Expire

def HoldsAt (P : Obj → Option Vals → Prop) (st : St) (k : Nat) : Prop :=
  ∀ o, st.objs k = some o → P o (st.rows k)

def Coh (st : St) : Prop := ∀ k o, st.objs k = some o → CohObj o (st.rows k)
def WF (c : Cfg) (st : St) : Prop := ∀ k o, st.objs k = some o → WFObj c o

theorem coh_iff {st : St} : Coh st ↔ ∀ k, HoldsAt CohObj st k := Iff.rfl

/-- the operations `coh_run` leaves out: the other connection's writes, `attach` (`add()` of a
    detached object, `merge(load=False)`: brings in an object loaded elsewhere) and `detach`
    (`expunge`; `step_at` has no need of that exclusion) -/
def isExt : Op → Bool
  | .extSet _ _ _ | .extDel _ | .extIns _ _ | .detach _ | .attach _ _ => true
  | _ => false

theorem holdsAt_expireAll {P : Obj → Option Vals → Prop} (hP : ∀ o row, P (expireObj o) row) (rows : DB)
    (saved : Option DB) (objs : Nat → Option Obj) (txn : Bool) (det : Nat → Option Obj) (k : Nat) :
    HoldsAt P ⟨rows, saved, expireAllObjs objs, txn, det⟩ k := by
  intro o' h
  obtain ⟨o, _, rfl⟩ := Option.map_eq_some_iff.1 h
  exact hP o _

theorem holdsAt_setObj_self {P : Obj → Option Vals → Prop} {st : St} {k : Nat} {o : Obj}
    (ho : P o (st.rows k)) : HoldsAt P (setObj st k (some o)) k := by
  intro o' h
  cases (if_pos rfl).symm.trans h
  exact ho

section
variable {P : Obj → Option Vals → Prop} (hP : ∀ o row, P (expireObj o) row) (c : Cfg) (st : St) (k : Nat)
include hP

theorem holdsAt_rolledBack : HoldsAt P (rolledBack st) k := holdsAt_expireAll hP _ _ _ _ _ k

theorem holdsAt_after_expireAll : HoldsAt P (step c st .expireAll).1 k := holdsAt_expireAll hP _ _ _ _ _ k

theorem holdsAt_after_rollback (htx : st.txn = true) : HoldsAt P (step c st .rollback).1 k := by
  dsimp only [step]
  rw [if_pos htx]
  exact holdsAt_rolledBack hP st k

theorem holdsAt_after_commit_eoc (heoc : c.eoc = true) : HoldsAt P (step c st .commit).1 k := by
  dsimp only [step]
  split
  · exact holdsAt_rolledBack hP st k
  · dsimp only
    rw [if_pos heoc]
    exact holdsAt_expireAll hP _ _ _ _ _ k

end

theorem read_loaded {c : Cfg} {st : St} {k : Nat} {a : Attr} {o : Obj} {v : Int}
    (ho : st.objs k = some o) (hd : o.dict a = some v) : step c st (.read k a) = (st, .val v) := by
  dsimp only [step]
  simp only [ho, hd]

/-- **read_expired_eq_db**: the attribute is not loaded and not modified, the row
    exists: the read returns the row's current value — unless the autoflush that
    precedes the load fails (then the session is rolled back). -/
theorem read_expired_eq_db (c : Cfg) (st : St) (k : Nat) (a : Attr) (o : Obj) (r : Vals)
    (ho : st.objs k = some o) (hd : o.dict a = none) (hm : o.mod a = false)
    (hr : st.rows k = some r) :
    (step c st (.read k a)).2 = .val (r a) ∨ (step c st (.read k a)).2 = .stale := by
  dsimp only [step]
  simp only [ho, hd]
  cases haf : autoflush c st with
  | none => exact Or.inr rfl
  | some st1 =>
    obtain ⟨r1, hr1, he⟩ := (autoflush_at haf k).row_unmod ho hr hm
    obtain ⟨o1, ho1⟩ := (autoflush_at haf k).obj ho
    simp only [ho1, hr1, he, true_or]

theorem read_expired_eq_db_noflush (c : Cfg) (hc : c.af = false) (st : St) (k : Nat) (a : Attr)
    (o : Obj) (r : Vals) (ho : st.objs k = some o) (hd : o.dict a = none)
    (hr : st.rows k = some r) : (step c st (.read k a)).2 = .val (r a) := by
  dsimp only [step]
  simp only [ho, hd, autoflush, hc, Bool.false_eq_true, if_false, hr]

/-- the row vanished, autoflush off: ObjectDeletedError -/
theorem read_expired_gone (c : Cfg) (hc : c.af = false) (st : St) (k : Nat) (a : Attr)
    (o : Obj) (ho : st.objs k = some o) (hd : o.dict a = none) (hr : st.rows k = none) :
    (step c st (.read k a)).2 = .gone := by
  dsimp only [step]
  simp only [ho, hd, autoflush, hc, Bool.false_eq_true, if_false, hr]

def Fresh (st : St) (k : Nat) (a : Attr) : Prop :=
  ∀ o, st.objs k = some o → o.mod a = false ∧
    (o.dict a = none ∨ ∃ r, st.rows k = some r ∧ o.dict a = some (r a))

theorem fresh_iff {st : St} {k : Nat} {a : Attr} : Fresh st k a ↔ HoldsAt (FreshAttr · · a) st k := Iff.rfl

/-- **read_of_fresh**: reading a fresh attribute of an object whose row exists
    returns the database value (or the autoflush fails) -/
theorem read_of_fresh (c : Cfg) (st : St) (k : Nat) (a : Attr) (o : Obj) (r : Vals)
    (hf : Fresh st k a) (ho : st.objs k = some o) (hr : st.rows k = some r) :
    (step c st (.read k a)).2 = .val (r a) ∨ (step c st (.read k a)).2 = .stale := by
  obtain ⟨hm, hd | ⟨r', hr', hd⟩⟩ : FreshAttr o (st.rows k) a := fresh_iff.1 hf o ho
  · exact read_expired_eq_db c st k a o r ho hd hm hr
  · cases hr.symm.trans hr'
    exact Or.inl (congrArg Prod.snd (read_loaded ho hd))

theorem fresh_after_expire (c : Cfg) (st : St) (k : Nat) (attrs : Option (List Attr)) (a : Attr)
    (hcov : ∀ l, attrs = some l → a ∈ l) : Fresh (step c st (.expire k attrs)).1 k a := by
  dsimp only [step]
  split
  next hn => exact fun o h => nomatch hn.symm.trans h
  next o _ => exact fresh_iff.2 (holdsAt_setObj_self (freshAttr_expireSel o _ hcov))

theorem fresh_after_expireAll (c : Cfg) (st : St) (k : Nat) (a : Attr) :
    Fresh (step c st .expireAll).1 k a :=
  fresh_iff.2 (holdsAt_after_expireAll (freshAttr_expireObj · · a) c st k)

theorem fresh_after_rollback (c : Cfg) (st : St) (htx : st.txn = true) (k : Nat) (a : Attr) :
    Fresh (step c st .rollback).1 k a :=
  fresh_iff.2 (holdsAt_after_rollback (freshAttr_expireObj · · a) c st k htx)

theorem fresh_after_commit_eoc (c : Cfg) (heoc : c.eoc = true) (st : St) (k : Nat) (a : Attr) :
    Fresh (step c st .commit).1 k a :=
  fresh_iff.2 (holdsAt_after_commit_eoc (freshAttr_expireObj · · a) c st k heoc)

theorem fresh_after_refresh (c : Cfg) (st : St) (k : Nat) (attrs : Option (List Attr)) (a : Attr)
    (hcov : ∀ l, attrs = some l → a ∈ l)
    (hok : (step c st (.refresh k attrs)).2 = .done) :
    Fresh (step c st (.refresh k attrs)).1 k a := by
  revert hok
  dsimp only [step]
  split
  next hn => exact fun _ o h => nomatch hn.symm.trans h
  split
  · exact nofun
  split
  next o1 r _ hr =>
    refine fun _ => fresh_iff.2 (holdsAt_setObj_self (hr ▸ ?_))
    cases attrs with
    | none =>
      rw [populateFull_eq]
      exact freshAttr_newObjCols r none a
    | some l => exact freshAttr_populateAttrs o1 r (List.contains_iff_mem.2 (hcov l rfl))
  · exact nofun

/-- the translated source fact the populate_existing theorems rest on: in
    `loading._populate_full` the loop over `populators["expire"]` of the populate_existing
    branch pops EVERY attribute whose column the row does not carry out of the instance dict
    (regenerated from the working tree by the translator of harness/props/c46.py; were the
    pop conditional, an absent column's old value would stay in the dict and be served) -/
theorem populate_existing_pops_absent :
    SaVerif.Gen.ExpireCfg.populateExistingPopsAbsent = true := by decide

theorem query_rows {c : Cfg} {st st1 : St} (haf : autoflush c st = some st1) (pop : Bool)
    (filt : Option (Attr × Int)) (cols : Option (List Attr)) :
    (step c st (.query pop filt cols)).1.rows = st1.rows := by
  dsimp only [step]
  rw [haf]

theorem query_obj_or {c : Cfg} {st st1 : St} (haf : autoflush c st = some st1) (pop : Bool)
    (filt : Option (Attr × Int)) (cols : Option (List Attr)) (k : Nat) :
    (step c st (.query pop filt cols)).1.objs k = st1.objs k ∨
    ∃ r, k < c.npk ∧ st1.rows k = some r ∧ rowMatches filt r = true := by
  dsimp only [step]
  rw [haf]
  dsimp only
  by_cases hk : k < c.npk
  · cases hr : st1.rows k with
    | none => exact Or.inl (by rw [if_pos hk])
    | some r =>
      by_cases hm : rowMatches filt r = true
      · exact Or.inr ⟨r, hk, rfl, hm⟩
      · exact Or.inl (by rw [if_pos hk]; exact if_neg hm)
  · exact Or.inl (if_neg hk)

theorem query_obj_matched {c : Cfg} {st st1 : St} {pop : Bool} {filt : Option (Attr × Int)}
    {cols : Option (List Attr)} {k : Nat} (hk : k < c.npk) (haf : autoflush c st = some st1)
    {r : Vals} (hr : st1.rows k = some r) (hm : rowMatches filt r = true) :
    (step c st (.query pop filt cols)).1.objs k =
      match st1.objs k with
      | some o => some (if pop then populateCols o r cols else loadExpiredCols o r cols)
      | none => some (newObjCols r cols) := by
  dsimp only [step]
  rw [haf]
  dsimp only
  rw [if_pos hk, hr]
  dsimp only
  rw [if_pos hm]
  rfl

theorem query_obj_new {c : Cfg} {st st1 : St} {pop : Bool} {filt : Option (Attr × Int)}
    {cols : Option (List Attr)} {k : Nat} (hk : k < c.npk) (haf : autoflush c st = some st1)
    {r : Vals} (hr : st1.rows k = some r) (hm : rowMatches filt r = true)
    (hnew : pop = true ∨ st1.objs k = none) :
    (step c st (.query pop filt cols)).1.objs k = some (newObjCols r cols) ∧
    (step c st (.query pop filt cols)).1.rows k = some r := by
  refine ⟨(query_obj_matched hk haf hr hm).trans ?_,
    query_rows haf pop filt cols ▸ hr⟩
  rcases hnew with rfl | hn
  · cases st1.objs k with
    | none => rfl
    | some o => exact congrArg some (populateCols_eq populate_existing_pops_absent o r cols)
  · rw [hn]

theorem fresh_newObjCols {st : St} {k : Nat} {r : Vals} {cols : Option (List Attr)}
    (h : st.objs k = some (newObjCols r cols) ∧ st.rows k = some r) (a : Attr) : Fresh st k a := by
  refine fresh_iff.2 fun o ho => ?_
  cases h.1.symm.trans ho
  rw [h.2]
  exact freshAttr_newObjCols r cols a

/-- **populate_existing_cols**: a populate_existing query whose rows carry the columns `cols`
    (`none`: all) matched row `k`.  Whatever the identity-mapped object looked like before
    (loaded, expired, with pending changes), afterwards
    (i) every attribute whose column the row carries is loaded, unmodified and equal to the row;
    (ii) every attribute whose column the row does not carry is NOT loaded (expired) and
         unmodified, so that the next read goes to the database;
    and the object is clean. -/
theorem populate_existing_cols (c : Cfg) (st st1 : St) (filt : Option (Attr × Int))
    (cols : Option (List Attr)) (k : Nat) (hk : k < c.npk) (haf : autoflush c st = some st1)
    (r : Vals) (hr : st1.rows k = some r) (hm : rowMatches filt r = true) :
    ∃ o', (step c st (.query true filt cols)).1.objs k = some o' ∧ o'.dirty = false ∧
      (∀ a, covers cols a = true → o'.dict a = some (r a) ∧ o'.mod a = false) ∧
      (∀ a, covers cols a = false → o'.dict a = none ∧ o'.mod a = false) :=
  ⟨_, (query_obj_new hk haf hr hm (Or.inl rfl)).1, rfl,
    fun _ ha => ⟨if_pos ha, rfl⟩, fun _ ha => ⟨if_neg (ne_true_of_eq_false ha), rfl⟩⟩

theorem fresh_after_populate_existing (c : Cfg) (st st1 : St) (filt : Option (Attr × Int))
    (cols : Option (List Attr)) (k : Nat)
    (a : Attr) (hk : k < c.npk) (haf : autoflush c st = some st1) (r : Vals)
    (hr : st1.rows k = some r) (hm : rowMatches filt r = true) :
    Fresh (step c st (.query true filt cols)).1 k a :=
  fresh_newObjCols (query_obj_new hk haf hr hm (Or.inl rfl)) a

/-- **read_after_populate_existing_eq_db**: after a populate_existing query that matched
    row `k`, the next read of ANY attribute of that identity — whether the query's rows
    carried its column or not, whether it had a pending change or not — returns the value
    the row has (or the autoflush that precedes the load of an absent column fails and the
    session is rolled back). -/
theorem read_after_populate_existing_eq_db (c : Cfg) (st st1 : St) (filt : Option (Attr × Int))
    (cols : Option (List Attr)) (k : Nat) (a : Attr) (hk : k < c.npk)
    (haf : autoflush c st = some st1) (r : Vals) (hr : st1.rows k = some r)
    (hm : rowMatches filt r = true) :
    (step c (step c st (.query true filt cols)).1 (.read k a)).2 = .val (r a) ∨
    (step c (step c st (.query true filt cols)).1 (.read k a)).2 = .stale :=
  have h := query_obj_new (cols := cols) hk haf hr hm (Or.inl rfl)
  read_of_fresh c _ k a _ r (fresh_newObjCols h a) h.1 h.2

/-- an attribute whose column the rows carried is read without touching the database: no
    failure case -/
theorem read_after_populate_existing_covered (c : Cfg) (st st1 : St) (filt : Option (Attr × Int))
    (cols : Option (List Attr)) (k : Nat) (a : Attr) (hk : k < c.npk)
    (haf : autoflush c st = some st1) (r : Vals) (hr : st1.rows k = some r)
    (hm : rowMatches filt r = true) (hcov : covers cols a = true) :
    (step c (step c st (.query true filt cols)).1 (.read k a)).2 = .val (r a) := by
  have h := (query_obj_new (cols := cols) hk haf hr hm (Or.inl rfl)).1
  have hd : (newObjCols r cols).dict a = some (r a) := if_pos hcov
  exact congrArg Prod.snd (read_loaded h hd)

theorem fresh_after_query_new_identity (c : Cfg) (st st1 : St) (pop : Bool)
    (filt : Option (Attr × Int)) (cols : Option (List Attr)) (k : Nat) (a : Attr) (hk : k < c.npk)
    (haf : autoflush c st = some st1) (r : Vals) (hr : st1.rows k = some r)
    (hm : rowMatches filt r = true) (hnew : st1.objs k = none) :
    Fresh (step c st (.query pop filt cols)).1 k a :=
  fresh_newObjCols (query_obj_new hk haf hr hm (Or.inr hnew)) a

/-- without populate_existing a query leaves what is loaded or pending alone and fills an
    unloaded, unmodified attribute exactly when the row carries its column -/
theorem query_plain_existing (c : Cfg) (st st1 : St) (filt : Option (Attr × Int))
    (cols : Option (List Attr)) (k : Nat) (hk : k < c.npk) (haf : autoflush c st = some st1)
    (r : Vals) (hr : st1.rows k = some r) (hm : rowMatches filt r = true) (o1 : Obj)
    (ho1 : st1.objs k = some o1) :
    ∃ o', (step c st (.query false filt cols)).1.objs k = some o' ∧
      (∀ a, o'.mod a = o1.mod a ∧ o'.cval a = o1.cval a) ∧
      (∀ a v, o1.dict a = some v → o'.dict a = some v) ∧
      (∀ a, o1.mod a = true → o'.dict a = o1.dict a) ∧
      (∀ a, o1.dict a = none → o1.mod a = false →
        o'.dict a = if covers cols a then some (r a) else none) := by
  refine ⟨loadExpiredCols o1 r cols, ?_, fun a => ⟨rfl, rfl⟩, fun a v => loadExpiredCols_dict r cols,
    fun a hma => ?_, fun a hd hma => ?_⟩
  · rw [query_obj_matched hk haf hr hm, ho1]
    rfl
  · dsimp only [loadExpiredCols]
    rw [hma, Bool.not_true, Bool.and_false, Bool.false_and]
    rfl
  · dsimp only [loadExpiredCols]
    rw [hd, hma]
    rfl

/-- an instance that was loaded earlier / elsewhere and is (re-)attached — `add()` of a
    detached object or `merge(obj, load=False)` — is loaded in a transaction that never
    touched the database; the commit that follows expires it all the same
    (`fresh_after_commit_eoc` holds for every state), so the next read goes to the database. -/
theorem attach_loaded (c : Cfg) (st : St) (k : Nat) (m : Bool) (o : Obj)
    (hd : st.det k = some o) (hn : st.objs k = none) :
    (step c st (.attach k m)).1.objs k = some (cleanCopy o) ∧ (step c st (.attach k m)).1.txn = true ∧
    (step c st (.attach k m)).1.rows = st.rows ∧ (step c st (.attach k m)).1.saved = st.saved := by
  dsimp only [step]
  simp only [hd, hn, if_true, and_self]

/-- the operations after which the application can no longer expect attribute `a` of
    object `k` to hold the value it had -/
def Discards (c : Cfg) (op : Op) (k : Nat) (a : Attr) : Bool :=
  match op with
  | .set k' a' _ => k' == k && a' == a
  | .expire k' attrs | .refresh k' attrs =>
    k' == k && (match attrs with
                | none => true
                | some l => l.contains a)
  | .expireAll => true
  | .query pop _ _ => pop
  | .rollback => true
  | .commit => c.eoc
  | .detach k' => k' == k
  | _ => false

theorem discards_sel (c : Cfg) {k k' : Nat} {attrs : Option (List Attr)} {a : Attr} (hk : k = k')
    (h : covers attrs a = true) : Discards c (.expire k' attrs) k a = true :=
  Bool.and_eq_true_iff.2 ⟨decide_eq_true hk.symm, by
    cases attrs with
    | none => rfl
    | some l => exact h⟩

/-- What an operation does to identity `k`: it may discard the attributes `Discards` names —
    all of them when an (auto)flush fails and the session is rolled back — and brings in
    outside state only if it is external. -/
theorem step_at (c : Cfg) (st : St) (op : Op) (k : Nat) :
    Reach c (opOk c op = true) (fun a => Discards c op k a = true ∨ (step c st op).2 = .stale) (isExt op)
      (st.objs k, st.rows k) ((step c st op).1.objs k, (step c st op).1.rows k) := by
  cases op with
  | read k' a' =>
    dsimp only [step]
    cases st.objs k' with
    | none => exact .refl _
    | some o =>
      dsimp only
      cases o.dict a' with
      | some _ => exact .refl _
      | none =>
        dsimp only
        cases haf : autoflush c st with
        | none => exact reach_rolledBack (fun _ => Or.inr rfl) st k
        | some st1 =>
          refine .trans (reach_flushed (autoflush_at haf k)) ?_
          dsimp only
          cases ho1 : st1.objs k' with
          | none => exact .refl _
          | some o1 =>
            cases hr : st1.rows k' with
            | none => exact .refl _
            | some r =>
              refine reach_upd (st := { st1 with txn := true }) ho1 hr k fun _ => ?_
              rw [← loadExpiredCols_none]
              exact .loadExpiredCols o1 r none
  | set k' a' v =>
    dsimp only [step]
    cases ho : st.objs k' with
    | none => exact .refl _
    | some o =>
      exact reach_upd (st := { st with txn := true }) ho rfl k fun hk =>
        .setAttr o _ a' v (fun hok => of_decide_eq_true (Bool.and_eq_true_iff.1 hok).2)
          (Or.inl (Bool.and_eq_true_iff.2 ⟨decide_eq_true hk.symm, decide_eq_true rfl⟩))
  | expire k' attrs =>
    dsimp only [step]
    cases ho : st.objs k' with
    | none => exact .refl _
    | some o =>
      exact reach_upd ho rfl k fun hk => reach_expireSel o _ attrs fun a h => Or.inl (discards_sel c hk h)
  | expireAll => exact .expire _ _ _ fun _ => Or.inl rfl
  | refresh k' attrs =>
    dsimp only [step]
    cases ho : st.objs k' with
    | none => exact .refl _
    | some o =>
      -- `Discards` has one arm for `.expire` and `.refresh`
      have hD : ∀ a, k = k' → covers attrs a = true → Discards c (.refresh k' attrs) k a = true :=
        fun a hk h => discards_sel c hk h
      refine .trans (reach_upd ho rfl k fun hk => reach_expireSel o _ attrs fun a h => Or.inl (hD a hk h)) ?_
      dsimp only
      cases haf : autoflush c (setObj st k' (some (expireSel o attrs))) with
      | none => exact reach_rolledBack (fun _ => Or.inr rfl) _ k
      | some st1 =>
        refine .trans (reach_flushed (autoflush_at haf k)) ?_
        dsimp only
        cases ho1 : st1.objs k' with
        | none => exact .refl _
        | some o1 =>
          cases hr : st1.rows k' with
          | none => exact .refl _
          | some r =>
            refine reach_upd (st := { st1 with txn := true }) ho1 hr k fun hk => ?_
            cases attrs with
            | none =>
              rw [populateFull_eq]
              exact .newObjCols (some o1) r none (Or.inr fun a => Or.inl (hD a hk rfl))
            | some l => exact .populateAttrs o1 r l fun a h => Or.inl (hD a hk h)
  | query pop filt cols =>
    cases haf : autoflush c st with
    | none =>
      have e : step c st (.query pop filt cols) = (rolledBack st, .stale) := by
        dsimp only [step]
        rw [haf]
      rw [e]
      exact reach_rolledBack (fun _ => Or.inr rfl) st k
    | some st1 =>
      refine .trans (reach_flushed (autoflush_at haf k)) ?_
      rw [query_rows haf]
      rcases query_obj_or haf pop filt cols k with e | ⟨r, hk, hr, hm⟩
      · rw [e]
        exact .refl _
      · rw [query_obj_matched hk haf hr hm, hr]
        cases st1.objs k with
        | none => exact .newObjCols none r cols (Or.inl rfl)
        | some o =>
          cases pop with
          | true =>
            exact populateCols_eq populate_existing_pops_absent o r cols ▸
              .newObjCols (some o) r cols (Or.inr fun _ => Or.inl rfl)
          | false => exact .loadExpiredCols o r cols
  | flush =>
    dsimp only [step]
    cases hf : doFlush c st with
    | none => exact reach_rolledBack (fun _ => Or.inr rfl) st k
    | some st1 => exact reach_flushed (doFlush_at hf k)
  | commit =>
    dsimp only [step]
    cases hf : doFlush c st with
    | none => exact reach_rolledBack (fun _ => Or.inr rfl) st k
    | some st1 =>
      refine .trans (reach_flushed (doFlush_at hf k)) ?_
      dsimp only
      cases he : c.eoc with
      | true => exact .expire _ _ _ fun _ => Or.inl he
      | false => exact .refl _
  | rollback =>
    dsimp only [step]
    cases st.txn with
    | true => exact reach_rolledBack (fun _ => Or.inl rfl) st k
    | false => exact .refl _
  | extSet | extDel | extIns =>
    dsimp only [step]
    split <;> exact .ext _ _ _ rfl
  | detach k' =>
    dsimp only [step]
    cases ho : st.objs k' with
    | none => exact .refl _
    | some o =>
      cases st.det k' with
      | some _ => exact .refl _
      | none =>
        dsimp only
        cases o.dirty with
        | true => exact .refl _
        | false => exact reach_upd ho rfl k fun hk => .drop o _ fun _ => Or.inl (decide_eq_true hk.symm)
  | attach k' m =>
    dsimp only [step]
    cases hn : st.objs k' with
    | some _ => exact .refl _
    | none =>
      cases st.det k' with
      | none => exact .refl _
      | some o => exact reach_upd hn rfl k fun _ => .attach o _ rfl

/-- **pending_survives**: whatever value attribute `a` of object `k` holds (in
    particular a pending one) is still there after any operation that does not
    overwrite, expire, refresh or repopulate it and does not end in a rollback. -/
theorem pending_survives (c : Cfg) (st : St) (op : Op) (k : Nat) (a : Attr) (o : Obj) (v : Int)
    (ho : st.objs k = some o) (hd : o.dict a = some v)
    (hnd : Discards c op k a = false) (hns : (step c st op).2 ≠ .stale) :
    ∃ o', (step c st op).1.objs k = some o' ∧ o'.dict a = some v :=
  (step_at c st op k).keeps (fun h => h.elim (Bool.eq_false_iff.1 hnd) hns) ⟨o, ho, hd⟩

theorem step_holds {c : Cfg} {P : Obj → Option Vals → Prop} (hP : ObjInv c P) {st : St} {op : Op}
    (hok : opOk c op = true) (hext : isExt op = false) (h : ∀ k, HoldsAt P st k) (k : Nat) :
    HoldsAt P (step c st op).1 k :=
  (step_at c st op k).holds hP hok (fun he => nomatch hext.symm.trans he) (h k)

theorem step_wf (c : Cfg) (st : St) (op : Op) (hok : opOk c op = true) (hw : WF c st) :
    WF c (step c st op).1 := fun k =>
  -- an external write changes the row only, which `WFObj` does not mention; `attach` brings in a `cleanCopy`
  (step_at c st op k).holds (wfObj_inv c) hok
    (hext := fun _ => ⟨fun _ _ _ h => h, fun o _ => wfObj_cleanCopy c o⟩) (hw k)

theorem wf_run (c : Cfg) (ops : List Op) (hok : ∀ op ∈ ops, opOk c op = true) (st : St)
    (hw : WF c st) : WF c (run c st ops) := by
  induction ops generalizing st with
  | nil => exact hw
  | cons o os ih =>
    exact ih (fun op h => hok op (List.mem_cons_of_mem _ h)) _
      (step_wf c st o (hok o List.mem_cons_self) hw)

/-- **coh_run**: as long as the other connection does not write, after any sequence
    of session operations other than attach and detach (`isExt`) every loaded unmodified
    attribute equals the database (and every remembered committed value too) -/
theorem coh_run (c : Cfg) (ops : List Op) (hok : ∀ op ∈ ops, opOk c op = true ∧ isExt op = false)
    (st : St) (hw : WF c st) (hc : Coh st) : WF c (run c st ops) ∧ Coh (run c st ops) := by
  induction ops generalizing st with
  | nil => exact ⟨hw, hc⟩
  | cons o os ih =>
    have ho := hok o List.mem_cons_self
    have h := step_holds (cohObj_inv c) ho.1 ho.2 (st := st) fun k o ho => ⟨hw k o ho, hc k o ho⟩
    exact ih (fun op h => hok op (List.mem_cons_of_mem _ h)) _ (fun k o ho => (h k o ho).1)
      fun k o ho => (h k o ho).2

/-- `coh_after_expireAll`, `coh_after_rollback`, `coh_after_commit_eoc` re-establish coherence from
    *any* state (i.e. after arbitrary external writes) -/
theorem coh_after_expireAll (c : Cfg) (st : St) : Coh (step c st .expireAll).1 :=
  coh_iff.2 (holdsAt_after_expireAll cohObj_expireObj c st)

theorem coh_after_rollback (c : Cfg) (st : St) (htx : st.txn = true) : Coh (step c st .rollback).1 :=
  coh_iff.2 fun k => holdsAt_after_rollback cohObj_expireObj c st k htx

theorem coh_after_commit_eoc (c : Cfg) (heoc : c.eoc = true) (st : St) : Coh (step c st .commit).1 :=
  coh_iff.2 fun k => holdsAt_after_commit_eoc cohObj_expireObj c st k heoc

/-- **read_coherent** (user level): history = arbitrary operations (external writes
    included), then `expire_all`, then any operations of the session only, attach and detach
    excepted (`isExt`).  Every
    read of an attribute that has no pending change then returns the value the row
    has at that moment, raises ObjectDeletedError if the row is gone, or the
    autoflush fails. -/
theorem read_coherent (c : Cfg) (pre post : List Op) (hpre : ∀ op ∈ pre, opOk c op = true)
    (hpost : ∀ op ∈ post, opOk c op = true ∧ isExt op = false) (k : Nat) (a : Attr) (o : Obj)
    (st : St) (hst : st = run c (step c (run c St.init pre) .expireAll).1 post)
    (ho : st.objs k = some o) (hm : o.mod a = false) :
    (∃ r, st.rows k = some r ∧ (step c st (.read k a)).2 = .val (r a)) ∨
    (step c st (.read k a)).2 = .gone ∨ (step c st (.read k a)).2 = .stale := by
  have hw0 : WF c (run c St.init pre) := wf_run c pre hpre _ fun _ _ => nofun
  have hw1 : WF c (step c (run c St.init pre) .expireAll).1 := step_wf c _ _ rfl hw0
  obtain ⟨_, hc⟩ := coh_run c post hpost _ hw1 (coh_after_expireAll c _)
  rw [← hst] at hc
  cases hd : o.dict a with
  | some v =>
    obtain ⟨r, hr, hv⟩ := (hc k o ho).loaded a v hd hm
    exact Or.inl ⟨r, hr, hv ▸ congrArg Prod.snd (read_loaded ho hd)⟩
  | none =>
    cases hr : st.rows k with
    | some r =>
      rcases read_expired_eq_db c st k a o r ho hd hm hr with h | h
      · exact Or.inl ⟨r, rfl, h⟩
      · exact Or.inr (Or.inr h)
    | none =>
      refine Or.inr ?_
      dsimp only [step]
      simp only [ho, hd]
      cases haf : autoflush c st with
      | none => exact Or.inr rfl
      | some st1 =>
        -- a flush never creates rows
        have hr1 := (autoflush_at haf k).row_none hr
        refine Or.inl ?_
        dsimp only
        cases st1.objs k <;> simp only [hr1]

/-! ## unexpiring an attribute of a vanished row: joined-table inheritance

Reading an expired attribute of an instance whose row was deleted raises
ObjectDeletedError, never yields a value.  For the single-table mapper it is
`read_expired_gone` above.  For a mapper that inherits, `_load_scalar_attributes` takes the
optimized (subclass-tables-only) SELECT; since fix eeca727 it examines the result
(`if state.key and result is None: raise ObjectDeletedError`) instead of returning it as is
(former finding `joined-subclass-attr-unexpire-deleted-row-keyerror`: KeyError, then None on
later reads).  The translator re-reads that branch on every run. -/

/-- the optimized-get branch of `_load_scalar_attributes` examines its result (read from the
    source on every run; reverting the fix makes this `decide` fail) -/
theorem optimized_get_result_checked : SaVerif.Gen.ExpireCfg.optimizedGetResultChecked = true := by decide

theorem unexpire_deleted_row_raises_with (inherits optimized : Bool) :
    loadScalarAttributesWith true inherits optimized false = .objectDeleted := by
  cases inherits <;> cases optimized <;> rfl

/-- **unexpire_deleted_row_raises**: the working tree's `_load_scalar_attributes`, for every
    mapper (inheriting or not, optimized statement available or not): a vanished row is
    ObjectDeletedError -/
theorem unexpire_deleted_row_raises (inherits optimized : Bool) :
    loadScalarAttributes inherits optimized false = .objectDeleted := by
  unfold loadScalarAttributes
  rw [optimized_get_result_checked]
  exact unexpire_deleted_row_raises_with inherits optimized

theorem unexpire_existing_row_loads (checked inherits optimized : Bool) :
    loadScalarAttributesWith checked inherits optimized true = .loaded := by
  cases inherits <;> cases optimized <;> rfl

/-- external update, expire, read: the new value; pending change on another attribute kept -/
example :
    let c : Cfg := ⟨1, 3, false, true⟩
    runOut c St.init [.extIns 0 5, .query false none none, .set 0 1 9, .extSet 0 0 7, .read 0 0,
                      .expire 0 (some [0]), .read 0 0, .read 0 1] =
      [.done, .done, .done, .done, .val 5, .done, .val 7, .val 9] := by decide +kernel

/-- populate_existing overwrites the pending value; plain query does not -/
example :
    let c : Cfg := ⟨1, 2, false, true⟩
    runOut c St.init [.extIns 0 5, .query false none none, .set 0 1 9, .query false none none, .read 0 1,
                      .query true none none, .read 0 1] =
      [.done, .done, .done, .done, .val 9, .done, .val 5] := by decide +kernel

/-- a populate_existing query whose rows carry only attribute 0, over a loaded object with
    pending changes on attributes 0 and 1, after the other connection changed all three: the
    carried attribute is overwritten, the two others are unloaded and no longer pending
    (hypotheses of `populate_existing_cols` satisfied with a non-trivial state), and every
    read returns the database value (`read_after_populate_existing_eq_db`) -/
example :
    let c : Cfg := ⟨1, 3, false, false⟩
    let pre : List Op := [.extIns 0 5, .query false none none, .set 0 0 8, .set 0 1 9,
                          .extSet 0 0 21, .extSet 0 1 22, .extSet 0 2 23]
    let st := run c St.init pre
    let st2 := (step c st (.query true none (some [0]))).1
    ((st.objs 0).map (fun o => ([o.dict 0, o.dict 1, o.dict 2], [o.mod 0, o.mod 1, o.mod 2], o.dirty))) =
        some ([some 8, some 9, some 5], [true, true, false], true) ∧
    (autoflush c st).isSome = true ∧
    ((st2.objs 0).map (fun o => ([o.dict 0, o.dict 1, o.dict 2], [o.mod 0, o.mod 1, o.mod 2], o.dirty))) =
        some ([some 21, none, none], [false, false, false], false) ∧
    runOut c st2 [.read 0 0, .read 0 1, .read 0 2] = [.val 21, .val 22, .val 23] := by decide +kernel

/-- the same query without populate_existing changes nothing on the loaded object (pending
    values and the stale cached a2 are kept: `pending_survives`, `query_plain_existing`) -/
example :
    let c : Cfg := ⟨1, 3, false, false⟩
    runOut c St.init [.extIns 0 5, .query false none none, .set 0 0 8, .set 0 1 9,
                      .extSet 0 0 21, .extSet 0 1 22, .extSet 0 2 23, .query false none (some [0]),
                      .read 0 0, .read 0 1, .read 0 2] =
      [.done, .done, .done, .done, .done, .done, .done, .done, .val 8, .val 9, .val 5] := by decide +kernel

/-- partial columns on an expired object without populate_existing: only the carried column
    is loaded by the query; a new identity gets its carried column and loads the rest on
    first read (`fresh_after_query_new_identity`) -/
example :
    let c : Cfg := ⟨2, 2, false, false⟩
    let st := run c St.init [.extIns 0 5, .query false none none, .expire 0 none, .extIns 1 6,
                             .query false none (some [1])]
    ((st.objs 0).map (fun o => ([o.dict 0, o.dict 1], o.pk))) = some ([none, some 5], true) ∧
    ((st.objs 1).map (fun o => ([o.dict 0, o.dict 1], o.pk))) = some ([none, some 6], true) ∧
    runOut c st [.extSet 1 0 7, .read 1 0, .read 0 0] = [.done, .val 7, .val 5] := by decide +kernel

/-- `Discards` is false for a partial expire of another attribute (pending_survives applies) -/
example : Discards ⟨1, 3, true, true⟩ (.expire 0 (some [0, 2])) 0 1 = false := by decide +kernel

end SaVerif.Props.C46
