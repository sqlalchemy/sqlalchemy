import SaVerif.Lemmas.ResultSpec
import SaVerif.Lemmas.ListFacts
/-!
# C10 — Result objects deliver exactly the underlying rows under any access pattern

Theorems about M-RESULT (`SaVerif/Model/Result.lean`).  Every primitive of every real source —
`CursorFetchStrategy`, `BufferedRowCursorFetchStrategy` with *any* buffer contents / bufsize / growth
factor / max_row_buffer, `FullyBufferedCursorFetchStrategy`, `IteratorResult`, `ChunkedIteratorResult`
(not dynamic) — commutes with the abstraction `buffer ++ cursor ↦ remaining rows` (`src_refines`); hence
every hazard-free operation sequence with sizes ≥ 1 on the facade (Result / ScalarResult / MappingResult
calls, `Op`) returns over a real source what it returns over the bare list (`run_refines`).  Over the
bare list the loops disappear: each call is a structural function of the remaining rows.
-/
namespace SaVerif.Props.C10
open SaVerif.Result

/-- **run_refines**: for any source type that refines the bare list, any facade state and
    any operation sequence with sizes ≥ 1 whose run raises no hazard flag, the outputs (and
    flags) over the source equal those over the bare list. -/
theorem run_refines {σ : Type} {O : SrcOps σ} {good : σ → Prop} {abs : σ → Plain}
    (R : Refines O good abs) :
    ∀ (ops : List Op) (st : St σ), good st.src → st.yp ≠ some 0 →
      (∀ op ∈ ops, op.sized = true) → (∀ x ∈ run O st ops, x.2 = false) →
      run Plain.ops (absSt abs st) ops = run O st ops := by
  intro ops
  induction ops with
  | nil => intro st _ _ _ _; rfl
  | cons op ops ih =>
    intro st hg hyp hs hz
    have h := step_refines R st op hg hyp (hs op List.mem_cons_self) (hz _ List.mem_cons_self)
    simp only [run]
    rw [h.1, ih (step O st op).2 h.2.1 h.2.2 (fun o ho => hs o (List.mem_cons_of_mem _ ho))
      fun x hx => hz x (List.mem_cons_of_mem _ hx)]

def plainInit (rows : List Row) (d1 sss : Bool) (width : Nat) : St Plain :=
  St.init { rem := rows, hard := false, d1 := d1 } sss width

theorem src_run_refines (s : Src) (hg : s.good) (sss : Bool) (w : Nat) (ops : List Op)
    (hs : ∀ op ∈ ops, op.sized = true) (hz : ∀ x ∈ run Src.ops (St.init s sss w) ops, x.2 = false) :
    run Src.ops (St.init s sss w) ops = run Plain.ops (St.init s.abs sss w) ops :=
  (run_refines src_refines ops (St.init s sss w) hg nofun hs hz).symm

/-- **default_refines_plain**: the plain DBAPI-cursor strategy -/
theorem default_refines_plain (rows : List Row) (sss : Bool) (w : Nat) (ops : List Op)
    (hs : ∀ op ∈ ops, op.sized = true)
    (hz : ∀ x ∈ run Src.ops (St.init (Src.mkDefault rows) sss w) ops, x.2 = false) :
    run Src.ops (St.init (Src.mkDefault rows) sss w) ops = run Plain.ops (plainInit rows true sss w) ops :=
  src_run_refines (Src.mkDefault rows) (Src.good_live _ nofun) sss w ops hs hz

/-- **buffered_refines_plain**: `stream_results` with any `max_row_buffer`; the invariant
    `buffer ++ cursor = remaining rows` holds through every growth step of the buffer -/
theorem buffered_refines_plain (maxbuf : Nat) (rows : List Row) (sss : Bool) (w : Nat) (ops : List Op)
    (hs : ∀ op ∈ ops, op.sized = true)
    (hz : ∀ x ∈ run Src.ops (St.init (Src.mkBuffered maxbuf rows) sss w) ops, x.2 = false) :
    run Src.ops (St.init (Src.mkBuffered maxbuf rows) sss w) ops =
      run Plain.ops (plainInit rows false sss w) ops := by
  rw [src_run_refines (Src.mkBuffered maxbuf rows) (Src.good_live _ nofun) sss w ops hs hz]
  exact congrArg (fun l => run Plain.ops (plainInit l false sss w) ops) (List.take_append_drop 1 rows)

/-- any BufferedRow state at all (arbitrary buffer, bufsize, growth factor, max) -/
theorem buffered_any_refines_plain (buf cur : List Row) (bs g mx : Nat) (sss : Bool) (w : Nat)
    (ops : List Op) (hs : ∀ op ∈ ops, op.sized = true)
    (hz : ∀ x ∈ run Src.ops (St.init (.cursor (.buffered buf bs g mx) cur false false) sss w) ops, x.2 = false) :
    run Src.ops (St.init (.cursor (.buffered buf bs g mx) cur false false) sss w) ops =
      run Plain.ops (plainInit (buf ++ cur) false sss w) ops :=
  src_run_refines (.cursor (.buffered buf bs g mx) cur false false) (Src.good_live _ nofun) sss w ops hs hz

theorem full_refines_plain (rows : List Row) (sss : Bool) (w : Nat) (ops : List Op)
    (hs : ∀ op ∈ ops, op.sized = true)
    (hz : ∀ x ∈ run Src.ops (St.init (Src.mkFull rows) sss w) ops, x.2 = false) :
    run Src.ops (St.init (Src.mkFull rows) sss w) ops = run Plain.ops (plainInit rows false sss w) ops :=
  src_run_refines (Src.mkFull rows) (Src.good_live _ nofun) sss w ops hs hz

theorem iter_refines_plain (rows : List Row) (sss : Bool) (w : Nat) (ops : List Op)
    (hs : ∀ op ∈ ops, op.sized = true)
    (hz : ∀ x ∈ run Src.ops (St.init (Src.mkIter rows) sss w) ops, x.2 = false) :
    run Src.ops (St.init (Src.mkIter rows) sss w) ops = run Plain.ops (plainInit rows false sss w) ops :=
  src_run_refines (Src.mkIter rows) (Src.good_iter_open _ _) sss w ops hs hz

/-- ChunkedIteratorResult refines the list when `dynamic_yield_per` is off and the run
    raises no hazard (no `yield_per` while a chunk is held).  Full statement (false, see
    `chunked_dynamic_counterexample`): the same for `dynamic_yield_per = True`. -/
theorem chunked_refines_plain_partial (rows : List Row) (sss : Bool) (w : Nat) (ops : List Op)
    (hs : ∀ op ∈ ops, op.sized = true)
    (hz : ∀ x ∈ run Src.ops (St.init (Src.mkChunked false rows) sss w) ops, x.2 = false) :
    run Src.ops (St.init (Src.mkChunked false rows) sss w) ops =
      run Plain.ops (plainInit rows false sss w) ops :=
  src_run_refines (Src.mkChunked false rows) (Src.good_chunked_open _ _ _ _) sss w ops hs hz

/-- dynamic_yield_per: `fetchone` then `fetchmany(2)` drops rows 1–3 of the held chunk -/
theorem chunked_dynamic_counterexample :
    (run Src.ops (St.init (Src.mkChunked true [[0],[1],[2],[3],[4],[5]]) false 1)
        [.yieldPer .r 4, .fetchone .r, .fetchmany .r (some 2)]).map (·.1) ≠
    (run Plain.ops (plainInit [[0],[1],[2],[3],[4],[5]] false false 1)
        [.yieldPer .r 4, .fetchone .r, .fetchmany .r (some 2)]).map (·.1) := by
  decide +kernel

/-- `yield_per` after a fetch on a ChunkedIteratorResult: hazard flag raised, rows lost -/
theorem chunked_yield_per_counterexample :
    (run Src.ops (St.init (Src.mkChunked false [[0],[1],[2],[3]]) false 1)
        [.yieldPer .r 3, .fetchone .r, .yieldPer .r 2, .fetchall .r]) =
      [(.unit, false), (.item (.row [0]), false), (.unit, true), (.items [.row [3]], false)] := by
  decide +kernel

/-- first() on a CursorResult that was already auto-closed by exhaustion does not
    hard-close it (hazard `corner`): later fetches return [] instead of raising -/
theorem corner_counterexample :
    (run Src.ops (St.init (Src.mkDefault [[1]]) false 1) [.fetchall .r, .first .r, .fetchall .r]) =
      [(.items [.row [1]], false), (.none, true), (.items [], false)] ∧
    (run Plain.ops (plainInit [[1]] true false 1) [.fetchall .r, .first .r, .fetchall .r]).map (·.1) =
      [.items [.row [1]], .none, .err .closed] := by
  decide +kernel

/-! non-vacuity: a hazard-free, sized run with buffer growth, a view, uniqueness and a close -/
example :
    let ops := [Op.fetchone .r, .fetchmany .r (some 3), .unique .r .ident, .scalars 0,
                .iter .v 2, .partitions .v (some 1) 2, .first .v, .closed .r]
    (∀ op ∈ ops, op.sized = true) ∧
    (∀ x ∈ run Src.ops (St.init (Src.mkBuffered 7 ((List.range 14).map (fun i => [i % 5]))) false 1) ops,
      x.2 = false) := by
  decide +kernel

/-- **delivered_exactly_once**: for any sequence of row-delivering calls (fetchone, next,
    fetchmany(n), fetchall, iteration, partitions — any sizes, in any order) on a handle with
    any projection (`columns`, scalars, mappings) and any unique filter, the rows handed out,
    concatenated, are the projection of a *prefix* `c` of the remaining rows, de-duplicated
    against the filter's seen-set (`deliver`), and the untouched suffix is what remains:
    nothing is lost, repeated or reordered. -/
theorem delivered_exactly_once :
    ∀ (ops : List Op) (st : St Plain), (∀ op ∈ ops, op.isData = true) → st.v = none →
      st.src.hard = false → st.r.hashOk st.sss st.src.rem →
      Delivers st.sss st.r st.src ((run Plain.ops st ops).flatMap (fun o => o.1.delivered))
        (runFinal Plain.ops st ops).r (runFinal Plain.ops st ops).src := by
  intro ops
  induction ops with
  | nil => intro st _ _ hp _; exact Delivers.refl st.sss st.r st.src hp
  | cons op ops ih =>
    intro st hd hv hp hh
    obtain ⟨d1, hv1, hs1⟩ := step_delivers st op (hd op List.mem_cons_self) hv hp hh
    have h2 := ih (step Plain.ops st op).2 (fun o ho => hd o (List.mem_cons_of_mem _ ho)) hv1 d1.open
      (hs1 ▸ d1.hashOk hh)
    rw [hs1] at h2
    exact d1.trans h2

/-- without a unique filter: delivered rows followed by the projection of what is left
    equal the projection of what was there -/
theorem delivered_conservation (ops : List Op) (st : St Plain) (hd : ∀ op ∈ ops, op.isData = true)
    (hv : st.v = none) (hp : st.src.hard = false) (hu : st.r.uq = none) :
    (run Plain.ops st ops).flatMap (fun o => o.1.delivered) ++
        (runFinal Plain.ops st ops).src.rem.map (fun r => postItem st.sss st.r (mkItem st.sss st.r r)) =
      st.src.rem.map (fun r => postItem st.sss st.r (mkItem st.sss st.r r)) := by
  obtain ⟨c, pre, e, hdl, hi⟩ :=
    (delivered_exactly_once ops st hd hv hp (fun u h => nomatch hu.symm.trans h)).elim
  rw [deliver_none _ _ _ hu] at hdl
  obtain rfl := Option.some.inj (Prod.mk.inj hdl).1
  rw [hi, e, List.map_append, List.map_map]
  rfl

/-- over every real source: a hazard-free run of row-delivering calls hands out the delivery
    (`deliver`) of some prefix `c` of the rows the source held; what is left of the source is not
    stated (`rest` is free) -/
theorem src_delivered_exactly_once (s : Src) (hg : s.good) (hopen : s.abs.hard = false)
    (sss : Bool) (w : Nat) (yp : Option Nat) (h : Handle) (ops : List Op)
    (hd : ∀ op ∈ ops, op.isData = true) (hs : ∀ op ∈ ops, op.sized = true) (hyp : yp ≠ some 0)
    (hh : h.hashOk sss s.abs.rem)
    (hz : ∀ x ∈ run Src.ops { src := s, sss := sss, width := w, yp := yp, r := h, v := none } ops, x.2 = false) :
    ∃ c pre h' rest, s.abs.rem = c ++ rest ∧ deliver sss h c = (some pre, h') ∧
      (run Src.ops { src := s, sss := sss, width := w, yp := yp, r := h, v := none } ops).flatMap
        (fun o => o.1.delivered) = pre.map (postItem sss h) := by
  have href := run_refines src_refines ops
    { src := s, sss := sss, width := w, yp := yp, r := h, v := none } hg hyp hs hz
  obtain ⟨c, pre, e, hdl, hi⟩ := (delivered_exactly_once ops
    (absSt Src.abs { src := s, sss := sss, width := w, yp := yp, r := h, v := none }) hd rfl hopen hh).elim
  exact ⟨c, pre, _, _, e, hdl, by rw [← href]; exact hi⟩

/-- **fetchmany_unique_spec**: under `unique()`, `fetchmany(n)` returns the first `n` rows
    whose key has not been seen, in order, and consumes exactly up to the last of them
    (`unique_spec` of DESIGN.md) — the `while num_required` batching loop is invisible. -/
theorem fetchmany_unique_spec (sss : Bool) (yp : Option Nat) (h : Handle) (u : UQ) (n : Nat) (p : Plain)
    (hu : h.uq = some u) (hp : p.hard = false) (hh : hashableRows sss h u.strat p.rem) :
    (manyrows Plain.ops sss yp h (some n) p).1 =
        .ok ((takeUniq sss h u.strat p.rem n u.seen).1.map (postItem sss h)) ∧
    (manyrows Plain.ops sss yp h (some n) p).2.1 =
        { h with uq := some { u with seen := (takeUniq sss h u.strat p.rem n u.seen).2.1 } } ∧
    (manyrows Plain.ops sss yp h (some n) p).2.2.rem = (takeUniq sss h u.strat p.rem n u.seen).2.2 := by
  obtain ⟨p', e, hr, -⟩ :=
    manyLoop_plain sss h u.strat n (Plain.ops.size p + 1) [] u.seen p hp hh (Nat.lt_succ_self _)
  unfold manyrows
  rw [hu]
  dsimp only
  rw [e]
  exact ⟨rfl, rfl, hr⟩

/-- `fetchone()` under `unique()` returns the first unseen row -/
theorem fetchone_unique_spec (raw sss : Bool) (h : Handle) (u : UQ) (p : Plain)
    (hu : h.uq = some u) (hp : p.hard = false) (hh : hashableRows sss h u.strat p.rem) :
    (onerow Plain.ops raw sss h p).1 =
        .ok ((takeUniq sss h u.strat p.rem 1 u.seen).1.head?.map (postItem sss h)) ∧
    (onerow Plain.ops raw sss h p).2.2.rem = (takeUniq sss h u.strat p.rem 1 u.seen).2.2 := by
  obtain ⟨p', e, hr, -⟩ :=
    oneLoop_plain raw sss h u.strat (Plain.ops.size p + 1) u.seen p hp hh (Nat.lt_succ_self _)
  unfold onerow
  rw [hu]
  dsimp only
  rw [e]
  cases (takeUniq sss h u.strat p.rem 1 u.seen).1.head? <;> exact ⟨rfl, hr⟩

/-- without `unique()`, `fetchmany(n)` is `take n` / `drop n` -/
theorem fetchmany_plain_spec (sss : Bool) (yp : Option Nat) (h : Handle) (n : Nat) (p : Plain)
    (hu : h.uq = none) (hp : p.hard = false) :
    (manyrows Plain.ops sss yp h (some n) p).1 =
        .ok ((p.rem.take n).map (fun r => postItem sss h (mkItem sss h r))) ∧
    (manyrows Plain.ops sss yp h (some n) p).2.2.rem = p.rem.drop n := by
  unfold manyrows
  rw [hu]
  dsimp only [effSize]
  rw [Plain.fetchmany_some_open n p hp]
  exact ⟨rfl, rfl⟩

/-- `tuplegetter(*indexes)` on a raw row -/
def proj (c : List Nat) (raw : Row) : Row := c.map (fun i => raw.getD i 0)

/-- the rows a handle sees after a chain of `columns(...)` calls, each applied to the rows
    produced by the previous one -/
def projAll : List (List Nat) → Row → Row
  | [], raw => raw
  | idxs :: rest, raw => projAll rest (proj idxs raw)

/-- the metadata's `_translated_indexes` after the same chain of `_reduce` calls
    (`none` = some call raised IndexError) -/
def reduceAll (width : Nat) : List (List Nat) → Option (List Nat) → Option (Option (List Nat))
  | [], cols => some cols
  | idxs :: rest, cols =>
    match reduceCols width cols idxs with
    | some c => reduceAll width rest (some c)
    | none => none

/-- the rows a handle with translated indexes `cols` hands on -/
def baseRow (cols : Option (List Nat)) (raw : Row) : Row :=
  match cols with
  | none => raw
  | some c0 => proj c0 raw

theorem proj_map {cur idxs : List Nat} {raw base : Row}
    (hall : (idxs.all fun i => decide (i < cur.length)) = true)
    (hcur : ∀ i, i < cur.length → raw.getD (cur.getD i 0) 0 = base.getD i 0) :
    proj (idxs.map fun i => cur.getD i 0) raw = proj idxs base := by
  unfold proj
  rw [List.map_map]
  exact List.map_congr_left fun i hi => hcur i (of_decide_eq_true (List.all_eq_true.1 hall i hi))

theorem reduce_step (width : Nat) (cols : Option (List Nat)) (idxs c : List Nat) (raw : Row)
    (h : reduceCols width cols idxs = some c) :
    proj c raw = proj idxs (baseRow cols raw) := by
  unfold reduceCols at h
  cases cols with
  | none =>
    dsimp only at h
    split at h
    · rename_i hall
      cases h
      refine proj_map hall fun i hi => congrArg (raw.getD · 0) ?_
      rw [List.length_range] at hi
      rw [List.getD_eq_getElem?_getD, List.getElem?_range hi]
      rfl
    · exact nomatch h
  | some c0 =>
    dsimp only at h
    split at h
    · rename_i hall
      cases h
      exact proj_map hall fun i hi => (ListFacts.getD_map (f := fun j => raw.getD j 0) hi 0 0).symm
    · exact nomatch h

/-- **compose_translated**: for a chain of projections of *any* depth, the composed
    `_translated_indexes` applied to the raw row give exactly the successive projections -/
theorem compose_translated (width : Nat) :
    ∀ (chain : List (List Nat)) (cols : Option (List Nat)) (final : Option (List Nat)) (raw : Row),
      reduceAll width chain cols = some final →
      baseRow final raw = projAll chain (baseRow cols raw) := by
  intro chain
  induction chain with
  | nil =>
    intro cols final raw h
    simp only [reduceAll, Option.some.injEq] at h
    subst h; rfl
  | cons idxs rest ih =>
    intro cols final raw h
    simp only [reduceAll] at h
    cases hr : reduceCols width cols idxs with
    | none => simp [hr] at h
    | some c =>
      rw [hr] at h
      have := ih (some c) final raw h
      rw [this]
      simp only [projAll]
      rw [← reduce_step width cols idxs c raw hr]
      rfl

/-- depth 3 with reordering at every level: `columns(2,0,1).columns(1,2).columns(1)` reads raw
    column 1 -/
example : reduceAll 3 [[2, 0, 1], [1, 2], [1]] none = some (some [1]) ∧
    projAll [[2, 0, 1], [1, 2], [1]] [10, 11, 12] = [11] := by decide +kernel

/-- the remainder as the property sees it: projected and, under `unique()`, reduced to
    the rows whose key is new -/
def distinctRemainder (sss : Bool) (h : Handle) (rem : List Row) : List Item :=
  match h.uq with
  | none => rem.map (mkItem sss h)
  | some u => (takeUniq sss h u.strat rem rem.length u.seen).1

/-- `one_errors` of DESIGN.md: no row → None / NoResultFound; exactly one → that row;
    two or more → MultipleResultsFound when a second row is checked for, else the first -/
def onlySpec (sss : Bool) (h : Handle) (second rnone : Bool) (rem : List Row) : Out :=
  match distinctRemainder sss h rem with
  | [] => if rnone then .err .noResult else .none
  | [x] => .item (postItem sss h x)
  | x :: _ :: _ => if second then .err .multiple else .item (postItem sss h x)

/-
Full statement (FALSE — finding F17, see `onlyone_unique_counterexample`):
  theorem onlyone_spec (p open) : onlyOne Plain.ops sss h second rnone false p
      = (onlySpec sss h second rnone p.rem, Plain.done)
`_only_one_row` reads raw rows and never consults the seen-set, so the equality needs the
guard that no remaining row has an already-seen key (e.g. nothing was delivered yet).
-/
theorem onlyone_spec_partial (sss : Bool) (h : Handle) (second rnone : Bool) (p : Plain)
    (hp : p.hard = false)
    (hG : ∀ u, h.uq = some u → ∀ r ∈ p.rem, u.seen.contains (keyOf u.strat (mkItem sss h r)) = false) :
    onlyOne Plain.ops sss h second rnone false p = (onlySpec sss h second rnone p.rem, Plain.done) := by
  unfold onlyOne onlySpec
  rw [Plain.fetchone_open true p hp]
  cases hrem : p.rem with
  | nil =>
    have hdr : distinctRemainder sss h [] = [] := by unfold distinctRemainder; cases h.uq <;> rfl
    rw [hdr]
    rfl
  | cons r rest =>
    simp only [Bool.false_and, Bool.false_eq_true, if_false]
    cases hu : h.uq with
    | none =>
      have hdr : distinctRemainder sss h (r :: rest) = mkItem sss h r :: rest.map (mkItem sss h) := by
        unfold distinctRemainder
        rw [hu]
        rfl
      rw [hdr]
      cases second with
      | false => rw [Plain.softClose_true]; cases rest <;> rfl
      | true =>
        rw [if_pos rfl, Plain.fetchone_open true { p with rem := rest } hp]
        cases rest with
        | nil => rfl
        | cons r2 rest2 => dsimp only; rw [Plain.softClose_true]; rfl
    | some u =>
      have hrest : ∀ x ∈ rest, u.seen.contains (keyOf u.strat (mkItem sss h x)) = false :=
        fun x hx => hG u hu x (hrem ▸ List.mem_cons_of_mem _ hx)
      -- the de-duplicated remainder starts with the first row …
      have hdr : distinctRemainder sss h (r :: rest) = mkItem sss h r ::
          (takeUniq sss h u.strat rest rest.length (keyOf u.strat (mkItem sss h r) :: u.seen)).1 := by
        unfold distinctRemainder
        rw [hu]
        exact congrArg Prod.fst (takeUniq_new (ne_true_of_eq_false (hG u hu r (hrem ▸ List.mem_cons_self))) rest _)
      -- … and has a second element iff some later row differs from it
      have hsecond : (takeUniq sss h u.strat rest rest.length (keyOf u.strat (mkItem sss h r) :: u.seen)).1 = [] ↔
          rest.any (fun x => decide (keyOf u.strat (mkItem sss h x) ≠ keyOf u.strat (mkItem sss h r))) = false := by
        rw [takeUniq_nil_iff sss h u.strat rest rest.length _ List.length_pos_iff.2, List.any_eq_false]
        refine forall₂_congr fun x hx => ?_
        rw [List.contains_cons, hrest x hx, Bool.or_false, beq_iff_eq, decide_eq_true_eq, ne_eq,
          Decidable.not_not]
      rw [hdr]
      generalize (takeUniq sss h u.strat rest rest.length (keyOf u.strat (mkItem sss h r) :: u.seen)).1 = T
        at hsecond
      cases second with
      | false => rw [Plain.softClose_true]; cases T <;> rfl
      | true =>
        obtain ⟨p2, e, hdone⟩ := skipEq_plain sss h u.strat (keyOf u.strat (mkItem sss h r))
          (Plain.ops.size { p with rem := rest } + 1) { p with rem := rest } hp (Nat.lt_succ_self _)
        rw [if_pos rfl]
        dsimp only
        rw [e]
        cases hany : rest.any (fun x => decide (keyOf u.strat (mkItem sss h x) ≠ keyOf u.strat (mkItem sss h r))) with
        | true =>
          dsimp only
          rw [Plain.softClose_true]
          cases T with
          | nil => exact nomatch (hsecond.1 rfl).symm.trans hany
          | cons y ys => rfl
        | false => rw [hdone hany, hsecond.2 hany]

/-- **F17**: `unique()`, one row delivered, then `first()`: the code returns the duplicate
    `(1)` again where the de-duplicated remainder starts with `(2)`; with `one()` it raises
    MultipleResultsFound where exactly one unseen row is left. -/
theorem onlyone_unique_counterexample :
    (run Plain.ops (plainInit [[1], [1], [2]] false false 1)
        [.unique .r .ident, .fetchone .r, .first .r]).map (·.1) =
      [.unit, .item (.row [1]), .item (.row [1])] ∧
    onlySpec false { view := .rows, cols := none, uq := some { seen := [.tup [1]], strat := .ident } }
        false false [[1], [2]] = .item (.row [2]) ∧
    (run Plain.ops (plainInit [[1], [1], [2]] false false 1)
        [.unique .r .ident, .fetchone .r, .one .r]).map (·.1) =
      [.unit, .item (.row [1]), .err .multiple] ∧
    onlySpec false { view := .rows, cols := none, uq := some { seen := [.tup [1]], strat := .ident } }
        true true [[1], [2]] = .item (.row [2]) := by
  decide +kernel

/-! non-vacuity of `onlyone_spec_partial`: a fresh unique filter over rows with duplicates -/
example : onlyOne Plain.ops false { view := .rows, cols := none, uq := some { seen := [], strat := .ident } }
    true true false { rem := [[3], [3], [3]], hard := false, d1 := false } =
    (.item (.row [3]), Plain.done) := by decide +kernel

/-- **frozen_replay**: the result a FrozenResult over `data` thaws to (`ofList data`) is open,
    and `fetchall` on it returns `data` (the thaw is a pure function of the data; that `freeze`
    stores the rows is `freeze_data`) -/
theorem frozen_replay (data : List Row) (w : Nat) :
    (step Src.ops (St.init (Src.ops.ofList data) false w) (.fetchall .r)).1 =
      (.items (data.map .row), false) := by
  show (Out.items ((data.map (mkItem false Handle.init)).map (postItem false Handle.init)), false) = _
  rw [List.map_map]
  rfl

/-- freezing a Result without unique filter consumes it through `fetchall`, and the thawed
    result starts from exactly those rows -/
theorem freeze_data (s : Src) (hg : s.good) (hopen : s.abs.hard = false) (w : Nat) (h : Handle)
    (hu : h.uq = none) (hv : h.view = .rows) :
    (step Src.ops { src := s, sss := false, width := w, yp := none, r := h, v := none } .freeze).2.src.abs.rem =
      s.abs.rem.map (fun r => itemVals (mkItem false h r)) := by
  obtain ⟨o, s1, e, e', -⟩ := src_refines.fetchall' hg
  obtain rfl : o = .ok s.abs.rem :=
    (congrArg Prod.fst e').symm.trans (congrArg Prod.fst (Plain.fetchall_open s.abs hopen))
  have hpost : ∀ it, postItem false h it = it := fun it => by unfold postItem; rw [hv]
  dsimp only [step]
  rw [if_neg Bool.false_ne_true]
  unfold allrows
  rw [e, hu]
  show ((s.abs.rem.map (mkItem false h)).map (postItem false h)).map itemVals = _
  rw [List.map_map, List.map_map]
  exact List.map_congr_left fun r _ => congrArg itemVals (hpost _)

/-- **merged_concat**: a MergedResult over fresh children delivers the children's rows
    concatenated, whatever fetch strategy each child uses -/
theorem merged_concat (children : List Src) (hg : ∀ c ∈ children, c.good)
    (ho : ∀ c ∈ children, c.abs.hard = false) :
    (Src.mkMerged children).abs.rem = children.flatMap (fun c => c.abs.rem) := by
  have hm : (Src.mkMerged children).abs.rem =
      children.flatMap (fun c => Src.rawDrain (c.size + 1) c) := rfl
  rw [hm]
  clear hm
  induction children with
  | nil => rfl
  | cons c cs ih =>
    simp only [List.flatMap_cons]
    rw [ih (fun x hx => hg x (by simp [hx])) (fun x hx => ho x (by simp [hx]))]
    rw [rawDrain_spec _ c (hg c (by simp)) (ho c (by simp)) (by rw [src_size c]; omega)]

example : (Src.mkMerged [Src.mkBuffered 2 [[1], [2], [3]], Src.mkDefault [[4]], Src.mkFull [[5], [6]]]).abs.rem =
    [[1], [2], [3], [4], [5], [6]] := by decide +kernel

end SaVerif.Props.C10
