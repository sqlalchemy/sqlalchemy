import SaVerif.Lemmas.UrlScan
/-!
# C20 — Database URLs round-trip through their string form

Property theorems about M-URL (`SaVerif/Model/Url.lean`: `URL.render_as_string`,
`_parse_url`, and the `urllib.parse` functions they call).  Strings are arbitrary lists
of Unicode scalar values; nothing below is restricted to ASCII except the drivername
(the regex's `\w` is modelled for ASCII).  The `safe=` sets and `keep_blank_values` come
from `Gen/UrlCfg.lean`, regenerated from the working tree on every run.
-/
namespace SaVerif.Props.C20
open SaVerif.Url SaVerif.Gen.UrlCfg

theorem unquote_quote (safe : Str) (hs : '%' ∉ safe) (s : Str) : unquote (quote safe s) = s :=
  Url.unquote_quote safe hs s

/-- the three `safe=` arguments used by `render_as_string` qualify -/
theorem safe_sets_ok : '%' ∉ safeUser ∧ '%' ∉ safePassword ∧ '%' ∉ safeDatabase := by decide

/-- the `quote_plus` round trip as `parse_qsl` undoes it: `+` → space, then `unquote` -/
theorem unquote_plus_quote_plus (s : Str) : unquote ((quotePlus s).map plusToSpace) = s :=
  qsDecode_quotePlus s

/-- every list of key/value pairs — keys and values
    arbitrary, empty strings included — is recovered from its `k=v&k=v` form with
    `keep_blank_values=True` -/
theorem parse_qsl_render (kvs : List (Str × Str)) (hne : kvs ≠ []) :
    parseQsl true (intercalate ['&'] (kvs.map pairStr)) = kvs :=
  parseQsl_render kvs

/-- "syntactically valid host": non-empty, none of `/ ? @`; a host without `:` must not
    start with `[` (it would be read as a bracketed IPv6 literal) -/
def WFHost (h : Str) : Prop :=
  h ≠ [] ∧ (∀ x ∈ h, x ≠ '/' ∧ x ≠ '?' ∧ x ≠ '@') ∧ (':' ∉ h → ∀ t, h ≠ '[' :: t)

structure WF (u : URL) : Prop where
  name_ne : u.drivername ≠ []
  name_ok : ∀ c ∈ u.drivername, wordPlus c = true
  host_ok : ∀ h, u.host = some h → WFHost h
  /-- forced by the proof (see `parse_render_counterexample_password_without_username`) -/
  pw_user : u.username = none → u.password = none
  keys_nodup : (keysOf u.query).Nodup
  /-- forced by the proof (see `parse_render_counterexample_singleton_tuple`) -/
  vals_ok : ∀ e ∈ u.query, WFVal e.2

theorem at_not_in_segH {u : URL} (hw : WF u) : '@' ∉ segH u := by
  unfold segH
  split
  · exact List.not_mem_nil
  · rename_i h heq
    obtain ⟨_, hch, _⟩ := hw.host_ok h heq
    have hh : '@' ∉ h := fun hm => by
      obtain ⟨_, _, hat⟩ := hch _ hm
      exact hat rfl
    split
    · simpa using hh
    · exact hh

theorem at_not_in_tail {u : URL} (hw : WF u) : '@' ∉ segH u ++ (segP u ++ (segD u ++ segQ u)) := by
  simp only [List.mem_append, not_or]
  exact ⟨at_not_in_segH hw, at_not_in_segP u, at_not_in_segD u, at_not_in_segQ u⟩

theorem scanHost_seg {u : URL} (hw : WF u) :
    scanHost (segH u ++ (segP u ++ (segD u ++ segQ u))) =
      ((hostGroups u.host).1, (hostGroups u.host).2, segP u ++ (segD u ++ segQ u)) := by
  unfold segH hostGroups
  cases hh : u.host with
  | none =>
    simp only [List.nil_append]
    exact scanHost_none (segPDQ_delim u)
  | some h =>
    obtain ⟨hne, hch, hbr⟩ := hw.host_ok h hh
    by_cases hc : h.contains ':' = true
    · simp only [hc, if_true]
      have hassoc : ('[' :: h ++ [']']) ++ (segP u ++ (segD u ++ segQ u))
          = '[' :: (h ++ ']' :: (segP u ++ (segD u ++ segQ u))) := by simp
      rw [hassoc]
      refine scanHost_v6 hne (fun x hx => ?_) (fun x hx => ?_) (segDQ_head u)
      · obtain ⟨hslash, hq, _⟩ := hch x hx
        exact ⟨hslash, hq⟩
      · obtain ⟨hslash, hq, hbr, _⟩ := segP_chars hx
        exact ⟨hslash, hq, hbr⟩
    · simp only [hc, Bool.false_eq_true, if_false]
      have hnc : ':' ∉ h := by simpa using hc
      refine scanHost_v4 hne (fun x hx => ?_) (hbr hnc) (segPDQ_delim u)
      obtain ⟨hslash, hq, _⟩ := hch x hx
      exact ⟨hslash, fun he => hnc (he ▸ hx), hq⟩

theorem scanUserinfo_seg {u : URL} (hw : WF u) (T : Str) (hT : '@' ∉ T) :
    scanUserinfo (segU u ++ T) =
      (u.username.map (quote safeUser), u.password.map (quote safePassword), T) := by
  unfold segU
  cases hu : u.username with
  | none =>
    rw [hw.pw_user hu]
    simp only [List.nil_append, Option.map_none]
    exact scanUserinfo_noAt hT
  | some user =>
    cases hp : u.password with
    | none =>
      simp only [List.append_nil, Option.map_some, Option.map_none, List.append_assoc,
        List.singleton_append]
      exact scanUserinfo_user (fun x hx => (user_chars hx).2) hT
    | some pw =>
      simp only [Option.map_some, List.append_assoc, List.cons_append, List.nil_append]
      exact scanUserinfo_userpw T (fun x hx => (user_chars hx).2) pw_chars

theorem scan_render {u : URL} (hw : WF u) :
    scan (render u) = some
      ⟨u.drivername, u.username.map (quote safeUser), u.password.map (quote safePassword),
       (hostGroups u.host).1, (hostGroups u.host).2, u.port.map (fun p => (toString p).toList),
       u.database.map (quote safeDatabase),
       if u.query.isEmpty then none else some (intercalate ['&'] (renderPairs u.query))⟩ := by
  rw [render_eq]
  unfold scan
  have hname := takeWhile_append_cons (p := wordPlus) (a := u.drivername) (c := ':')
    ('/' :: '/' :: (segU u ++ (segH u ++ (segP u ++ (segD u ++ segQ u))))) hw.name_ok (by decide)
  simp only [hname.1, hname.2, List.isEmpty_eq_false_iff.2 hw.name_ne]
  rw [scanUserinfo_seg hw _ (at_not_in_tail hw)]
  simp only
  rw [scanHost_seg hw]
  simp only
  rw [scanPort_seg]
  simp only
  rw [scanDb_seg]
  simp only
  rw [scanQuery_segQ]

theorem query_roundtrip {u : URL} (hw : WF u) :
    (parseQsl keepBlank (intercalate ['&'] (renderPairs u.query))).foldl addPair [] = sortEntries u.query := by
  have hperm := sortEntries_perm u.query
  rw [keepBlank_true, renderPairs_eq, parseQsl_render]
  exact foldl_addPair_entries (sortEntries u.query) []
    ((hperm.map _).nodup_iff.2 hw.keys_nodup) fun e he => hw.vals_ok e (hperm.mem_iff.1 he)

/-- for every well-formed URL, parsing its rendered form gives back the
    URL; the query comes back in key order (`URL.__eq__` compares it as a dict, see
    `parse_render_query_perm`). -/
theorem parse_render (u : URL) (hw : WF u) :
    parseUrl (render u) = .ok { u with query := sortEntries u.query } := by
  unfold parseUrl
  rw [scan_render hw]
  simp only
  have hso := safe_sets_ok
  rw [portOf_render, map_unquote_quote _ hso.1, map_unquote_quote _ hso.2.1,
    map_unquote_quote _ hso.2.2, hostGroups_join]
  simp only
  cases hq : u.query.isEmpty with
  | true =>
    have : u.query = [] := by simpa using hq
    simp [this, sortEntries, queryOf]
  | false =>
    simp only [Bool.false_eq_true, if_false, queryOf]
    rw [query_roundtrip hw]

/-- the query of the parsed URL is the original one as a dict -/
theorem parse_render_query_perm (u : URL) : (sortEntries u.query).Perm u.query :=
  sortEntries_perm u.query

/-- whatever the other components contain, each parsed component
    equals the rendered one -/
theorem no_component_leak (u v : URL) (hw : WF u) (h : parseUrl (render u) = .ok v) :
    v.drivername = u.drivername ∧ v.username = u.username ∧ v.password = u.password ∧
    v.host = u.host ∧ v.port = u.port ∧ v.database = u.database ∧ v.query.Perm u.query := by
  rw [parse_render u hw] at h
  cases h
  exact ⟨rfl, rfl, rfl, rfl, rfl, rfl, sortEntries_perm u.query⟩

/-! ## counterexamples (replayed on the real code by harness/props/c20.py) -/

/-- `{"a": ("x",)}` comes back as `{"a": "x"}`: `vals_ok` cannot be dropped -/
theorem parse_render_counterexample_singleton_tuple :
    (parseUrl (render ⟨['p', 'g'], none, none, some ['h'], none, none, [(['a'], .multi [['x']])]⟩)).toOption
      = some ⟨['p', 'g'], none, none, some ['h'], none, none, [(['a'], .single ['x'])]⟩ := by
  decide +kernel

/-- a password without a username is not rendered at all: `pw_user` cannot be dropped -/
theorem parse_render_counterexample_password_without_username :
    (parseUrl (render ⟨['p', 'g'], none, some ['p'], some ['h'], none, none, []⟩)).toOption
      = some ⟨['p', 'g'], none, none, some ['h'], none, none, []⟩ := by
  decide +kernel

/-- blank values (kept: `keep_blank_values=True`), specials in every component -/
def exUrl : URL :=
  ⟨"pg+x".toList, some "u@:/ é".toList, some "p@:?+%".toList, some "::1".toList, some 5432,
   some "a/b?c d".toList, [("k&=".toList, .single []), ([], .multi ["1".toList, [], "+ %".toList])]⟩

theorem exUrl_wf : WF exUrl where
  name_ne := by decide +kernel
  name_ok := by decide +kernel
  host_ok := by
    intro h hh
    cases hh
    exact ⟨by decide +kernel, by decide +kernel, fun hc => absurd (by decide +kernel) hc⟩
  pw_user := by intro h; cases h
  keys_nodup := by decide +kernel
  vals_ok := by
    intro e he
    simp only [exUrl, List.mem_cons, List.not_mem_nil, or_false] at he
    rcases he with rfl | rfl
    · trivial
    · show 2 ≤ 3; decide

example : parseUrl (render exUrl) = .ok { exUrl with query := sortEntries exUrl.query } :=
  parse_render exUrl exUrl_wf

end SaVerif.Props.C20
