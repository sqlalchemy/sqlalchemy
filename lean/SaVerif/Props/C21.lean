import SaVerif.Lemmas.Naming
import SaVerif.Gen.NamingTables
/-!
# C21 — Generated and truncated names are bounded, deterministic and unique

Theorems about M-STR/names (`SaVerif/Model/Naming.lean`).  `util.md5_hex` is an
uninterpreted function `md5` about which only the output length is assumed.
-/
namespace SaVerif.Props.C21
open SaVerif.Ident SaVerif.Naming

/-- **truncated_len_le_max** — `_truncate_and_render_maxlen_name` renders a convention-generated
    (`conv` / `_truncated_label`) name of any length with at most `max` characters, provided
    `max ≥ 8` -/
theorem truncated_len_le_max (md5 : Str → Str) (hmd5 : ∀ x, (md5 x).length = 32)
    (name : Str) (max mi : Nat) (hmax : 8 ≤ max) (r : Str)
    (h : truncMaxlen md5 true name max mi = some r) : r.length ≤ max := by
  unfold truncMaxlen at h
  simp only [if_true] at h
  split at h
  · rename_i hgt
    cases h
    have h4 := last4_len (md5 name) (by rw [hmd5]; omega)
    have hk : ((max : Int) - 8) ≥ 0 := by omega
    simp only [pySliceTo, hk, if_true, List.length_append, List.length_cons, h4, List.length_take]
    have : ((max : Int) - 8).toNat = max - 8 := by omega
    rw [this]; omega
  · cases h; omega

theorem short_name_unchanged (md5 : Str → Str) (name : Str) (max mi : Nat)
    (h : name.length ≤ max) : truncMaxlen md5 true name max mi = some name := by
  unfold truncMaxlen
  have : ¬ name.length > max := by omega
  simp [this]

/-- the hypothesis `8 ≤ max` is forced: with `max = 5` the slice `name[0:-3]` is taken
    from the end and the result is longer than `max` -/
theorem truncated_small_max_counterexample :
    ((truncMaxlen (fun _ => List.replicate 32 48) true (List.replicate 20 97) 5 5).map List.length)
      = some 22 := by decide +kernel

/-- explicitly given names are only checked against `max_identifier_length`:
    `validate_identifier` either rejects the name or renders it unchanged -/
theorem explicit_name (md5 : Str → Str) (name : Str) (max mi : Nat) (r : Str)
    (h : truncMaxlen md5 false name max mi = some r) : r = name ∧ r.length ≤ mi := by
  unfold truncMaxlen at h
  simp only [Bool.false_eq_true, if_false] at h
  split at h
  · cases h
  · cases h; exact ⟨rfl, by omega⟩

/-- full statement (false when a dialect has a smaller index/constraint limit):
    "an explicitly given index name is rendered with at most `max` characters or rejected".
    MySQL: `max_identifier_length = 255`, `max_index_name_length = 64`. -/
theorem explicit_exceeds_specific_max_counterexample :
    ((truncMaxlen (fun _ => []) false (List.replicate 100 97) 64 255).map List.length) = some 100 := by
  decide +kernel

theorem dialect_limits_ok : ∀ d ∈ SaVerif.Gen.NamingTables.all,
    8 ≤ effMax d.2.1 d.1 ∧ 8 ≤ effMax d.2.2 d.1 := by decide +kernel

/-- documented server limits for index / constraint names (trusted), aligned with
    `NamingTables.all` = default, sqlite, postgresql, mysql, mariadb, mssql, oracle;
    `none` = no fixed limit -/
def backendLimits : List (Option Nat) := [none, none, some 63, some 64, some 64, some 128, some 128]

/-- the limits SQLAlchemy truncates to never exceed what the server accepts -/
theorem dialect_limits_within_backend :
    ∀ p ∈ List.zip SaVerif.Gen.NamingTables.all backendLimits, ∀ b, p.2 = some b →
      effMax p.1.2.1 p.1.1 ≤ b ∧ effMax p.1.2.2 p.1.1 ≤ b := by decide +kernel

theorem truncated_len_le_max_dialects (md5 : Str → Str) (hmd5 : ∀ x, (md5 x).length = 32)
    (d : Nat × Option Nat × Option Nat) (hd : d ∈ SaVerif.Gen.NamingTables.all) (name r : Str) :
    (truncMaxlen md5 true name (effMax d.2.1 d.1) d.1 = some r → r.length ≤ effMax d.2.1 d.1) ∧
    (truncMaxlen md5 true name (effMax d.2.2 d.1) d.1 = some r → r.length ≤ effMax d.2.2 d.1) :=
  ⟨truncated_len_le_max md5 hmd5 name _ _ (dialect_limits_ok d hd).1 r,
   truncated_len_le_max md5 hmd5 name _ _ (dialect_limits_ok d hd).2 r⟩

/-- **label_len_le** — in a compilation with at most 16⁵−1 calls of `_truncated_identifier`
    (per class the counter is rendered with `hex`), every label / alias / bind name
    produced is at most `label_length` characters long (`label_length ≥ 6`) -/
theorem label_len_le (L : Nat) (hL : 6 ≤ L) (reqs : List (Nat × Str))
    (hn : reqs.length + 1 ≤ 16 ^ 5) : ∀ r ∈ runIdents L TState.empty reqs, r.length ≤ L := by
  intro r hr
  obtain ⟨_, _, hS, _, _, _, hcnt, hserved⟩ :=
    run_spec L reqs TState.empty (shape_empty L) inj_empty pos_empty
  obtain ⟨i, hi⟩ := List.mem_iff_getElem?.1 hr
  have hi' : i < reqs.length := by
    have := (List.getElem?_eq_some_iff.1 hi).1
    omega
  obtain ⟨⟨c, n⟩, hq⟩ : ∃ q, reqs[i]? = some q := ⟨reqs[i], List.getElem?_eq_getElem hi'⟩
  have hlk := hserved i (c, n) r hq hi
  rcases hS c n r hlk with ⟨e, hnl⟩ | ⟨hnl, k, _, hk, e⟩
  · subst e; omega
  · have hc := hcnt c
    have h0 := getCounter_empty c
    -- `L - 6` characters of the name, `_`, and at most 5 hex digits
    have hk5 : k < 16 ^ 5 := by omega
    have hh := (hexStr_spec k).2.2 5 hk5 (by omega)
    have := (truncForm_len L n k hnl).1
    rw [e, this]; omega

/-- **truncated_distinct** — within one compilation and one identifier class, two
    requests that received the same rendered name were requests for the same name:
    distinct names never share a label, alias or bind name, for every request
    sequence, every `label_length` and any mix of long and short names. -/
theorem truncated_distinct (L : Nat) (reqs : List (Nat × Str)) (i j : Nat) (c : Nat)
    (n1 n2 r : Str) (h1 : reqs[i]? = some (c, n1)) (h2 : reqs[j]? = some (c, n2))
    (r1 : (runIdents L TState.empty reqs)[i]? = some r)
    (r2 : (runIdents L TState.empty reqs)[j]? = some r) : n1 = n2 := by
  obtain ⟨_, _, _, hI, _, _, _, hserved⟩ :=
    run_spec L reqs TState.empty (shape_empty L) inj_empty pos_empty
  exact hI c n1 n2 r (hserved i _ r h1 r1) (hserved j _ r h2 r2)

/-- **memo_stable** — a name requested twice renders identically (no dependence on
    what was requested in between) -/
theorem memo_stable (L : Nat) (reqs : List (Nat × Str)) (i j : Nat) (q : Nat × Str) (a b : Str)
    (h1 : reqs[i]? = some q) (h2 : reqs[j]? = some q)
    (r1 : (runIdents L TState.empty reqs)[i]? = some a)
    (r2 : (runIdents L TState.empty reqs)[j]? = some b) : a = b := by
  obtain ⟨_, _, _, _, _, _, _, hserved⟩ :=
    run_spec L reqs TState.empty (shape_empty L) inj_empty pos_empty
  have ha := hserved i q a h1 r1
  have hb := hserved j q b h2 r2
  rw [ha] at hb; cases hb; rfl

/-- what "respects the limits the dialect holds in state `st`" means for one output -/
def Bounded (st : DState) (op : LOp) (out : LOut) : Prop :=
  match op, out with
  | .label _, .name r => 6 ≤ effLabel st → r.length ≤ st.maxIdent
  | .fmtIndex true _, .name r => 8 ≤ effMax st.maxIndex st.maxIdent → r.length ≤ effMax st.maxIndex st.maxIdent
  | .fmtConstraint true _, .name r =>
    8 ≤ effMax st.maxConstraint st.maxIdent → r.length ≤ effMax st.maxConstraint st.maxIdent
  | .fmtIndex false _, .name r => r.length ≤ st.maxIdent
  | .fmtConstraint false _, .name r => r.length ≤ st.maxIdent
  | _, _ => True

/-- the bound is by the limits of THAT state: the call reads them live -/
theorem step_bounded (md5 : Str → Str) (hmd5 : ∀ x, (md5 x).length = 32) (st : DState)
    (hok : LabelOK st) (op : LOp) (hop : ∀ lim, op ≠ .connect lim) :
    (lifeStep md5 st op).1 = st ∧ Bounded st op (lifeStep md5 st op).2 := by
  refine ⟨lifeStep_fmt_state md5 st op hop, ?_⟩
  cases op with
  | connect lim => exact absurd rfl (hop lim)
  | label n =>
    simp only [lifeStep, Bounded]
    intro h6
    have hrun : runIdents (effLabel st) TState.empty [(0, n)] =
        [(truncIdent (effLabel st) TState.empty 0 n).1] := rfl
    exact Nat.le_trans (label_len_le _ h6 [(0, n)] (by simp) _ (hrun ▸ List.mem_singleton_self _)) hok
  | fmtIndex t n | fmtConstraint t n =>
    simp only [lifeStep]
    split
    · next r h =>
      cases t
      · exact (explicit_name md5 n _ _ r h).2
      · exact fun h8 => truncated_len_le_max md5 hmd5 n _ _ h8 r h
    · cases t <;> exact trivial

/-- **names_after_connect_respect_new_limit** — after a successful `initialize()` that set
    the identifier limit to what the server reports (possibly smaller than the class-level
    value, whatever was formatted before), every label, index name and constraint name
    emitted by any sequence of formatting calls up to the next connect is bounded by the
    NEW limits, and `label_length` is known to fit them (else the connect raised
    `ArgumentError`). -/
theorem names_after_connect_respect_new_limit (md5 : Str → Str) (hmd5 : ∀ x, (md5 x).length = 32)
    (st : DState) (lim : Option Nat) (hc : (connectStep st lim).2 = .connected) :
    (connectStep st lim).1.maxIdent = newMaxIdent st lim ∧
    ∀ (ops : List LOp), (∀ op ∈ ops, ∀ l, op ≠ .connect l) →
      ∀ e ∈ lifeRun md5 (connectStep st lim).1 ops,
        e.1 = (connectStep st lim).1 ∧ Bounded (connectStep st lim).1 e.2.1 e.2.2 := by
  have hok := connect_ok_labelOK st lim hc
  refine ⟨?_, ?_⟩
  · rw [connectStep_fst]
  · generalize (connectStep st lim).1 = s1 at hok ⊢
    intro ops
    induction ops with
    | nil => intro _ e he; simp [lifeRun] at he
    | cons op rest ih =>
      intro hops e he
      have hop := hops op List.mem_cons_self
      obtain ⟨h1, h2⟩ := step_bounded md5 hmd5 s1 hok op hop
      simp only [lifeRun, List.mem_cons] at he
      rcases he with he | he
      · subst he
        exact ⟨h1, h2⟩
      · rw [h1] at he
        exact ih (fun o ho => hops o (List.mem_cons_of_mem _ ho)) e he

/-- a shrinking limit with a too-large `label_length` is refused (Oracle < 12.2 style:
    class limit 128, server limit 30, label_length 40) -/
example : (connectStep ⟨128, false, some 40, none, none⟩ (some 30)).2 = .argumentError := by
  decide +kernel
example : (lifeRun (fun _ => List.replicate 32 48) ⟨128, false, some 20, none, none⟩
    [.fmtIndex true (List.replicate 61 97), .connect (some 30), .fmtIndex true (List.replicate 61 97)]).map
      (fun e => match e.2.2 with | .name r => r.length | _ => 0) = [61, 0, 27] := by decide +kernel

/-- **select_labels_distinct** — `_generate_columns_plus_names`: for EVERY list of named columns
    (any number of repetitions of a column, any name clashes between different columns, any
    interleaving) and both label styles, the labels under which the columns are rendered
    (`anon_for_dupe_key`, as the compiler asks) are pairwise distinct. -/
theorem select_labels_distinct (tq : Bool) (cols : List Col) : (genNames tq true cols).Nodup := by
  have hinv : GInv ⟨[], 1⟩ [] := by
    constructor
    · intro l hl; cases hl
    · intro l c hl; simp at hl
  exact (genRun_nodup tq cols ⟨[], 1⟩ [] hinv).1

/-- **anon_names_distinct** — for every sequence of anonymous keys looked up in the
    `prefix_anon_map` of one compilation (labels, aliases, bind names; any repeats), two lookups that returned the
    same name were lookups of the same key (`derived_<n>` is injective in (derived, n) and the per-`derived`
    counter never repeats). -/
theorem anon_names_distinct (ks : List (Nat × Str)) (i j : Nat) (k1 k2 : Nat × Str) (v : Str)
    (h1 : ks[i]? = some k1) (h2 : ks[j]? = some k2)
    (r1 : (amRun AMap.empty ks)[i]? = some v) (r2 : (amRun AMap.empty ks)[j]? = some v) :
    k1 = k2 := by
  obtain ⟨m', hinv, _, hs⟩ := amRun_spec ks AMap.empty ainv_empty
  exact hinv.inj k1 k2 v (hs i k1 v h1 r1) (hs j k2 v h2 r2)

/-- **text_derived_binds_distinct** — `text(...).bindparams(name=value)` copies the
    template's parameter with `maintain_key` as written in the source (regenerated flag);
    for a `unique=True` parameter any number of statements derived from one template carry
    pairwise distinct anonymous keys (one per copy), so by `anon_names_distinct` they get
    pairwise distinct names when embedded in one statement. -/
theorem text_derived_binds_distinct (id0 : Nat) (name : Str) (ids : List Nat) (hn : ids.Nodup) :
    ((deriveText (mkBind id0 name true) SaVerif.Gen.NamingTables.textBindparamsMaintainKey ids).map
      (·.key)).Nodup := by
  have hflag : SaVerif.Gen.NamingTables.textBindparamsMaintainKey = false := by decide
  rw [hflag]
  exact derive_keys_nodup _ (by simp [mkBind]) ids hn

/-- with `maintain_key=True` all copies share the template's key -/
example : ((deriveText (mkBind 1 (ofS "val") true) true [2, 3]).map (·.key))
    = [.anon 1 (ofS "val"), .anon 1 (ofS "val")] := by
  rw [ofS_ofList]
  decide +kernel

example : genNames false true [⟨1, ofS "t1", ofS "a"⟩, ⟨2, ofS "t2", ofS "a"⟩, ⟨2, ofS "t2", ofS "a"⟩,
      ⟨2, ofS "t2", ofS "a"⟩, ⟨1, ofS "t1", ofS "a"⟩]
    = [.plain (ofS "a"), .anon ⟨2, ofS "t2", ofS "a"⟩ false, .dedupe 1 ⟨2, ofS "t2", ofS "a"⟩ false,
       .dedupe 2 ⟨2, ofS "t2", ofS "a"⟩ false, .dedupe 3 ⟨1, ofS "t1", ofS "a"⟩ false] := by
  rw [ofS_ofList, ofS_ofList, ofS_ofList]
  decide +kernel
example : renderLabs AMap.empty (genNames false true [⟨1, ofS "t1", ofS "a"⟩, ⟨2, ofS "t2", ofS "a"⟩,
      ⟨2, ofS "t2", ofS "a"⟩, ⟨2, ofS "t2", ofS "a"⟩])
    = [ofS "a", ofS "a_1", ofS "a__1", ofS "a__2"] := by
  rw [ofS_ofList, ofS_ofList, ofS_ofList, ofS_ofList, ofS_ofList, ofS_ofList]
  decide +kernel

/-- whatever a convention expands to, the rendered constraint name is bounded -/
theorem convention_name_bounded (md5 : Str → Str) (hmd5 : ∀ x, (md5 x).length = 32)
    (ci : ConstInfo) (tmpl name r : Str) (fuel max mi : Nat) (hmax : 8 ≤ max)
    (_ : expandConv ci fuel tmpl = .ok name)
    (h : truncMaxlen md5 true name max mi = some r) : r.length ≤ max :=
  truncated_len_le_max md5 hmd5 name max mi hmax r h

def ciExample : ConstInfo :=
  { tableName := ofS "user_account", constName := none, isFk := true,
    cols := [(ofS "org_id", ofS "org_id"), (ofS "user_id", ofS "uid")],
    refTable := ofS "organisation", refCols := [ofS "id", ofS "uid"] }

def okOf (e : Except ConvErr Str) : Option Str := match e with | .ok v => some v | .error _ => none
def errOf (e : Except ConvErr Str) : Option ConvErr := match e with | .ok _ => none | .error x => some x

example : okOf (expandConv ciExample 100 (ofS "fk_%(table_name)s_%(column_0_N_name)s_%(referred_table_name)s"))
    = some (ofS "fk_user_account_org_id_user_id_organisation") := by
  rw [ofS_ofList, ofS_ofList]
  decide +kernel
example : okOf (expandConv ciExample 100 (ofS "uq_%(column_0N_key)s_%(column_1_key)s_%(column_7_name)s"))
    = some (ofS "uq_org_iduid_uid_") := by
  rw [ofS_ofList, ofS_ofList]
  decide +kernel
example : errOf (expandConv ciExample 100 (ofS "ck_%(constraint_name)s")) = some .needsName := by
  rw [ofS_ofList]
  decide +kernel
example : (truncMaxlen (fun _ => ofS "0123456789abcdef0123456789abcdef") true
    (ofS "fk_user_account_org_id_user_id_organisation") 30 30)
    = some (ofS "fk_user_account_org_id_cdef") := by
  rw [ofS_ofList, ofS_ofList, ofS_ofList]
  decide +kernel
-- three long labels and one short under label_length 10: prefixes collide, counters separate
example : runIdents 10 TState.empty
    [(0, ofS "abcdefgh"), (0, ofS "abcdxxxx"), (0, ofS "abc"), (0, ofS "abcdefgh"), (1, ofS "abcdefgh")]
    = [ofS "abcd_1", ofS "abcd_2", ofS "abc", ofS "abcd_1", ofS "abcd_1"] := by
  rw [ofS_ofList, ofS_ofList, ofS_ofList, ofS_ofList, ofS_ofList]
  decide +kernel
example : hexStr 255 = ofS "ff" := by
  rw [ofS_ofList]
  decide +kernel

end SaVerif.Props.C21
