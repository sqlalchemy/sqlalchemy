import SaVerif.Model.Expr
import SaVerif.Model.ExprGrammar
import SaVerif.Model.ExprEval
import SaVerif.Lemmas.PrattTight
import SaVerif.Lemmas.ExprCore
import SaVerif.Lemmas.ExprBuild
import SaVerif.Model.ExprSem
import SaVerif.Drv.Parse
/-!
Sub-driver of M-EXPR.  One request per line:

* `expr render <dialect> <U…>`  → `ok <type> <text>` | `error` (the API raises)
* `expr parse <dialect> <U…>`   → `ok <wb> <same> <core><wg><ok>` | `noparse <wb> <core><wg><ok>` | `error`
   `wb` = the rendered tree is well bracketed up to re-association, `same` = the grammar's reading
   of the text is that tree, `core`/`wg`/`ok` = the hypotheses / conclusion of the general theorem
   (`Lemmas/ExprCore.lean`) evaluated on this element.
* `expr parsedrop <mask> <dialect> <U…>` → `ok <text> <fullparen reading>` | `noparse <text>`

`<U…>` is the prefix serialisation written by `harness/lib_expr.py:wire`.
-/
namespace SaVerif.Drv.Expr
open SaVerif.Drv SaVerif.Expr SaVerif.Pratt

/-- SQLite's `/` on integer values: truncating division, NULL for a zero divisor -/
def sqliteDiv : Val → Val → Val
  | .int a, .int b => if b = 0 then .null else .int (Int.tdiv a b)
  | _, _ => .null

def lowerAscii (c : Char) : Char := if 'A' ≤ c ∧ c ≤ 'Z' then Char.ofNat (c.toNat + 32) else c

/-- SQLite's LIKE on ASCII text (`%` any sequence, `_` any one character, case-insensitive;
    the character after the escape character is literal) — fuel bounds the recursion -/
def likeMatchF (esc : Option Char) : Nat → List Char → List Char → Bool
  | 0, _, _ => false
  | _ + 1, [], s => s.isEmpty
  | f + 1, c :: p, s =>
    if some c = esc then
      match p, s with
      | c2 :: p', x :: s' => lowerAscii x == lowerAscii c2 && likeMatchF esc f p' s'
      | _, _ => false
    else if c = '%' then
      likeMatchF esc f p s || (match s with | _ :: s' => likeMatchF esc f (c :: p) s' | [] => false)
    else if c = '_' then
      (match s with | _ :: s' => likeMatchF esc f p s' | [] => false)
    else
      match s with
      | x :: s' => lowerAscii x == lowerAscii c && likeMatchF esc f p s'
      | [] => false

def sqliteLike (a b : Val) (esc : Option String) : TV :=
  match a, b with
  | .str x, .str pat =>
    some (likeMatchF (esc.bind fun e => e.toList.head?) (2 * (x.length + pat.length) + 2) pat.toList x.toList)
  | _, _ => none

/-- the driver evaluates on rows of integer / ASCII text values the way SQLite does: a CAST to
    INTEGER / NUMERIC and FLOOR of an integer are the identity, `lower` and LIKE as SQLite defines
    them, every other function is not interpreted -/
instance : Abs :=
  ⟨fun n vs =>
      if n = "FLOOR" then vs.headD .null
      else if n = "lower" then
        (match vs with
         | [.str x] => .str (String.ofList (x.toList.map lowerAscii))
         | _ => .null)
      else .null,
   fun _ v => v, sqliteDiv, sqliteLike, sqliteLike⟩

def parseTy? : String → Option Ty
  | "int" => some .int | "num" => some .num | "str" => some .str | "bool" => some .bool
  | "null" => some .null | _ => none

def parseDialect? : String → Option Dialect
  | "sqlite" => some .sqlite | "postgresql" => some .postgresql | "mysql" => some .mysql
  | "mariadb" => some .mariadb | "default" => some .default | _ => none

def parseBinK? : String → Option BinK
  | "add" => some .add | "sub" => some .sub | "mul" => some .mul | "truediv" => some .truediv
  | "floordiv" => some .floordiv | "mod" => some .mod | "concat" => some .concat
  | "eq" => some .eq | "ne" => some .ne | "lt" => some .lt | "le" => some .le
  | "gt" => some .gt | "ge" => some .ge | "is" => some .is_ | "isnot" => some .isnot
  | "isdistinct" => some .isdistinct | "isnotdistinct" => some .isnotdistinct
  | _ => none

def parseStrK? : String → Option StrK
  | "contains" => some .contains | "startswith" => some .startswith | "endswith" => some .endswith
  | "icontains" => some .icontains | "istartswith" => some .istartswith
  | "iendswith" => some .iendswith | _ => none

def parseLikeK? : String → Option LikeK
  | "like" => some .like | "notlike" => some .notlike | "ilike" => some .ilike
  | "notilike" => some .notilike | _ => none

/-- `N` | `b0`/`b1` | `i<int>` | `s:<codepoints>` -/
def parseLit? (s : String) : Option Lit :=
  if s == "N" then some .null
  else if s == "b0" then some (.bool false)
  else if s == "b1" then some (.bool true)
  else if s.startsWith "i" then (parseInt? (s.drop 1).toString).map .int
  else (parseStr? s).map .str

def chunk (n : Nat) : Nat → List Lit → List (List Lit)
  | 0, _ => []
  | k + 1, l => l.take n :: chunk n k (l.drop n)

def parseLits? : Nat → List String → Option (List Lit × List String)
  | 0, ts => some ([], ts)
  | n + 1, t :: ts =>
    match parseLit? t, parseLits? n ts with
    | some v, some (vs, rest) => some (v :: vs, rest)
    | _, _ => none
  | _ + 1, [] => none

mutual
def parseU : Nat → List String → Option (U × List String)
  | 0, _ => none
  | f + 1, tok :: ts =>
    match tok, ts with
    | "col", n :: ty :: rest => (parseTy? ty).map (fun t => (U.col n t, rest))
    | "li", i :: rest => (parseInt? i).map (fun v => (U.li v, rest))
    | "ls", s :: rest => (parseStr? s).map (fun v => (U.ls v, rest))
    | "pi", i :: rest => (parseInt? i).map (fun v => (U.pi v, rest))
    | "ps", s :: rest => (parseStr? s).map (fun v => (U.ps v, rest))
    | "ln", s :: rest => (parseStr? s).map (fun v => (U.ln v, rest))
    | "lb", "1" :: rest => some (U.lb true, rest)
    | "lb", "0" :: rest => some (U.lb false, rest)
    | "null", rest => some (U.null, rest)
    | "true", rest => some (U.true_, rest)
    | "false", rest => some (U.false_, rest)
    | "neg", rest => (parseU f rest).map (fun (a, r) => (U.neg a, r))
    | "not", rest => (parseU f rest).map (fun (a, r) => (U.not_ a, r))
    | "subq", "col" :: n :: ty :: rest => (parseTy? ty).map (fun t => (U.subq n t, rest))
    | "between", rest =>
      match parseUs f 3 rest with
      | some ([x, lo, hi], r) => some (U.between x lo hi, r)
      | _ => none
    | "and", n :: rest =>
      match parseNat? n with
      | some k => (parseUs f k rest).map (fun (cs, r) => (U.and_ cs, r))
      | none => none
    | "or", n :: rest =>
      match parseNat? n with
      | some k => (parseUs f k rest).map (fun (cs, r) => (U.or_ cs, r))
      | none => none
    | "coalesce", n :: rest =>
      match parseNat? n with
      | some k => (parseUs f k rest).map (fun (cs, r) => (U.coalesce cs, r))
      | none => none
    | "cast", ty :: rest =>
      match parseTy? ty, parseU f rest with
      | some t, some (a, r) => some (U.cast t a, r)
      | _, _ => none
    | "case", hv :: n :: he :: rest =>
      match parseNat? n with
      | none => none
      | some k =>
        let r1 := if hv == "1" then parseU f rest else some (U.absent, rest)
        match r1 with
        | none => none
        | some (v, rest1) =>
          match parseUs f (2 * k) rest1 with
          | none => none
          | some (ws, rest2) =>
            if he == "1" then
              (parseU f rest2).map (fun (e, r) => (U.case_ v ws e, r))
            else some (U.case_ v ws U.absent, rest2)
    | "in", n :: rest =>
      match parseNat? n with
      | none => none
      | some k =>
        match parseLits? k rest with
        | none => none
        | some (vs, rest1) => (parseU f rest1).map (fun (x, r) => (U.inOp false vs x, r))
    | "tin", ar :: nr :: rest =>
      match parseNat? ar, parseNat? nr with
      | some a, some k =>
        match parseLits? (a * k) rest with
        | none => none
        | some (vs, rest1) =>
          (parseUs f a rest1).map (fun (xs, r) => (U.tupleIn false (chunk a k vs) xs, r))
      | _, _ => none
    | "tnotin", ar :: nr :: rest =>
      match parseNat? ar, parseNat? nr with
      | some a, some k =>
        match parseLits? (a * k) rest with
        | none => none
        | some (vs, rest1) =>
          (parseUs f a rest1).map (fun (xs, r) => (U.tupleIn true (chunk a k vs) xs, r))
      | _, _ => none
    | "notin", n :: rest =>
      match parseNat? n with
      | none => none
      | some k =>
        match parseLits? k rest with
        | none => none
        | some (vs, rest1) => (parseU f rest1).map (fun (x, r) => (U.inOp true vs x, r))
    | op, rest =>
      match parseBinK? op with
      | some k =>
        match parseUs f 2 rest with
        | some ([a, b], r) => some (U.bin k a b, r)
        | _ => none
      | none =>
        match parseLikeK? op, rest with
        | some k, esc :: rest1 =>
          let e : Option (Option String) :=
            if esc == "N" then some none else (parseStr? esc).map some
          match e, parseUs f 2 rest1 with
          | some e', some ([a, b], r) => some (U.like k e' a b, r)
          | _, _ => none
        | _, _ =>
          match parseStrK? op, rest with
          | some k, esc :: rest1 =>
            let e : Option (Option String) :=
              if esc == "N" then some none else (parseStr? esc).map some
            match e, parseUs f 2 rest1 with
            | some e', some ([a, b], r) => some (U.strop k e' a b, r)
            | _, _ => none
          | _, _ => none
  | _ + 1, [] => none

def parseUs : Nat → Nat → List String → Option (List U × List String)
  | 0, _, _ => none
  | _ + 1, 0, ts => some ([], ts)
  | f + 1, n + 1, ts =>
    match parseU f ts with
    | none => none
    | some (u, rest) =>
      match parseUs f n rest with
      | none => none
      | some (us, rest') => some (u :: us, rest')
end

def parseWire (ts : List String) : Option U :=
  match parseU (2 * ts.length + 2) ts with
  | some (u, []) => some u
  | _ => none

def grammarOf : Dialect → Grammar
  | .sqlite => Pratt.sqlite
  | .postgresql => Pratt.postgresql
  | .mysql => Pratt.mysql
  | .mariadb => Pratt.mysql
  | .default => Pratt.postgresql

def b01 (b : Bool) : String := if b then "1" else "0"

def tvStr : TV → String
  | none => "N"
  | some true => "T"
  | some false => "F"

/-- remove the `paren` nodes selected by the bits of the mask (pre-order, lowest bit
    first): used to validate a grammar table on groupings SQLAlchemy does not produce -/
def dropParens : G → Nat → G × Nat
  | .atom a, m => (.atom a, m)
  | .pre s t c, m =>
    let (c', m1) := dropParens c m
    (.pre s t c', m1)
  | .inf s t l r, m =>
    let (l', m1) := dropParens l m
    let (r', m2) := dropParens r m1
    (.inf s t l' r', m2)
  | .tern s t mid mt a b c, m =>
    let (a', m1) := dropParens a m
    let (b', m2) := dropParens b m1
    let (c', m3) := dropParens c m2
    (.tern s t mid mt a' b' c', m3)
  | .br .paren c, m =>
    let (c', m1) := dropParens c (m / 2)
    if m % 2 == 1 then (c', m1) else (.br .paren c', m1)
  | .br k c, m =>
    let (c', m1) := dropParens c m
    (.br k c', m1)

def symOfName? : String → Option Sym
  | "plus" => some .plus | "minus" => some .minus | "star" => some .star | "slash" => some .slash
  | "percent" => some .percent | "concat" => some .concat | "eq" => some .eq | "ne" => some .ne
  | "lt" => some .lt | "le" => some .le | "gt" => some .gt | "ge" => some .ge | "nseq" => some .nseq
  | "is_" => some .is_ | "isNot" => some .isNot | "isDistinct" => some .isDistinct
  | "isNotDistinct" => some .isNotDistinct | "like" => some .like | "notLike" => some .notLike
  | "ilike" => some .ilike | "notIlike" => some .notIlike | "escape" => some .escape
  | "between" => some .between | "notBetween" => some .notBetween | "in_" => some .in_
  | "notIn" => some .notIn | "and_" => some .and_ | "or_" => some .or_ | "not_" => some .not_
  | "neg" => some .neg | "comma" => some .comma | "as_" => some .as_ | "when_" => some .when_
  | "then_" => some .then_ | "else_" => some .else_ | "collate" => some .collate
  | "values" => some .values | _ => none

def symName (s : Sym) : String := (reprStr s).replace "SaVerif.Pratt.Sym." ""

def bracketOfName? : String → Option Bracket
  | "paren" => some .paren | "caseSearched" => some .caseSearched | "caseSimple" => some .caseSimple
  | "cast" => some .cast | "fn" => some (.fn "") | _ => none

/-- tokens written by `harness/lib_expr.py:lex_sql` -/
def parseTok? (t : String) : Option Tok :=
  if t == "a" then some (Tok.atom ⟨"", .other⟩)
  else if t.startsWith "p:" then (symOfName? (t.drop 2).toString).map (fun s => Tok.pre s "")
  else if t.startsWith "i:" then (symOfName? (t.drop 2).toString).map (fun s => Tok.inf s "")
  else if t.startsWith "o:" then (bracketOfName? (t.drop 2).toString).map Tok.open_
  else if t.startsWith "c:" then (bracketOfName? (t.drop 2).toString).map Tok.close
  else none

/-- forget texts, function names and atoms: what `readtok` and `readu` are compared on -/
def eraseTok : Tok → Tok
  | .atom _ => .atom ⟨"", .other⟩
  | .pre s _ => .pre s ""
  | .inf s _ => .inf s ""
  | .open_ (.fn _) => .open_ (.fn "")
  | .close (.fn _) => .close (.fn "")
  | t => t

/-- `-1` is one literal for the lexer and may be `neg` of a literal in the model: a unary minus
    directly over a leaf is folded into the leaf on both sides -/
def collapseNeg : G.Skel → G.Skel
  | .leaf => .leaf
  | .pre s c =>
    match s, collapseNeg c with
    | .neg, .leaf => .leaf
    | s, c' => .pre s c'
  | .inf s l r => .inf s (collapseNeg l) (collapseNeg r)
  | .tern s m a b c => .tern s m (collapseNeg a) (collapseNeg b) (collapseNeg c)
  | .br c => .br (collapseNeg c)

def skelStr : G.Skel → String
  | .leaf => "x"
  | .pre s c => "(" ++ symName s ++ " " ++ skelStr c ++ ")"
  | .inf s l r => "(" ++ symName s ++ " " ++ skelStr l ++ " " ++ skelStr r ++ ")"
  | .tern s m a b c =>
    "(" ++ symName s ++ "/" ++ symName m ++ " " ++ skelStr a ++ " " ++ skelStr b ++ " " ++ skelStr c ++ ")"
  | .br c => "[" ++ skelStr c ++ "]"

/-- the grammar's reading of a token sequence, as a skeleton (re-associated) -/
def readToks (g : Grammar) (ts : List Tok) : String :=
  match parse g ts with
  | none => "noparse"
  | some t => showStr (skelStr (collapseNeg t.strip.norm.skel))

def handle : List String → String
  | "render" :: d :: rest =>
    match parseDialect? d, parseWire rest with
    | some dl, some u =>
      match build u with
      | none => "error"
      | some e => "ok " ++ (SaExpr.tyOf e).name ++ " " ++ showStr (render dl true (lower e)).text
    | _, _ => "bad-op"
  | "parse" :: d :: rest =>
    match parseDialect? d, parseWire rest with
    | some dl, some u =>
      match build u with
      | none => "error"
      | some e =>
        let t := render dl true (lower e)
        let g := grammarOf dl
        let flags := b01 (Core e) ++ b01 (WG e) ++ b01 (ok g t) ++
          b01 (concatFull g || ConcatSafe dl e)
        match parse g t.print with
        | none => "noparse " ++ b01 (wb g t.norm) ++ " " ++ flags
        | some p => "ok " ++ b01 (wb g t.norm) ++ " " ++ b01 (p == t.norm) ++ " " ++ flags
    | _, _ => "bad-op"
  | "readtok" :: d :: rest =>
    match parseDialect? d, rest.mapM parseTok? with
    | some dl, some ts => "ok " ++ readToks (grammarOf dl) ts
    | _, _ => "bad-op"
  | "readu" :: d :: rest =>
    -- reading of the model's own text, and the skeleton of the tree the model intends
    match parseDialect? d, parseWire rest with
    | some dl, some u =>
      match build u with
      | none => "error"
      | some e =>
        let t := render dl true (lower e)
        "ok " ++ readToks (grammarOf dl) (t.print.map eraseTok) ++ " " ++
          showStr (skelStr (collapseNeg t.strip.norm.skel))
    | _, _ => "bad-op"
  | "evalu" :: ia :: ib :: ic :: sa :: sb :: rest =>
    -- meaning of a fragment tree (`evalNumU` / `evalBoolU`) on one row of the integer and
    -- string columns
    match parseLit? ia, parseLit? ib, parseLit? ic, parseLit? sa, parseLit? sb, parseWire rest with
    | some a, some b, some c, some x, some y, some u =>
      let env : String → Val := fun n =>
        if n == "ia" then litVal a else if n == "ib" then litVal b else if n == "ic" then litVal c
        else if n == "sa" then litVal x else if n == "sb" then litVal y
        else .null
      if NumU u || StrU u then
        match evalNumU env .sqlite u with
        | .int i => "ok i" ++ toString i
        | .null => "ok N"
        | .str z => "ok " ++ showStr z
      else if BoolU u then "ok " ++ tvStr (evalBoolU env .sqlite u)
      else "na"
    | _, _, _, _, _, _ => "bad-op"
  | "evalin" :: x :: n :: rest =>
    match parseLit? x, parseNat? n with
    | some xv, some k =>
      match parseLits? k rest with
      | some (vs, []) =>
        "ok " ++ tvStr (evalIn (litVal xv) (vs.map litVal)) ++ " " ++
          tvStr (evalNotIn (litVal xv) (vs.map litVal))
      | _ => "bad-op"
    | _, _ => "bad-op"
  | "parsedrop" :: mask :: d :: rest =>
    match parseNat? mask, parseDialect? d, parseWire rest with
    | some m, some dl, some u =>
      match build u with
      | none => "error"
      | some e =>
        let t := (dropParens (render dl true (lower e)) m).1
        match parse (grammarOf dl) t.print with
        | none => "noparse " ++ showStr t.text
        | some p => "ok " ++ showStr t.text ++ " " ++ showStr p.fullParen.text
    | _, _, _ => "bad-op"
  | _ => "bad-op"

end SaVerif.Drv.Expr
