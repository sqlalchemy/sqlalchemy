import SaVerif.Model.Url
import SaVerif.Lemmas.ListFacts
/-! Percent-coding and UTF-8 of `Model/Url.lean`: `unquote (quote safe s) = s`, and the characters `quote` can
emit (`qAllowed`). -/
namespace SaVerif.Url

theorem takeWhile_append_cons {α} {p : α → Bool} {a : List α} {c : α} (b : List α)
    (ha : ∀ x ∈ a, p x = true) (hc : p c = false) :
    (a ++ c :: b).takeWhile p = a ∧ (a ++ c :: b).dropWhile p = c :: b :=
  ListFacts.takeWhile_dropWhile_append ha fun _ _ h => (List.cons.inj h).1 ▸ hc

theorem takeWhile_dropWhile_ne {ch : Char} {a : Str} (b : Str) (h : ch ∉ a) :
    (a ++ ch :: b).takeWhile (· != ch) = a ∧ (a ++ ch :: b).dropWhile (· != ch) = ch :: b :=
  takeWhile_append_cons b (fun _ hx => bne_iff_ne.2 fun he => h (he ▸ hx)) (by simp)

theorem takeWhile_all {α} {p : α → Bool} {l : List α} (h : ∀ x ∈ l, p x = true) :
    l.takeWhile p = l ∧ l.dropWhile p = [] := by
  simpa using ListFacts.takeWhile_dropWhile_append (T := []) h (fun _ _ h => nomatch h)

def isHexUp (c : Char) : Bool := ('0' ≤ c && c ≤ '9') || ('A' ≤ c && c ≤ 'F')

theorem hexDigit_spec : ∀ n < 16, hexVal? (hexDigit n) = some n ∧ isHexUp (hexDigit n) = true := by
  decide +kernel

theorem uint8_div_lt (b : UInt8) : b.toNat / 16 < 16 := Nat.div_lt_of_lt_mul b.toNat_lt

theorem uint8_mod_lt (b : UInt8) : b.toNat % 16 < 16 := Nat.mod_lt _ (by decide)

theorem pctDecode_pctByte (b : UInt8) (t : Str) : pctDecode (pctByte b ++ t) = b :: pctDecode t := by
  simp only [pctByte, List.cons_append, List.nil_append]
  rw [pctDecode]
  simp only [beq_self_eq_true, if_true, (hexDigit_spec _ (uint8_div_lt b)).1,
    (hexDigit_spec _ (uint8_mod_lt b)).1, Nat.div_add_mod, UInt8.ofNat_toNat]

theorem pctDecode_flatMap (bs : List UInt8) (t : Str) :
    pctDecode (bs.flatMap pctByte ++ t) = bs ++ pctDecode t := by
  induction bs with
  | nil => rfl
  | cons b bs ih =>
    rw [List.flatMap_cons, List.append_assoc, pctDecode_pctByte, ih]
    rfl

theorem pctDecode_cons_ne {c : Char} (hc : c ≠ '%') (t : Str) :
    pctDecode (c :: t) = String.utf8EncodeChar c ++ pctDecode t := by
  have hb : (c == '%') = false := by simpa using hc
  match t with
  | [] => simp [pctDecode]
  | [d] => simp [pctDecode]
  | d :: e :: r => rw [pctDecode]; simp only [hb, Bool.false_eq_true, if_false]

theorem isSafe_pct {safe : Str} (hs : '%' ∉ safe) : isSafe safe '%' = false := by
  simp [isSafe, hs, show alwaysSafe '%' = false by decide]

theorem quote_nil (safe : Str) : quote safe [] = [] := rfl

theorem quote_cons (safe : Str) (c : Char) (s : Str) :
    quote safe (c :: s) = quoteChar safe c ++ quote safe s := by
  simp [quote]

theorem quoteChar_safe {safe : Str} {c : Char} (h : isSafe safe c = true) : quoteChar safe c = [c] := by
  simp [quoteChar, h]

theorem quoteChar_unsafe {safe : Str} {c : Char} (h : isSafe safe c = false) :
    quoteChar safe c = (String.utf8EncodeChar c).flatMap pctByte := by
  simp [quoteChar, h]

theorem pctDecode_quote_append (safe : Str) (hs : '%' ∉ safe) (s t : Str) :
    pctDecode (quote safe s ++ t) = s.flatMap String.utf8EncodeChar ++ pctDecode t := by
  induction s with
  | nil => simp [quote]
  | cons c s ih =>
    rw [quote_cons, List.flatMap_cons, List.append_assoc, List.append_assoc]
    cases hc : isSafe safe c with
    | true =>
      have hne : c ≠ '%' := fun he => by simp [he, isSafe_pct hs] at hc
      rw [quoteChar_safe hc, List.cons_append, List.nil_append, pctDecode_cons_ne hne, ih]
    | false =>
      rw [quoteChar_unsafe hc, pctDecode_flatMap, ih]

theorem pctDecode_quote (safe : Str) (hs : '%' ∉ safe) (s : Str) :
    pctDecode (quote safe s) = s.flatMap String.utf8EncodeChar := by
  simpa [pctDecode] using pctDecode_quote_append safe hs s []

theorem decodeUtf8Aux_cons (c : Char) (rest : List UInt8) (f : Nat) :
    decodeUtf8Aux (f + 1) (String.utf8EncodeChar c ++ rest) = c :: decodeUtf8Aux f rest := by
  cases hl : String.utf8EncodeChar c ++ rest with
  | nil => exact absurd (List.append_eq_nil_iff.1 hl).1 String.utf8EncodeChar_ne_nil
  | cons b bs =>
    have hdec : (b :: bs).toByteArray.utf8DecodeChar? 0 = some c := by
      rw [← hl, List.toByteArray_append]
      exact ByteArray.utf8DecodeChar?_utf8EncodeChar_append
    rw [decodeUtf8Aux, hdec, ← hl]
    simp only
    rw [← String.length_utf8EncodeChar c, List.drop_left]

theorem decodeUtf8Aux_encode (cs : Str) : ∀ fuel, (cs.flatMap String.utf8EncodeChar).length ≤ fuel →
    decodeUtf8Aux fuel (cs.flatMap String.utf8EncodeChar) = cs := by
  induction cs with
  | nil => intro fuel _; cases fuel <;> rfl
  | cons c cs ih =>
    intro fuel hf
    rw [List.flatMap_cons, List.length_append, String.length_utf8EncodeChar] at hf
    have := c.utf8Size_pos
    cases fuel with
    | zero => omega
    | succ f => rw [List.flatMap_cons, decodeUtf8Aux_cons, ih f (by omega)]

theorem decodeUtf8_encode (cs : Str) : decodeUtf8 (cs.flatMap String.utf8EncodeChar) = cs :=
  decodeUtf8Aux_encode cs _ (Nat.le_refl _)

def qAllowed (safe : Str) (c : Char) : Bool := isSafe safe c || c == '%' || isHexUp c

theorem mem_pctByte {b : UInt8} {c : Char} (h : c ∈ pctByte b) : c = '%' ∨ isHexUp c = true := by
  simp only [pctByte, List.mem_cons, List.not_mem_nil, or_false] at h
  rcases h with h | h | h
  · exact Or.inl h
  · exact Or.inr (h ▸ (hexDigit_spec _ (uint8_div_lt b)).2)
  · exact Or.inr (h ▸ (hexDigit_spec _ (uint8_mod_lt b)).2)

theorem mem_quoteChar {safe : Str} {c x : Char} (h : x ∈ quoteChar safe c) : qAllowed safe x = true := by
  unfold quoteChar at h
  split at h
  · rename_i hc
    cases List.mem_singleton.1 h
    simp [qAllowed, hc]
  · obtain ⟨b, _, hb⟩ := List.mem_flatMap.1 h
    rcases mem_pctByte hb with h1 | h1 <;> simp [qAllowed, h1]

theorem mem_quote {safe : Str} {s : Str} {x : Char} (h : x ∈ quote safe s) : qAllowed safe x = true := by
  unfold quote at h
  obtain ⟨c, _, hc⟩ := List.mem_flatMap.1 h
  exact mem_quoteChar hc

theorem not_mem_quote {safe s : Str} {x : Char} (h : qAllowed safe x = false) : x ∉ quote safe s :=
  fun hm => Bool.false_ne_true (h.symm.trans (mem_quote hm))

theorem isAscii_of_le {x d : Char} (h : x ≤ d) (hd : d.toNat < 128) : isAscii x = true :=
  decide_eq_true (Nat.lt_of_le_of_lt h hd)

theorem isAscii_of_qAllowed {safe : Str} {x : Char} (h : qAllowed safe x = true) : isAscii x = true := by
  simp only [qAllowed, isSafe, isHexUp, Bool.or_eq_true, Bool.and_eq_true, decide_eq_true_eq,
    beq_iff_eq] at h
  rcases h with (h | rfl) | ⟨_, h⟩ | ⟨_, h⟩
  · exact decide_eq_true h.1
  · decide
  · exact isAscii_of_le h (by decide)
  · exact isAscii_of_le h (by decide)

theorem quote_eq_self_of_no_pct {safe : Str} : ∀ {s : Str}, '%' ∉ quote safe s → quote safe s = s := by
  intro s
  induction s with
  | nil => intro _; rfl
  | cons c s ih =>
    intro h
    rw [quote_cons] at h ⊢
    simp only [List.mem_append, not_or] at h
    cases hc : isSafe safe c with
    | true => rw [quoteChar_safe hc, ih h.2]; rfl
    | false =>
      refine absurd ?_ h.1
      rw [quoteChar_unsafe hc]
      cases hb : String.utf8EncodeChar c with
      | nil => exact absurd hb String.utf8EncodeChar_ne_nil
      | cons b bs => simp [pctByte]

theorem unquoteRuns_nil (fuel : Nat) : unquoteRuns fuel [] = [] := by
  cases fuel <;> rfl

theorem unquoteRuns_ascii {c : Char} {t : Str} (h : ∀ x ∈ c :: t, isAscii x = true) (fuel : Nat) :
    unquoteRuns (fuel + 1) (c :: t) = decodeUtf8 (pctDecode (c :: t)) := by
  rw [unquoteRuns]
  simp only [h c List.mem_cons_self, if_true]
  rw [(takeWhile_all h).1, (takeWhile_all h).2, unquoteRuns_nil, List.append_nil]

/-- **unquote ∘ quote = id** for every string and every `safe` argument without `%` -/
theorem unquote_quote (safe : Str) (hs : '%' ∉ safe) (s : Str) : unquote (quote safe s) = s := by
  unfold unquote
  by_cases hp : (quote safe s).contains '%' = true
  · rw [if_pos hp]
    have hasc : ∀ x ∈ quote safe s, isAscii x = true := fun x hx => isAscii_of_qAllowed (mem_quote hx)
    cases hq : quote safe s with
    | nil => rw [hq] at hp; simp at hp
    | cons c t =>
      rw [hq] at hasc
      rw [List.length_cons, unquoteRuns_ascii hasc, ← hq, pctDecode_quote safe hs, decodeUtf8_encode]
  · rw [if_neg hp]
    exact quote_eq_self_of_no_pct (by simpa using hp)

end SaVerif.Url
