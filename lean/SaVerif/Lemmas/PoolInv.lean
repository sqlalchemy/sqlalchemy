import SaVerif.Lemmas.Pool
/-!
Preservation of the M-POOL invariants by every transition of the LTS
(`SaVerif/Model/Pool.lean`): what one transition does to the quantity an invariant speaks
of, then the invariant.
-/
namespace SaVerif.Pool

theorem Trans.acct {c : Cfg} {s sh : Shared} {t : Nat} {old new : Pc} {l : Label}
    (h : Trans c s t old l new sh) :
    sh.overflow + (s.queue.length + s.out.length + slots old : Nat) =
      s.overflow + (sh.queue.length + sh.out.length + slots new : Nat) := by
  cases h
  case gq_pop heq =>
    have := (popRest_perm heq).length_eq
    simp only [slots, List.length_cons] at this ⊢; omega
  case idle_cp hmem =>
    have := (List.perm_cons_erase hmem).length_eq
    simp only [slots, List.length_cons] at this ⊢; omega
  case p0_put => simp only [slots, List.length_append, List.length_cons, List.length_nil]; omega
  case c0_cr => simp only [slots, List.length_cons]; omega
  case i0_rmw hg => simp only [slots]; omega
  case i2_rmw hg => simp only [slots]; omega
  case d0_rmw hg => simp only [slots]; omega
  case d1_rmw hg => simp only [slots]; omega
  all_goals rfl

theorem acct_step {c : Cfg} {s s' : State} {t : Nat} {l : Label}
    (h : s.overflow + c.size = s.queue.length + s.out.length + slotSum s)
    (hs : step c s t l = some s') :
    s'.overflow + c.size = s'.queue.length + s'.out.length + slotSum s' := by
  obtain ⟨old, new, sh, hold, htr, rfl⟩ := step_eq hs
  have hsum := ListFacts.sum_map_set slots new hold
  have := htr.acct
  simp only [slotSum, sumMap] at h ⊢
  omega

def LockOwner (s : State) : Prop := ∀ t pc, s.pcs[t]? = some pc → holds pc = true → s.lock = some t

theorem Trans.lock {c : Cfg} {s sh : Shared} {t : Nat} {old new : Pc} {l : Label}
    (h : Trans c s t old l new sh) :
    sh.lock = s.lock ∧ holds new = holds old ∨
    s.lock = none ∧ sh.lock = some t ∨
    holds old = true ∧ holds new = false ∧ sh.lock = none := by
  cases h
  case i0_la hg => exact .inr (.inl ⟨hg.2, rfl⟩)
  case d0_la hg => exact .inr (.inl ⟨hg.2, rfl⟩)
  case i2_lr => exact .inr (.inr ⟨rfl, rfl, rfl⟩)
  case i3_lr => exact .inr (.inr ⟨rfl, rfl, rfl⟩)
  case d2_lr => exact .inr (.inr ⟨rfl, rfl, rfl⟩)
  all_goals exact .inl ⟨rfl, rfl⟩

theorem lockOwner_step {c : Cfg} {s s' : State} {t : Nat} {l : Label}
    (h : LockOwner s) (hs : step c s t l = some s') : LockOwner s' := by
  obtain ⟨old, new, sh, hold, htr, rfl⟩ := step_eq hs
  have hown := h t old hold
  intro u pc hu hh
  simp only at hu ⊢
  by_cases hut : u = t
  · subst hut
    rw [getElem?_set_self' _ _ _ _ hold] at hu
    cases hu
    rcases htr.lock with ⟨hlock, hholds⟩ | ⟨_, htaken⟩ | ⟨_, hnot, _⟩
    · rw [hlock]; exact hown (hholds ▸ hh)
    · exact htaken
    · rw [hnot] at hh; cases hh
  · rw [List.getElem?_set_ne (Ne.symm hut)] at hu
    have hu' := h u pc hu hh
    rcases htr.lock with ⟨hlock, _⟩ | ⟨hfree, _⟩ | ⟨hheld, _⟩
    · rw [hlock]; exact hu'
    · rw [hfree] at hu'; cases hu'
    · rw [hown hheld] at hu'; cases hu'; exact absurd rfl hut

/-- a value read under the lock is still the value of the counter -/
def ReadValid (c : Cfg) (s : State) : Prop :=
  c.maxOv ≠ -1 → ∀ (t : Nat) (v : Int), s.pcs[t]? = some (Pc.i2 v) → s.overflow = v

theorem Trans.overflow_eq {c : Cfg} {s sh : Shared} {t : Nat} {old new : Pc} {l : Label}
    (h : Trans c s t old l new sh) :
    sh.overflow = s.overflow ∨ c.maxOv = -1 ∨ holds old = true := by
  cases h
  case i0_rmw hg => exact .inr (.inl hg.1)
  case d0_rmw hg => exact .inr (.inl hg.1)
  case i2_rmw => exact .inr (.inr rfl)
  case d1_rmw => exact .inr (.inr rfl)
  all_goals exact .inl rfl

theorem readValid_step {c : Cfg} {s s' : State} {t : Nat} {l : Label}
    (hl : LockOwner s) (h : ReadValid c s) (hs : step c s t l = some s') : ReadValid c s' := by
  obtain ⟨old, new, sh, hold, htr, rfl⟩ := step_eq hs
  intro hm u v hu
  simp only at hu ⊢
  by_cases hut : u = t
  · subst hut
    rw [getElem?_set_self' _ _ _ _ hold] at hu
    cases hu
    -- `i1_rv` is the only transition into `.i2 v`, and it reads `v` from the counter
    cases htr
    rename_i hv
    exact hv.symm
  · rw [List.getElem?_set_ne (Ne.symm hut)] at hu
    rcases htr.overflow_eq with hsame | hunlim | hheld
    · rw [hsame]; exact h hm u v hu
    · exact absurd hunlim hm
    · have := hl u _ hu rfl
      rw [hl t old hold hheld] at this
      cases this; exact absurd rfl hut

theorem limit_step {c : Cfg} {s s' : State} {t : Nat} {l : Label}
    (hr : ReadValid c s) (h : c.maxOv ≠ -1 → s.overflow ≤ c.maxOv)
    (hs : step c s t l = some s') : c.maxOv ≠ -1 → s'.overflow ≤ c.maxOv := by
  obtain ⟨old, new, sh, hold, htr, rfl⟩ := step_eq hs
  intro hm
  have h' := h hm
  cases htr
  case i0_rmw hg => exact absurd hg.1 hm
  case d0_rmw hg => exact absurd hg.1 hm
  case i2_rmw hg =>
    have := hr hm t _ hold
    simp only; omega
  case d1_rmw hg => simp only; omega
  all_goals exact h'

theorem idleLe_step {c : Cfg} {s s' : State} {t : Nat} {l : Label}
    (h : 0 < c.size → s.queue.length ≤ c.size)
    (hs : step c s t l = some s') : 0 < c.size → s'.queue.length ≤ c.size := by
  obtain ⟨old, new, sh, hold, htr, rfl⟩ := step_eq hs
  intro hm
  have h' := h hm
  cases htr
  case gq_pop heq =>
    have := (popRest_perm heq).length_eq
    simp only [List.length_cons] at this ⊢; omega
  case p0_put hg =>
    have hf := hg.2
    simp [full, hm] at hf
    simp; omega
  all_goals exact h'

theorem Trans.occ {c : Cfg} {s sh : Shared} {t : Nat} {old new : Pc} {l : Label}
    (h : Trans c s t old l new sh) (x : Rec) :
    s.nextId ≤ sh.nextId ∧
    (sh.queue.count x + sh.out.count x + (transit new).count x ≤
        s.queue.count x + s.out.count x + (transit old).count x ∨
      x = s.nextId ∧ sh.nextId = s.nextId + 1 ∧
        sh.queue.count x + sh.out.count x + (transit new).count x =
          s.queue.count x + s.out.count x + (transit old).count x + 1) := by
  cases h
  case gq_pop heq =>
    have := (popRest_perm heq).count_eq x
    simp only [List.count_cons, transit, List.count_nil] at this ⊢
    exact ⟨Nat.le_refl _, .inl (by omega)⟩
  case c0_cr hr =>
    subst hr
    refine ⟨Nat.le_succ _, ?_⟩
    by_cases hx : s.nextId = x
    · exact .inr ⟨hx.symm, rfl, by simp only [List.count_cons, transit, List.count_nil, beq_iff_eq, if_pos hx]; omega⟩
    · exact .inl (by simp only [List.count_cons, transit, List.count_nil, beq_iff_eq, if_neg hx]; omega)
  case idle_cp hmem =>
    have := (List.perm_cons_erase hmem).count_eq x
    simp only [List.count_cons, transit, List.count_nil] at this ⊢
    exact ⟨Nat.le_refl _, .inl (by omega)⟩
  case p0_put =>
    simp only [List.count_append, transit, List.count_nil]
    exact ⟨Nat.le_refl _, .inl (by omega)⟩
  case p1_cl => exact ⟨Nat.le_refl _, .inl (Nat.le_add_right _ _)⟩
  all_goals exact ⟨Nat.le_refl _, .inl (Nat.le_refl _)⟩

theorem occ_step {c : Cfg} {s s' : State} {t : Nat} {l : Label} (x : Rec)
    (hs : step c s t l = some s') :
    s.nextId ≤ s'.nextId ∧
    (occ x s' ≤ occ x s ∨ x = s.nextId ∧ s'.nextId = s.nextId + 1 ∧ occ x s' = occ x s + 1) := by
  obtain ⟨old, new, sh, hold, htr, rfl⟩ := step_eq hs
  have hsum := ListFacts.sum_map_set (fun pc => (transit pc).count x) new hold
  simp only [occ, sumMap]
  obtain ⟨h1, h2 | ⟨hx, hn, h2⟩⟩ := htr.occ x
  · exact ⟨h1, .inl (by omega)⟩
  · exact ⟨h1, .inr ⟨hx, hn, by omega⟩⟩

end SaVerif.Pool
