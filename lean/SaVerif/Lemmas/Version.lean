import SaVerif.Model.Version
/-! The only transition of M-ORM/version that touches the database is a successful `commit`
(`flushOk … true`).  Every other transition is *quiet* (`Quiet`): database and ghost flags
are unchanged and every persistent object of the new state descends from an old
one at the same place (same version and stamp, or expired) or was just loaded from
the current row.  What a successful commit does is described one primary key at a time
(`FlushK`, from the five checks `PassK` that `flushOutcome = .ok` implies). -/
namespace SaVerif.Version
open SaVerif.Gen.VersionCfg

/-- `p'` is expired or is `p` at the same place (same version and stamp); `Descends` below writes the disjunction out -/
def DescendsFrom (p' p : PObj) : Prop := p'.ver = none ∨ (p'.ver = p.ver ∧ p'.seen = p.seen)

def Origin (pers : Option PObj) (row : Option Row) (p' : PObj) : Prop :=
  (∃ p, pers = some p ∧ DescendsFrom p' p) ∨ (∃ r, row = some r ∧ p'.ver = some r.ver ∧ p'.seen = r.stamp)

structure Quiet (st st' : St) : Prop where
  db : st'.db = st.db
  everDel : st'.everDel = st.everDel
  lost : st'.lost = st.lost
  reins : st'.reins = st.reins
  origin : ∀ s k p', (st'.sess s k).pers = some p' → Origin (st.sess s k).pers (st.db k) p'

@[simp] theorem updSess_same (f : Nat → Sess) (s : Nat) (g : Sess) : updSess f s g s = g :=
  if_pos rfl

theorem updSess_other (f : Nat → Sess) (s t : Nat) (g : Sess) (h : t ≠ s) : updSess f s g t = f t :=
  if_neg h

@[simp] theorem updSlot_same (f : Sess) (k : Nat) (sl : Slot) : updSlot f k sl k = sl :=
  if_pos rfl

theorem updSlot_other (f : Sess) (k j : Nat) (sl : Slot) (h : j ≠ k) : updSlot f k sl j = f j :=
  if_neg h

theorem origin_same {pers : Option PObj} {p : PObj} (h : pers = some p) (row : Option Row) :
    Origin pers row p := Or.inl ⟨p, h, Or.inr ⟨rfl, rfl⟩⟩

theorem Quiet.refl (st : St) : Quiet st st where
  db := rfl
  everDel := rfl
  lost := rfl
  reins := rfl
  origin _ _ _ h := origin_same h _

theorem quiet_updSlot (st : St) (s k : Nat) (sl : Slot)
    (h : ∀ p', sl.pers = some p' → Origin (st.sess s k).pers (st.db k) p') (txn : Nat → Bool) :
    Quiet st { st with sess := updSess st.sess s (updSlot (st.sess s) k sl), txn := txn } := by
  refine { Quiet.refl st with origin := fun s' k' p' hp => ?_ }
  dsimp only at hp
  by_cases hs : s' = s
  · subst hs
    by_cases hk : k' = k
    · subst hk
      rw [updSess_same, updSlot_same] at hp
      exact h p' hp
    · rw [updSess_same, updSlot_other _ _ _ _ hk] at hp
      exact origin_same hp _
  · rw [updSess_other _ _ _ _ hs] at hp
    exact origin_same hp _

theorem quiet_setSlot (st : St) (s k : Nat) (sl : Slot)
    (h : ∀ p', sl.pers = some p' → Origin (st.sess s k).pers (st.db k) p') : Quiet st (setSlot st s k sl) :=
  quiet_updSlot st s k sl h _

def Descends (f : Slot → Slot) : Prop :=
  ∀ sl p', (f sl).pers = some p' →
    ∃ p, sl.pers = some p ∧ (p'.ver = none ∨ (p'.ver = p.ver ∧ p'.seen = p.seen))

theorem Descends.of_map {f : Slot → Slot} {g : PObj → PObj} (hf : ∀ sl, (f sl).pers = sl.pers.map g)
    (hg : ∀ p, DescendsFrom (g p) p) : Descends f := by
  intro sl p' h
  obtain ⟨p, hp, rfl⟩ := Option.map_eq_some_iff.1 ((hf sl).symm.trans h)
  exact ⟨p, hp, hg p⟩

theorem descends_rollbackSlot : Descends rollbackSlot :=
  .of_map (fun _ => rfl) fun _ => Or.inl rfl

theorem descends_expireSlot : Descends expireSlot :=
  .of_map (fun _ => rfl) fun _ => Or.inl rfl

theorem descends_spRollbackSlot : Descends spRollbackSlot :=
  .of_map (fun _ => rfl) fun p => by
    unfold spRollbackObj
    split
    · exact Or.inl rfl
    · exact Or.inr ⟨rfl, rfl⟩

theorem descends_failSlot (insp eoc : Bool) : Descends (failSlot insp eoc) := by
  intro sl p' h
  unfold failSlot at h
  split at h
  · split at h
    · obtain ⟨p1, h1, rfl⟩ := Option.map_eq_some_iff.1 h
      obtain ⟨p, h3, _⟩ := descends_spRollbackSlot sl p1 h1
      exact ⟨p, h3, Or.inl rfl⟩
    · exact descends_spRollbackSlot sl p' h
  · exact descends_rollbackSlot sl p' h

theorem quiet_mapAll {st st' : St} (s : Nat) (f : Slot → Slot) (hf : Descends f) (hdb : st'.db = st.db)
    (hed : st'.everDel = st.everDel) (hl : st'.lost = st.lost) (hr : st'.reins = st.reins)
    (hs : st'.sess = updSess st.sess s (fun k => f (st.sess s k))) : Quiet st st' := by
  refine ⟨hdb, hed, hl, hr, fun s' k' p' hp => ?_⟩
  rw [hs] at hp
  by_cases h : s' = s
  · subst h
    rw [updSess_same] at hp
    exact Or.inl (hf _ _ hp)
  · rw [updSess_other _ _ _ _ h] at hp
    exact origin_same hp _

theorem quiet_doRollback (st : St) (s : Nat) : Quiet st (doRollback st s) := by
  unfold doRollback
  split
  · exact quiet_mapAll s rollbackSlot descends_rollbackSlot rfl rfl rfl rfl rfl
  · exact Quiet.refl st

theorem loadObj_ver (old : Option PObj) (r : Row) :
    (loadObj old r).ver = some r.ver ∧ (loadObj old r).seen = r.stamp := by
  unfold loadObj
  cases old with
  | none => exact ⟨rfl, rfl⟩
  | some p => by_cases hm : p.mod <;> simp [hm]

theorem origin_load (pers : Option PObj) {row : Option Row} (old : Option PObj) {r : Row} (h : row = some r) :
    Origin pers row (loadObj old r) :=
  Or.inr ⟨r, h, (loadObj_ver old r).1, (loadObj_ver old r).2⟩

theorem commit_fail_state (c : Cfg) (st : St) (s : Nat) (h : (step c st (.commit s)).2 ≠ .flush .ok) :
    (step c st (.commit s)).1 = { st with
      clock := st.clock + c.npk, sess := updSess st.sess s (fun k => failSlot (st.sp s) c.eoc (st.sess s k)),
      txn := fun t => if t = s then false else st.txn t, sp := off st.sp s } := by
  dsimp only [step, doFlush] at h ⊢
  cases ho : flushOutcome c.npk (st.sess s) st.db with
  | ok =>
    rw [ho] at h
    exact absurd rfl h
  | _ => rfl

theorem step_quiet (c : Cfg) (st : St) (op : Op)
    (h : ∀ s, op = .commit s → (step c st op).2 ≠ .flush .ok) : Quiet st (step c st op).1 := by
  have hfail : ∀ s b clock txn sp, Quiet st { st with
      clock := clock, sess := updSess st.sess s (fun k => failSlot b c.eoc (st.sess s k)), txn := txn, sp := sp } :=
    fun s b _ _ _ => quiet_mapAll s _ (descends_failSlot b c.eoc) rfl rfl rfl rfl rfl
  cases op with
  | get s k =>
    dsimp only [step]
    cases (st.sess s k).pend with
    | some _ => exact Quiet.refl st
    | none =>
      cases hpers : (st.sess s k).pers with
      | some p =>
        dsimp only
        cases p.del with
        | true => exact Quiet.refl st
        | false =>
          cases p.ver with
          | some _ => exact Quiet.refl st
          | none =>
            dsimp only
            cases hr : st.db k with
            | some r => exact quiet_setSlot st s k _ fun p' hp' => Option.some.inj hp' ▸ origin_load _ _ hr
            | none => exact quiet_setSlot st s k _ fun _ => nofun
      | none =>
        dsimp only
        cases hr : st.db k with
        | some r => exact quiet_setSlot st s k _ fun p' hp' => Option.some.inj hp' ▸ origin_load _ _ hr
        | none => exact { Quiet.refl st with }
  | set s k v =>
    dsimp only [step]
    cases (st.sess s k).pend with
    | some _ => exact quiet_setSlot st s k _ fun _ hp' => origin_same hp' _
    | none =>
      cases hpers : (st.sess s k).pers with
      | none => exact Quiet.refl st
      | some p =>
        dsimp only
        cases p.del with
        | true => exact Quiet.refl st
        | false =>
          exact quiet_setSlot st s k _ fun p' hp' =>
            Option.some.inj hp' ▸ Or.inl ⟨p, hpers, Or.inr ⟨rfl, rfl⟩⟩
  | del s k =>
    dsimp only [step]
    cases (st.sess s k).pend with
    | some _ => exact Quiet.refl st
    | none =>
      cases hpers : (st.sess s k).pers with
      | none => exact Quiet.refl st
      | some p =>
        dsimp only
        cases p.del with
        | true => exact Quiet.refl st
        | false =>
          exact quiet_setSlot st s k _ fun p' hp' =>
            Option.some.inj hp' ▸ Or.inl ⟨p, hpers, Or.inr ⟨rfl, rfl⟩⟩
  | add s k v =>
    dsimp only [step]
    cases (st.sess s k).pend with
    | some _ => exact Quiet.refl st
    | none =>
      cases hpers : (st.sess s k).pers with
      | none => exact quiet_setSlot st s k _ fun _ => nofun
      | some p =>
        dsimp only
        cases p.del with
        | false => exact Quiet.refl st
        | true => exact quiet_setSlot st s k _ fun p' hp' => Option.some.inj hp' ▸ origin_same hpers _
  | expire s k =>
    dsimp only [step]
    cases (st.sess s k).pend with
    | some _ => exact Quiet.refl st
    | none =>
      cases hpers : (st.sess s k).pers with
      | none => exact Quiet.refl st
      | some p =>
        dsimp only
        cases p.del with
        | true => exact Quiet.refl st
        | false => exact quiet_updSlot st s k _ (fun p' hp' => Or.inl (descends_expireSlot _ p' hp')) _
  | commit s =>
    rw [commit_fail_state c st s (h s rfl)]
    exact hfail s _ _ _ _
  | tryflush s =>
    dsimp only [step, doFlush]
    cases st.txn s with
    | false => exact Quiet.refl st
    | true =>
      cases flushOutcome c.npk (st.sess s) st.db with
      -- flush succeeded, then rollback: database untouched, all slots rolled back
      | ok => exact quiet_mapAll s rollbackSlot descends_rollbackSlot rfl rfl rfl rfl rfl
      | _ => exact hfail s _ _ _ _
  | rollback s => exact quiet_doRollback st s
  | nested s =>
    dsimp only [step]
    split
    · exact Quiet.refl st
    · exact { Quiet.refl st with }

theorem commit_ok_state (c : Cfg) (st : St) (s : Nat)
    (hok : (step c st (.commit s)).2 = .flush .ok) :
    flushOutcome c.npk (st.sess s) st.db = .ok ∧ (step c st (.commit s)).1 = flushOk c st s true := by
  dsimp only [step, doFlush] at hok ⊢
  cases ho : flushOutcome c.npk (st.sess s) st.db with
  | ok => exact ⟨rfl, rfl⟩
  | _ =>
    rw [ho] at hok
    cases hok

theorem step_quiet_or_commit (c : Cfg) (st : St) (op : Op) :
    Quiet st (step c st op).1 ∨
    ∃ s, flushOutcome c.npk (st.sess s) st.db = .ok ∧ (step c st op).1 = flushOk c st s true := by
  by_cases hq : ∃ s, op = .commit s ∧ (step c st op).2 = .flush .ok
  · obtain ⟨s, rfl, hok⟩ := hq
    exact Or.inr ⟨s, commit_ok_state c st s hok⟩
  · exact Or.inl (step_quiet c st op fun s hs hok => hq ⟨s, hs, hok⟩)

/-- one UPDATE statement per versioned record (the regenerated flag is down): every object is
    post-fetched from its own parameters -/
theorem batchFix_eq (hflag : versionedUpdateExecutemany = false) (g : Gen) (clock n : Nat)
    (se : Sess) (db : DB) (k : Nat) (sl : Slot) : batchFix g clock n se db k sl = sl := by
  simp [batchFix, hflag]

theorem anyPk_false {n : Nat} {f : Nat → Bool} (h : anyPk n f = false) {k : Nat} (hk : k < n) :
    f k = false := by
  unfold anyPk at h
  rw [List.any_eq_false] at h
  have := h k (List.mem_range.2 hk)
  simpa using this

theorem anyPk_true {n : Nat} {f : Nat → Bool} {k : Nat} (hk : k < n) (h : f k = true) :
    anyPk n f = true := by
  unfold anyPk
  rw [List.any_eq_true]
  exact ⟨k, List.mem_range.2 hk, h⟩

structure PassK (sl : Slot) (row : Option Row) : Prop where
  goneSave : goneSave (actOf sl row) row = false
  staleUpd : staleUpd (actOf sl row) row = false
  dupIns : dupIns (actOf sl row) row = false
  goneDel : goneDel (actOf sl row) row = false
  staleDel : staleDel (actOf sl row) row = false

theorem flushOutcome_ok {n : Nat} {se : Sess} {db : DB} (h : flushOutcome n se db = .ok)
    {k : Nat} (hk : k < n) : PassK (se k) (db k) := by
  -- an `if` that fires yields an outcome other than `ok`
  have key : ∀ {b : Bool} {o x : Outcome}, (if b = true then o else x) = .ok → o ≠ .ok → b = false ∧ x = .ok := by
    intro b o x h ho
    cases b
    · exact ⟨rfl, h⟩
    · exact absurd h ho
  unfold flushOutcome at h
  obtain ⟨h1, h⟩ := key h nofun
  obtain ⟨h2, h⟩ := key h nofun
  obtain ⟨h3, h⟩ := key h nofun
  obtain ⟨h4, h⟩ := key h nofun
  obtain ⟨h5, _⟩ := key h nofun
  exact ⟨anyPk_false h1 hk, anyPk_false h2 hk, anyPk_false h3 hk, anyPk_false h4 hk, anyPk_false h5 hk⟩

theorem flushOutcome_not_ok_of {n : Nat} {se : Sess} {db : DB} {k : Nat} (hk : k < n)
    (h : staleUpd (actOf (se k) (db k)) (db k) = true ∨ staleDel (actOf (se k) (db k)) (db k) = true) :
    flushOutcome n se db ≠ .ok := by
  intro hok
  have p := flushOutcome_ok hok hk
  rcases h with h | h
  · rw [p.staleUpd] at h; cases h
  · rw [p.staleDel] at h; cases h

theorem noMatch_false {old : Option Nat} {row : Option Row} (h : noMatch old row = false) :
    ∃ r, row = some r ∧ useVer old row = some r.ver ∧ (∀ v, old = some v → v = r.ver) := by
  unfold noMatch at h
  cases row with
  | none => cases h
  | some r =>
    simp only [bne_eq_false_iff_eq] at h
    refine ⟨r, rfl, h, ?_⟩
    intro v hv
    subst hv
    simpa [useVer] using h

/-- the version in the WHERE clause of a planned statement is the object's; insert-then-delete
    is planned only where the row has vanished -/
theorem actOf_pers {sl : Slot} {row : Option Row} {p : PObj} (hp : sl.pers = some p) :
    match actOf sl row with
    | .upd _ old | .switch _ old | .del old => old = p.ver
    | .insDel _ => row = none
    | _ => True := by
  obtain ⟨pers, pend⟩ := sl
  cases hp
  unfold actOf
  cases pend with
  | none =>
    dsimp only
    cases p.del with
    | true => exact rfl            -- `.del p.ver`
    | false =>
      cases p.mod with
      | false => exact trivial     -- `.nothing`
      | true =>
        cases netChange p with
        | true => exact rfl        -- `.upd _ p.ver`
        | false => exact trivial   -- `.clean`
  | some v =>
    dsimp only
    cases p.del with
    | false => exact trivial
    | true =>
      cases h : p.ver.isNone && row.isNone with
      | false => exact rfl
      | true =>
        cases rowSwitchVanishedKeepsDelete with
        | false => exact trivial
        | true => exact Option.isNone_iff_eq_none.1 (Bool.and_eq_true_iff.1 h).2

/-- what a passed flush that plans `a` does at one primary key: the row and the writer's slot.
    `t` is the stamp the flush hands to this key (`tick clock k`), `e` whether the key was ever
    deleted (`everDel k`).  `reinsAt e a` is what the flush adds to `reins`: `e` for an INSERT,
    `false` for any other statement; `hr` records which.  Of `a` itself the cases keep only `isDelAct` and
    `reinsAt`, not which statement it is. -/
inductive FlushK (g : Gen) (t : Nat) (e : Bool) (sl : Slot) (row : Option Row) (a : Act) :
    Option Row → Slot → Prop
  /-- no statement -/
  | same (sl' : Slot)
      (hp : sl'.pers = sl.pers ∨ ∃ p, sl.pers = some p ∧ sl'.pers = some { p with mod := false, cval := p.val })
      (hd : isDelAct a = false) (hr : reinsAt e a = false)
      (hl : lostAt sl row = false) : FlushK g t e sl row a row sl'
  /-- UPDATE (also the row switch) -/
  | upd (r : Row) (v : Int) (hrow : row = some r)
      (hseen : ∀ p w, sl.pers = some p → p.ver = some w → w = r.ver)
      (hd : isDelAct a = false) (hr : reinsAt e a = false) :
      FlushK g t e sl row a (some ⟨v, newVer g (some r.ver) t, t⟩)
        ⟨some ⟨some (newVer g (some r.ver) t), some v, some v, false, false, t⟩, none⟩
  /-- INSERT -/
  | ins (v : Int) (hrow : row = none)
      (hd : isDelAct a = false) (hr : reinsAt e a = e)
      (hl : lostAt sl row = false) :
      FlushK g t e sl row a (some ⟨v, newVer g none t, t⟩)
        ⟨some ⟨some (newVer g none t), some v, some v, false, false, t⟩, none⟩
  /-- DELETE, or INSERT followed by DELETE -/
  | del (sl' : Slot) (hd : isDelAct a = true) (hr : reinsAt e a = false)
      (hsl : sl'.pers = none ∨
        ∃ v, sl'.pers = some ⟨some (newVer g none t), some v, some v, false, false, t⟩)
      (hseen : ∀ r p w, row = some r → sl.pers = some p → p.ver = some w → w = r.ver) :
      FlushK g t e sl row a none sl'

theorem flushK_of_pass (g : Gen) (clock k : Nat) (e : Bool) (sl : Slot) (row : Option Row)
    (h : PassK sl row) :
    FlushK g (tick clock k) e sl row (actOf sl row) (applyRow g clock k (actOf sl row) row)
      (afterFlushSlot g clock k sl row) := by
  have hver : ∀ p, sl.pers = some p → _ := fun p hp => actOf_pers (row := row) hp
  unfold afterFlushSlot applyRow
  cases ha : actOf sl row with
  | nothing => exact .same _ (Or.inl rfl) rfl rfl (by unfold lostAt; rw [ha])
  | clean =>
    refine .same _ ?_ rfl rfl (by unfold lostAt; rw [ha])
    dsimp only
    cases hp : sl.pers with
    | none => exact Or.inl hp
    | some p => exact Or.inr ⟨p, rfl, rfl⟩
  | upd v old | switch v old =>
    rw [ha] at hver
    have hver : ∀ p, sl.pers = some p → old = p.ver := hver
    have h2 := h.staleUpd
    rw [ha] at h2
    obtain ⟨r, rfl, huse, hold⟩ := noMatch_false h2
    dsimp only
    rw [huse]
    exact .upd r v rfl (fun p w hp hw => hold w ((hver p hp).trans hw)) rfl rfl
  | ins v =>
    have h3 : dupIns (.ins v) row = false := ha ▸ h.dupIns
    cases row with
    | some r => cases h3
    | none => exact .ins v rfl rfl rfl (by unfold lostAt; rw [ha])
  | del old =>
    rw [ha] at hver
    have hver : ∀ p, sl.pers = some p → old = p.ver := hver
    have h5 : staleDel (.del old) row = false := ha ▸ h.staleDel
    obtain ⟨r, rfl, _, hold⟩ := noMatch_false h5
    exact .del _ rfl rfl (Or.inl rfl) fun _ p w hr hp hw =>
      Option.some.inj hr ▸ hold w ((hver p hp).trans hw)
  | insDel v =>
    rw [ha] at hver
    have hver : ∀ p, sl.pers = some p → row = none := hver
    exact .del _ rfl rfl (Or.inr ⟨v, rfl⟩) fun r p _ hr hp _ => nomatch (hver p hp).symm.trans hr

end SaVerif.Version
