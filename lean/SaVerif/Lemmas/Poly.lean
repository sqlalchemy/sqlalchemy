import SaVerif.Model.Poly
import SaVerif.Lemmas.Lookup
import SaVerif.Lemmas.MapM
/-! The polymorphic loading model over a consistently stored hierarchy: `storeSingle`,
`storeJoined`, `storeConcrete` lay a list of objects out in the tables of the three plans. -/
namespace SaVerif.Poly

/-- a stored object: primary key, class, and the value of every attribute column -/
structure PObj where
  id : Nat
  cls : Nat
  attr : Nat → Option Int

/-- what the property says the object must come back as -/
def entOf (h : Hier) (o : PObj) : Ent := ⟨o.id, o.cls, (h.anc o.cls).map o.attr⟩

structure WFH (h : Hier) : Prop where
  anc_lt : ∀ c a, c < h.n → a ∈ h.anc c → a < h.n
  self : ∀ c, c < h.n → h.isa c c = true
  /-- no two classes share a polymorphic identity (`polymorphic_map` is a dict) -/
  ident_inj : ∀ d e v, d < h.n → e < h.n → h.ident d = some v → h.ident e = some v → d = e

theorem mem_sub (h : Hier) (c d : Nat) : d ∈ h.sub c ↔ d < h.n ∧ h.isa d c = true := by
  simp [Hier.sub, List.mem_filter, List.mem_range]

theorem mem_inList (h : Hier) (c v : Nat) :
    v ∈ h.inList c ↔ ∃ d, d < h.n ∧ h.isa d c = true ∧ h.ident d = some v := by
  simp only [Hier.inList, List.mem_filterMap, mem_sub, and_assoc]

theorem classOf_some (h : Hier) (v d : Nat) (hf : h.classOf v = some d) :
    d < h.n ∧ h.ident d = some v := by
  unfold Hier.classOf at hf
  have h1 := List.find?_some hf
  have h2 := List.mem_of_find?_eq_some hf
  exact ⟨List.mem_range.1 h2, by simpa using h1⟩

theorem classOf_none (h : Hier) (v : Nat) (hf : h.classOf v = none) :
    ∀ d, d < h.n → h.ident d ≠ some v := by
  intro d hd hi
  have := List.find?_eq_none.1 hf d (List.mem_range.2 hd)
  simp [hi] at this

theorem classOf_ident (h : Hier) (hw : WFH h) (d v : Nat) (hd : d < h.n) (hi : h.ident d = some v) :
    h.classOf v = some d := by
  cases hf : h.classOf v with
  | none => exact absurd hi (classOf_none h v hf d hd)
  | some e =>
    have ⟨he, hv⟩ := classOf_some h v e hf
    rw [hw.ident_inj e d v he hd hv hi]

theorem getD_map_range {α : Type} (n d : Nat) (f : Nat → α) (dflt : α) (hd : d < n) :
    ((List.range n).map f).getD d dflt = f d := by
  simp [List.getD_eq_getElem?_getD, List.getElem?_range hd]

def storeSingle (h : Hier) (objs : List PObj) : List SRow :=
  objs.map (fun o => ⟨o.id, h.ident o.cls,
    (List.range h.n).map (fun a => if (h.anc o.cls).contains a then o.attr a else none)⟩)

theorem entOfSRow_store (h : Hier) (hw : WFH h) (o : PObj) (ho : o.cls < h.n) :
    entOfSRow h o.cls ⟨o.id, h.ident o.cls,
      (List.range h.n).map (fun a => if (h.anc o.cls).contains a then o.attr a else none)⟩ = entOf h o := by
  simp only [entOfSRow, entOf, Ent.mk.injEq, true_and]
  apply List.map_congr_left
  intro a ha
  rw [getD_map_range _ _ _ _ (hw.anc_lt o.cls a ho ha), if_pos (List.contains_iff_mem.2 ha)]

def storeConcrete (h : Hier) (objs : List PObj) : CTables :=
  (List.range h.n).map (fun d => (objs.filter (fun o => o.cls == d)).map (fun o => (o.id, (h.anc d).map o.attr)))

theorem mem_insertEnt (e x : Ent) (l : List Ent) : x ∈ insertEnt e l ↔ x = e ∨ x ∈ l := by
  induction l with
  | nil => simp [insertEnt]
  | cons y ys ih =>
    simp only [insertEnt]
    split
    · simp
    · simp only [List.mem_cons, ih]
      exact or_left_comm

theorem mem_sortEnts (x : Ent) (l : List Ent) : x ∈ sortEnts l ↔ x ∈ l := by
  induction l with
  | nil => simp [sortEnts]
  | cons y ys ih =>
    simp only [sortEnts, List.foldr_cons] at ih ⊢
    rw [mem_insertEnt, ih]; simp

def Sorted : List Ent → Prop
  | [] => True
  | [_] => True
  | a :: b :: rest => a.id ≤ b.id ∧ Sorted (b :: rest)

theorem sorted_cons_insertEnt (e x : Ent) (hx : x.id ≤ e.id) :
    ∀ (l : List Ent), Sorted (x :: l) → Sorted (x :: insertEnt e l)
  | [], _ => ⟨hx, trivial⟩
  | y :: l, hs => by
    unfold insertEnt
    split
    · exact ⟨hx, ‹_›, hs.2⟩
    · exact ⟨hs.1, sorted_cons_insertEnt e y (by omega) l hs.2⟩

theorem sorted_insertEnt (e : Ent) : ∀ (l : List Ent), Sorted l → Sorted (insertEnt e l)
  | [], _ => trivial
  | x :: l, hs => by
    unfold insertEnt
    split
    · exact ⟨‹_›, hs⟩
    · exact sorted_cons_insertEnt e x (by omega) l hs

theorem sorted_sortEnts (l : List Ent) : Sorted (sortEnts l) := by
  induction l with
  | nil => trivial
  | cons x xs ih => simp only [sortEnts, List.foldr_cons] at ih ⊢; exact sorted_insertEnt x _ ih

def storeJoined (h : Hier) (root : Nat) (objs : List PObj) : JTables :=
  ⟨objs.map (fun o => (o.id, h.ident o.cls, o.attr root)),
   (List.range h.n).map (fun a => (objs.filter (fun o => h.isa o.cls a)).map (fun o => (o.id, o.attr a)))⟩

theorem find_unique {β : Type} (p : PObj → Bool) (f : PObj → β) (key : β → Nat)
    (hk : ∀ x, key (f x) = x.id) {l : List PObj} (hn : (l.map (·.id)).Nodup) {o : PObj}
    (ho : o ∈ l) :
    ((l.filter p).map f).find? (fun r => key r == o.id) = if p o then some (f o) else none := by
  -- the lookup in the table is a lookup in `l` itself, where `o` is the only object with its id
  rw [List.find?_map, List.find?_filter, Lookup.find?_only ho fun b hb hb' =>
    Lookup.eq_of_key_eq hn ho hb (hk b ▸ eq_of_beq (of_decide_eq_true hb').2)]
  simp [hk]

theorem JTables.hasRow_eq (t : JTables) (root a id : Nat) :
    t.hasRow root a id = (t.attr root a id).isSome := by
  unfold JTables.hasRow JTables.attr
  split <;> rw [Option.isSome_map, Bool.eq_iff_iff, List.any_eq_true, List.find?_isSome]

end SaVerif.Poly
