/-!
Sweeps over tables of names without evaluating `String`: the kernel UTF-8 encodes both literals
again at every comparison.  Each name is read once as its characters (the unifier solves
`"abc" =?= String.ofList ?cs` without evaluating anything, so `constructor` finds `cs`) and
numbered by `code`, a bijective numeral in base `2 ^ 32`; a check that only asks whether two
names are equal gives the same answer on the numbers.  Numbers and not the characters themselves:
the kernel compares `Nat` literals by built-in arithmetic and `Char`s by unfolding their
`DecidableEq`, and the same sweep over `List Char` is about twice as dear.  A sweep that needs
the characters reads them off the bytes (`Lemmas/AsciiString`).
-/
namespace SaVerif.Spell

def code (cs : List Char) : Nat := cs.foldr (fun c n => n * 2 ^ 32 + c.toNat + 1) 0

theorem code_inj : ∀ {a b : List Char}, code a = code b → a = b
  | [], [], _ => rfl
  | [], _ :: _, h => by simp [code] at h
  | _ :: _, [], h => by simp [code] at h
  | c :: a, d :: b, h => by
    have hc := c.val.toNat_lt
    have hd := d.val.toNat_lt
    simp only [code, List.foldr_cons, Char.toNat] at h
    -- quotient and remainder of both sides of `h`, less one, by `2 ^ 32` (`hc`, `hd`: `c.toNat`, `d.toNat` lie below it)
    have : code a = code b ∧ c.toNat = d.toNat := by
      simp only [code, Char.toNat]
      omega
    rw [code_inj this.1, Char.toNat_inj.1 this.2]

def key (s : String) : Nat := code s.toList

theorem key_inj {s t : String} (h : key s = key t) : s = t :=
  String.toList_inj.1 (code_inj h)

inductive Spells : String → List Char → Prop
  | mk (cs : List Char) : Spells (String.ofList cs) cs

theorem Spells.key_eq : ∀ s cs, Spells s cs → key s = code cs
  | _, _, .mk cs => by rw [key, String.toList_ofList]

-- `cons` first: `repeat' constructor` tries the constructors in this order, and every goal but the last
-- of a list needs `cons`
inductive All₂ (R : α → β → Prop) : List α → List β → Prop
  | cons {a b as bs} : R a b → All₂ R as bs → All₂ R (a :: as) (b :: bs)
  | nil : All₂ R [] []

theorem All₂.map_eq {R : α → β → Prop} {f : α → γ} {g : β → γ} (h : ∀ a b, R a b → f a = g b) :
    ∀ l l', All₂ R l l' → l.map f = l'.map g
  | _, _, .nil => rfl
  | _, _, .cons r t => by rw [List.map_cons, List.map_cons, h _ _ r, map_eq h _ _ t]

inductive Both (R : α → β → Prop) (S : γ → δ → Prop) : α × γ → β × δ → Prop
  | mk {a b c d} : R a b → S c d → Both R S (a, c) (b, d)

theorem Both.map_eq {R : α → β → Prop} {S : γ → δ → Prop} {f : α → ε} {g : β → ε} {f' : γ → ζ}
    {g' : δ → ζ} (h : ∀ a b, R a b → f a = g b) (h' : ∀ c d, S c d → f' c = g' d) :
    ∀ x y, Both R S x y → Prod.map f f' x = Prod.map g g' y
  | _, _, .mk r s => by rw [Prod.map_apply, Prod.map_apply, h _ _ r, h' _ _ s]

theorem names_eq : ∀ l cs, All₂ Spells l cs → l.map key = cs.map code :=
  All₂.map_eq Spells.key_eq

theorem rows_eq : ∀ l cs, All₂ (Both Spells (All₂ Spells)) l cs →
    l.map (Prod.map key (List.map key)) = cs.map (Prod.map code (List.map code)) :=
  All₂.map_eq (Both.map_eq Spells.key_eq names_eq)

section
variable {α κ : Type} [BEq α] [LawfulBEq α] [BEq κ] [LawfulBEq κ] {k : α → κ}
  (hk : ∀ {a b}, k a = k b → a = b)
include hk

theorem beq_map (a b : α) : (k a == k b) = (a == b) := by
  rw [Bool.eq_iff_iff, beq_iff_eq, beq_iff_eq]
  exact ⟨hk, congrArg k⟩

theorem contains_map (l : List α) (a : α) : (l.map k).contains (k a) = l.contains a := by
  induction l with
  | nil => rfl
  | cons b l ih => simp only [List.map_cons, List.contains_cons, ih, beq_map hk]

theorem all_contains_rename (l m : List α) :
    l.all (fun a => m.contains a) = (l.map k).all fun a => (m.map k).contains a := by
  simp only [List.all_map, Function.comp_def, contains_map hk]

theorem lookup_map {β γ : Type} (g : β → γ) (l : List (α × β)) (a : α) :
    (l.map (Prod.map k g)).lookup (k a) = (l.lookup a).map g := by
  induction l with
  | nil => rfl
  | cons p l ih =>
    obtain ⟨b, c⟩ := p
    simp only [List.map_cons, Prod.map_apply, List.lookup_cons, beq_map hk, ih]
    cases a == b <;> rfl

theorem all_lookup_contains_rename (base cur : List (α × List α)) :
    base.all (fun r => (cur.lookup r.1).any (fun c => r.2.all (fun a => c.contains a))) =
    (base.map (Prod.map k (List.map k))).all
      (fun r => ((cur.map (Prod.map k (List.map k))).lookup r.1).any
        (fun c => r.2.all (fun a => c.contains a))) := by
  rw [List.all_map]
  congr 1
  funext r
  rw [Function.comp, Prod.map_fst, Prod.map_snd, lookup_map hk]
  cases cur.lookup r.1 with
  | none => rfl
  | some c => exact all_contains_rename hk r.2 c

end

end SaVerif.Spell
