import SaVerif.Model.PySeq
namespace SaVerif.PySeq

def apps : List Event → List Item
  | [] => []
  | .app x :: es => x :: apps es
  | .rem _ :: es => apps es

def rems : List Event → List Item
  | [] => []
  | .rem x :: es => x :: rems es
  | .app _ :: es => rems es

theorem apps_append (a b : List Event) : apps (a ++ b) = apps a ++ apps b := by
  induction a with
  | nil => rfl
  | cons e es ih => cases e <;> simp [apps, ih]

theorem rems_append (a b : List Event) : rems (a ++ b) = rems a ++ rems b := by
  induction a with
  | nil => rfl
  | cons e es ih => cases e <;> simp [rems, ih]

theorem apps_map_app (xs : List Item) : apps (xs.map .app) = xs := by
  induction xs with
  | nil => rfl
  | cons x xs ih => simp [apps, ih]

theorem rems_map_app (xs : List Item) : rems (xs.map .app) = [] := by
  induction xs with
  | nil => rfl
  | cons x xs ih => simp [rems, ih]

theorem rems_map_rem (xs : List Item) : rems (xs.map .rem) = xs := by
  induction xs with
  | nil => rfl
  | cons x xs ih => simp [rems, ih]

theorem apps_map_rem (xs : List Item) : apps (xs.map .rem) = [] := by
  induction xs with
  | nil => rfl
  | cons x xs ih => simp [apps, ih]

theorem ne_err_of_none {r : Ret} (h : r = .none) (e : Err) : r ≠ .err e :=
  fun he => Ret.noConfusion (h ▸ he)

/-- **event accounting**: old contents plus everything appended is, as a multiset, the new
    contents plus everything removed -/
def Accounts (l : List Item) (ev : List Event) (l' : List Item) : Prop :=
  (l ++ apps ev).Perm (l' ++ rems ev)

theorem Accounts.length_eq {l l' : List Item} {ev : List Event} (h : Accounts l ev l') :
    (l ++ apps ev).length = (l' ++ rems ev).length :=
  List.Perm.length_eq h

theorem acc_refl (l : List Item) : Accounts l [] l := by
  unfold Accounts; simp [apps, rems]

theorem acc_trans {a b c : List Item} {e1 e2 : List Event} (h1 : Accounts a e1 b) (h2 : Accounts b e2 c) :
    Accounts a (e1 ++ e2) c := by
  unfold Accounts at *
  -- a ++ A1 ++ A2 ~ b ++ R1 ++ A2 ~ (b ++ A2) ++ R1 ~ (c ++ R2) ++ R1
  rw [apps_append, rems_append, ← List.append_assoc]
  refine (h1.append_right _).trans ?_
  rw [List.append_assoc]
  refine (List.perm_append_comm.append_left b).trans ?_
  rw [← List.append_assoc]
  refine (h2.append_right _).trans ?_
  rw [List.append_assoc]
  exact List.perm_append_comm.append_left c

theorem normIndex_some {len : Nat} {i : Int} {k : Nat} (h : normIndex len i = some k) : k < len := by
  unfold normIndex at h
  by_cases h0 : (if i < 0 then i + (len : Int) else i) < 0
  · simp [h0] at h
  · by_cases h1 : (if i < 0 then i + (len : Int) else i).toNat < len
    · simp [h0, h1] at h; omega
    · simp [h0, h1] at h

theorem insertPos_le (n : Nat) (pos : Int) : insertPos n pos ≤ n := by
  unfold insertPos
  split
  · split
    · exact Nat.zero_le n
    · exact Int.toNat_le.2 (by omega)
  · split
    · exact Nat.le_refl n
    · exact Int.toNat_le.2 (by omega)

theorem insertPos_of_le {n : Nat} {k : Nat} (h : k ≤ n) : insertPos n (k : Int) = k := by
  unfold insertPos
  rw [if_neg (Int.not_lt.2 (Int.natCast_nonneg k)), if_neg (Int.not_lt.2 (Int.ofNat_le.2 h))]
  exact Int.toNat_natCast k

theorem eq_take_cons_drop {l : List Item} {k : Nat} {x : Item} (h : l[k]? = some x) :
    l = l.take k ++ x :: l.drop (k + 1) ∧ k < l.length := by
  obtain ⟨hk, hx⟩ := List.getElem?_eq_some_iff.1 h
  refine ⟨?_, hk⟩
  have := List.drop_eq_getElem_cons hk
  rw [hx] at this
  rw [← this, List.take_append_drop]

theorem acc_rems {l l' xs : List Item} (h : l.Perm (l' ++ xs)) : Accounts l (xs.map .rem) l' := by
  unfold Accounts
  rw [apps_map_rem, rems_map_rem, List.append_nil]
  exact h

theorem acc_apps {l l' xs : List Item} (h : (l ++ xs).Perm l') : Accounts l (xs.map .app) l' := by
  unfold Accounts
  rw [apps_map_app, rems_map_app, List.append_nil]
  exact h

theorem acc_cut_out (A B C : List Item) : Accounts (A ++ (B ++ C)) (B.map .rem) (A ++ C) :=
  acc_rems (by rw [List.append_assoc]; exact List.perm_append_comm.append_left A)

theorem acc_cut_in (A X C : List Item) : Accounts (A ++ C) (X.map .app) (A ++ (X ++ C)) :=
  acc_apps (by rw [List.append_assoc]; exact List.perm_append_comm.append_left A)

theorem acc_set {l : List Item} {k : Nat} {old x : Item} (h : l[k]? = some old) :
    Accounts l [.rem old, .app x] (l.set k x) := by
  obtain ⟨hl, hk⟩ := eq_take_cons_drop h
  rw [List.set_eq_take_append_cons_drop, if_pos hk]
  conv => arg 1; rw [hl]
  exact acc_trans (acc_cut_out _ [old] _) (acc_cut_in _ [x] _)

theorem acc_eraseIdx {l : List Item} {k : Nat} {old : Item} (h : l[k]? = some old) :
    Accounts l [.rem old] (l.eraseIdx k) := by
  rw [List.eraseIdx_eq_take_drop_succ]
  conv => arg 1; rw [(eq_take_cons_drop h).1]
  exact acc_cut_out _ [old] _

theorem acc_insert (l : List Item) (pos : Int) (x : Item) : Accounts l [.app x] (pInsert l pos x) := by
  unfold pInsert
  conv => arg 1; rw [← List.take_append_drop (insertPos l.length pos) l]
  exact acc_cut_in _ [x] _

theorem acc_erase {l : List Item} {x : Item} (h : x ∈ l) : Accounts l [.rem x] (l.erase x) :=
  acc_rems (xs := [x]) ((List.perm_cons_erase h).trans (List.perm_append_singleton x _).symm)

theorem delLoop_append (B : List Item) : ∀ (A C : List Item) (ev : List Event),
    delLoop B.length A.length (A ++ (B ++ C)) ev = (A ++ C, ev ++ B.map .rem) := by
  induction B with
  | nil => intro A C ev; simp [delLoop]
  | cons b B ih =>
    intro A C ev
    have hlt : (A ++ (b :: B ++ C)).length > A.length := by
      rw [List.length_append]; exact Nat.lt_add_of_pos_right (Nat.succ_pos _)
    have hget : (A ++ (b :: B ++ C))[A.length]? = some b := by
      rw [List.getElem?_append_right (Nat.le_refl _), Nat.sub_self]; rfl
    have her : (A ++ (b :: B ++ C)).eraseIdx A.length = A ++ (B ++ C) := by
      rw [List.eraseIdx_append_of_length_le (Nat.le_refl _), Nat.sub_self]; rfl
    rw [List.length_cons, delLoop, if_pos hlt, hget]
    simp only
    rw [her, ih, List.map_cons, List.append_assoc]
    rfl

theorem pInsert_at_length (A C : List Item) (x : Item) :
    pInsert (A ++ C) (A.length : Int) x = A ++ x :: C := by
  unfold pInsert
  dsimp only
  rw [insertPos_of_le (by rw [List.length_append]; exact Nat.le_add_right _ _), List.take_left,
    List.drop_left]

theorem insLoop_eq (xs : List Item) : ∀ (i : Nat) (start : Int) (A C : List Item) (ev : List Event),
    (A.length : Int) = start + i →
    insLoop i start xs (A ++ C) ev = (A ++ xs ++ C, ev ++ xs.map .app) := by
  induction xs with
  | nil => intro i start A C ev _; simp [insLoop]
  | cons x xs ih =>
    intro i start A C ev h
    have := ih (i + 1) start (A ++ [x]) C (ev ++ [.app x])
      (by rw [List.length_append, List.length_singleton]; omega)
    rw [insLoop, ← h, pInsert_at_length]
    simpa using this

theorem exists_split (l : List Item) {a n : Nat} (h : a + n ≤ l.length) :
    ∃ A B C, l = A ++ (B ++ C) ∧ A.length = a ∧ B.length = n :=
  ⟨l.take a, (l.drop a).take n, l.drop (a + n),
    by rw [← List.drop_drop, List.take_append_drop, List.take_append_drop],
    List.length_take_of_le (by omega),
    List.length_take_of_le (by rw [List.length_drop]; omega)⟩

end SaVerif.PySeq
