import SaVerif.Model.Sess
import SaVerif.Lemmas.ListFacts
/-! M-ORM/Sess: what `getO` reads after the primitives `setO`, `emit` and `autobegin`, `R.bind` when
nothing was raised, and `run_induction`, through which every invariant of the session is proved
for all histories. -/
namespace SaVerif.Sess

@[simp] theorem getO_setO_same (σ : Sess) (o : Oid) (f : Obj → Obj) (h : o < σ.objs.length) :
    getO (setO σ o f) o = f (getO σ o) := by
  simp [getO, setO, List.getD_eq_getElem?_getD, h]

@[simp] theorem getO_setO_ne (σ : Sess) (o o' : Oid) (f : Obj → Obj) (h : o ≠ o') :
    getO (setO σ o f) o' = getO σ o' := by
  simp [getO, setO, List.getD_eq_getElem?_getD, h]

@[simp] theorem setO_objs_length (σ : Sess) (o : Oid) (f : Obj → Obj) :
    (setO σ o f).objs.length = σ.objs.length := by simp [setO]

@[simp] theorem getO_emit (σ : Sess) (e : Ev) (o o' : Oid) : getO (emit σ e o) o' = getO σ o' := rfl
@[simp] theorem emit_log (σ : Sess) (e : Ev) (o : Oid) : (emit σ e o).log = σ.log ++ [(e, o)] := rfl
@[simp] theorem setO_log (σ : Sess) (o : Oid) (f : Obj → Obj) : (setO σ o f).log = σ.log := rfl
@[simp] theorem emit_objs (σ : Sess) (e : Ev) (o : Oid) : (emit σ e o).objs = σ.objs := rfl

theorem getO_of_objs {σ τ : Sess} (h : τ.objs = σ.objs) (o : Oid) : getO τ o = getO σ o := by
  rw [getO, h]; rfl

theorem getO_of_length_le {σ : Sess} {o : Oid} (h : σ.objs.length ≤ o) : getO σ o = {} :=
  ListFacts.getD_of_length_le h _

theorem autobegin_objs (σ : Sess) : (autobegin σ).objs = σ.objs := by
  unfold autobegin; split <;> rfl

theorem getO_autobegin (σ : Sess) (o : Oid) : getO (autobegin σ) o = getO σ o :=
  getO_of_objs (autobegin_objs σ) o

theorem registerNew_objs_length (σ : Sess) (x : Oid) : (registerNew σ x).objs.length = σ.objs.length := by
  unfold registerNew; split <;> simp [setO]

theorem autobegin_objs_length (σ : Sess) : (autobegin σ).objs.length = σ.objs.length :=
  congrArg _ (autobegin_objs σ)

theorem lt_of_att (σ : Sess) (o : Oid) (h : (getO σ o).att = true) : o < σ.objs.length :=
  Nat.lt_of_not_le fun hl => by rw [getO_of_length_le hl] at h; cases h

/-- `τ`: `σ` after bookkeeping outside `objs` and `log` (`removeNewlyDeletedOne_eq`), or `σ` itself -/
theorem emit_setO_spec {σ τ : Sess} {o : Oid} (g : Obj → Obj) (e : Ev) (ho : o < σ.objs.length)
    (hobjs : τ.objs = σ.objs) (hlog : τ.log = σ.log) :
    (emit (setO τ o g) e o).log = σ.log ++ [(e, o)] ∧
    getO (emit (setO τ o g) e o) o = g (getO σ o) := by
  rw [emit_log, setO_log, hlog, getO_emit, getO_setO_same _ _ _ (hobjs ▸ ho)]
  exact ⟨rfl, congrArg g (getO_of_objs hobjs o)⟩

theorem bind_ok {r : R} {f : Sess → R} (h : (r.bind f).2 = none) : r.2 = none ∧ (f r.1).2 = none := by
  unfold R.bind at h
  split at h
  · rename_i e he; rw [he] at h; cases h
  · rename_i he; exact ⟨he, h⟩

theorem bind_eq_of_ok {r : R} {f : Sess → R} (h : r.2 = none) : r.bind f = f r.1 := by
  unfold R.bind; rw [h]

theorem isClean_new {σ : Sess} (h : isClean σ = true) : σ.new = [] := by
  simp only [isClean, Bool.and_eq_true, List.isEmpty_iff] at h
  exact h.2

theorem flushUntilClean_ok_new : ∀ (n : Nat) (σ : Sess), (flushUntilClean n σ).2 = none →
    (flushUntilClean n σ).1.new = []
  | 0, σ, h => by
    unfold flushUntilClean at h ⊢
    split
    · exact isClean_new ‹_›
    · rename_i hc; rw [if_neg hc] at h; cases h
  | n + 1, σ, h => by
    unfold flushUntilClean at h ⊢
    split
    · exact isClean_new ‹_›
    · rename_i hc
      rw [if_neg hc] at h
      have h1 := bind_ok h
      rw [bind_eq_of_ok h1.1] at h ⊢
      exact flushUntilClean_ok_new n _ h

theorem run_induction {I : Sess → Prop} (eoc : Bool) (ops : List Op) (h0 : I { eoc := eoc })
    (hs : ∀ σ op, opValid σ op = true → I σ → I (Sess.step σ op).1.1) : I (run eoc ops) := by
  unfold run
  generalize ({ eoc := eoc } : Sess) = σ at h0
  induction ops generalizing σ with
  | nil => exact h0
  | cons op t ih =>
    refine ih _ ?_
    show I (if opValid σ op = true then (Sess.step σ op).1.1 else σ)
    split
    · rename_i hv; exact hs σ op hv h0
    · exact h0

end SaVerif.Sess
