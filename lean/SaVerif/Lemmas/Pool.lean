import SaVerif.Model.Pool
import SaVerif.Lemmas.ListFacts
/-! What the M-POOL invariant proofs share: that `popRest` only permutes the queue, and `Trans`, the
transition table `trans` as an inductive relation, so that a proof about a step taken goes by cases on the
transition (`step_eq`) instead of unfolding the table. -/
namespace SaVerif.Pool

theorem sumMap_eq_zero_of_all (f : Pc → Nat) (pcs : List Pc) (h : ∀ pc ∈ pcs, f pc = 0) :
    sumMap f pcs = 0 :=
  ListFacts.sum_map_eq_zero h

theorem le_sumMap_of_mem (f : Pc → Nat) (pcs : List Pc) (t : Nat) (pc : Pc) (h : pcs[t]? = some pc) :
    f pc ≤ sumMap f pcs :=
  ListFacts.le_sum_map_of_mem f (List.mem_of_getElem? h)

theorem getElem?_set_self' (pcs : List Pc) (t : Nat) (old new : Pc) (h : pcs[t]? = some old) :
    (pcs.set t new)[t]? = some new :=
  List.getElem?_set_self (List.getElem_of_getElem? h).1

theorem takeOne_perm {lifo : Bool} {q : List Rec} {r : Rec} {rest : List Rec}
    (h : takeOne lifo q = some (r, rest)) : q.Perm (r :: rest) := by
  unfold takeOne at h
  split at h
  · split at h
    · rename_i hl
      cases h
      obtain ⟨ys, rfl⟩ := List.getLast?_eq_some_iff.1 hl
      rw [List.dropLast_concat]
      exact List.perm_append_comm
    · cases h
  · split at h
    · cases h; exact .refl _
    · cases h

theorem popRest_perm {lifo : Bool} {q : List Rec} {r : Rec} {rest : List Rec}
    (h : popRest lifo q r = some rest) : q.Perm (r :: rest) := by
  unfold popRest at h
  split at h
  · rename_i heq
    split at h
    · rename_i hr
      cases h; subst hr
      exact takeOne_perm heq
    · cases h
  · cases h

theorem popRest_nil (lifo : Bool) (r : Rec) : popRest lifo [] r = none := by
  cases lifo <;> simp [popRest, takeOne]

theorem popRest_of_ne_nil (lifo : Bool) (q : List Rec) (h : q ≠ []) :
    ∃ r rest, popRest lifo q r = some rest := by
  cases lifo
  · cases q with
    | nil => exact absurd rfl h
    | cons a l => exact ⟨a, l, by simp [popRest, takeOne]⟩
  · cases hl : q.getLast? with
    | none => simp [List.getLast?_eq_none_iff] at hl; exact absurd hl h
    | some a => exact ⟨a, q.dropLast, by simp [popRest, takeOne, hl]⟩

inductive Trans (c : Cfg) (s : Shared) (t : Nat) : Pc → Label → Pc → Shared → Prop
  | idle_cg : Trans c s t .idle .cg .g0 s
  | gr_cg : Trans c s t .gr .cg .g0 s
  | g0_rv {v} : c.useOv ∧ v = s.overflow → Trans c s t .g0 (.rv v) (.g1 v) s
  | g0_qg {b} : ¬ c.useOv ∧ b = false → Trans c s t .g0 (.qg b) (.gq false) s
  | g1_qg {v b} : b = decide (c.maxOv ≤ v) → Trans c s t (.g1 v) (.qg b) (.gq b) s
  | gq_pop {w r rest} : popRest c.lifo s.queue r = some rest →
      Trans c s t (.gq w) (.pop r) .idle { s with queue := rest, out := r :: s.out }
  | gq_qe {w} : s.queue = [] → Trans c s t (.gq w) .qe (.ge w) s
  | gq_cancel {w} : Trans c s t (.gq w) .cancel .idle s
  | ge_rv {w v} : c.useOv ∧ v = s.overflow → Trans c s t (.ge w) (.rv v) (.ge1 w v) s
  | ge_ci {w} : ¬ c.useOv → Trans c s t (.ge w) .ci .i0 s
  | ge1_cg {w v} : c.maxOv ≤ v ∧ w = false → Trans c s t (.ge1 w v) .cg .g0 s
  | ge1_to {w v} : c.maxOv ≤ v ∧ w = true → Trans c s t (.ge1 w v) .to .idle s
  | ge1_ci {w v} : v < c.maxOv → Trans c s t (.ge1 w v) .ci .i0 s
  | i0_rmw {v w} : c.maxOv = -1 ∧ v = s.overflow ∧ w = v + 1 →
      Trans c s t .i0 (.rmw v w) .c0 { s with overflow := w }
  | i0_la : c.maxOv ≠ -1 ∧ s.lock = none → Trans c s t .i0 .la .i1 { s with lock := some t }
  | i1_rv {v} : v = s.overflow → Trans c s t .i1 (.rv v) (.i2 v) s
  | i2_rmw {v v' w} : v < c.maxOv ∧ v' = s.overflow ∧ w = v' + 1 →
      Trans c s t (.i2 v) (.rmw v' w) .i3 { s with overflow := w }
  | i2_lr {v} : c.maxOv ≤ v → Trans c s t (.i2 v) .lr .gr { s with lock := none }
  | i3_lr : Trans c s t .i3 .lr .c0 { s with lock := none }
  | c0_cr {r} : r = s.nextId →
      Trans c s t .c0 (.cr r) .idle { s with out := r :: s.out, nextId := s.nextId + 1 }
  | c0_cf : Trans c s t .c0 .cf .cfail s
  | c0_ccancel : Trans c s t .c0 .ccancel .cfail s
  | cfail_cd : Trans c s t .cfail .cd .d0 s
  | d0_rmw {v w} : c.maxOv = -1 ∧ v = s.overflow ∧ w = v - 1 →
      Trans c s t .d0 (.rmw v w) .idle { s with overflow := w }
  | d0_la : c.maxOv ≠ -1 ∧ s.lock = none → Trans c s t .d0 .la .d1 { s with lock := some t }
  | d1_rmw {v w} : v = s.overflow ∧ w = v - 1 →
      Trans c s t .d1 (.rmw v w) .d2 { s with overflow := w }
  | d2_lr : Trans c s t .d2 .lr .idle { s with lock := none }
  | idle_cp {r} : r ∈ s.out → Trans c s t .idle (.cp r) (.p0 r) { s with out := s.out.erase r }
  | p0_put {r r'} : r' = r ∧ full c s.queue = false →
      Trans c s t (.p0 r) (.put r') .idle { s with queue := s.queue ++ [r] }
  | p0_qf {r} : full c s.queue = true → Trans c s t (.p0 r) .qf (.p1 r) s
  | p1_cl {r} : Trans c s t (.p1 r) .cl .p2 s
  | p2_cd : Trans c s t .p2 .cd .d0 s

theorem Trans.of_eq {c : Cfg} {s sh : Shared} {t : Nat} {old new : Pc} {l : Label}
    (h : trans c s t old l = some (new, sh)) : Trans c s t old l new sh := by
  unfold trans at h
  split at h
  all_goals try split at h
  all_goals cases h
  all_goals constructor
  all_goals assumption

theorem step_eq {c : Cfg} {s s' : State} {t : Nat} {l : Label} (hs : step c s t l = some s') :
    ∃ old new sh, s.pcs[t]? = some old ∧ Trans c s.toShared t old l new sh ∧
      s' = { toShared := sh, pcs := s.pcs.set t new } := by
  unfold step at hs
  split at hs
  · rename_i pc hpc
    split at hs
    · rename_i pc' sh htr
      cases hs
      exact ⟨pc, pc', sh, hpc, .of_eq htr, rfl⟩
    · cases hs
  · cases hs

end SaVerif.Pool
