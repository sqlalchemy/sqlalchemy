import SaVerif.Lemmas.PySlice
/-! `del l[slice]`: what is deleted is exactly the items of `l[slice]` (a fact about the builtin
list model, needed for the event accounting of the instrumented `__delitem__(slice)`). -/
namespace SaVerif.PySeq

/-- one more position, written as a cut `A ++ x :: C` at it: whether a position of `A` or `C` is
    deleted does not change (`hq`) -/
theorem deletePositions_cut (A C : List Item) (x : Item) (S : List Int)
    (hn : (A.length : Int) ∉ S) :
    (deletePositions (A ++ x :: C) S).Perm
      (deletePositions (A ++ x :: C) ((A.length : Int) :: S) ++ [x]) := by
  have hq : ∀ (Z : List (Item × Nat)), (∀ p ∈ Z, p.2 ≠ A.length) →
      Z.filter (fun p => !((A.length : Int) :: S).contains (p.2 : Int))
        = Z.filter (fun p => !S.contains (p.2 : Int)) := by
    intro Z hZ
    refine List.filter_congr fun p hp => ?_
    rw [List.contains_cons, beq_eq_false_iff_ne.2 fun h => hZ p hp (Int.natCast_inj.1 h),
      Bool.false_or]
  have hA := hq (A.zipIdx 0) fun p hp => Nat.ne_of_lt (by simpa using List.snd_lt_add_of_mem_zipIdx hp)
  have hC := hq (C.zipIdx (A.length + 1)) fun p hp =>
    Nat.ne_of_gt (List.le_snd_of_mem_zipIdx hp)
  have hx : S.contains (A.length : Int) = false := by simpa using hn
  unfold deletePositions
  rw [List.zipIdx_append, List.zipIdx_cons, Nat.zero_add, List.filter_append, List.filter_append,
    hA, List.filter_cons, List.filter_cons, hC, List.contains_cons, beq_self_eq_true, hx]
  simp only [Bool.true_or, Bool.not_true, Bool.false_eq_true, if_false, Bool.not_false, if_true,
    List.map_append, List.map_cons]
  exact List.perm_middle.trans (List.perm_append_singleton x _).symm

theorem deletePositions_cons (l : List Item) (S : List Int) (i : Nat) (hi : i < l.length)
    (hn : (i : Int) ∉ S) :
    (deletePositions l S).Perm (deletePositions l ((i : Int) :: S) ++ [l[i]]) := by
  have hA : (l.take i).length = i := List.length_take_of_le (Nat.le_of_lt hi)
  have := deletePositions_cut (l.take i) (l.drop (i + 1)) l[i] S (hA.symm ▸ hn)
  rwa [hA, ← (eq_take_cons_drop (List.getElem?_eq_getElem hi)).1] at this

theorem deletePositions_perm (l : List Item) : ∀ (idx : List Int), idx.Nodup →
    (∀ j ∈ idx, 0 ≤ j ∧ j < l.length) →
    l.Perm (deletePositions l idx ++ idx.filterMap (getAt l))
  | [], _, _ => by
    have hf : l.zipIdx.filter (fun p => !([] : List Int).contains (p.2 : Int)) = l.zipIdx :=
      List.filter_eq_self.2 fun _ _ => rfl
    unfold deletePositions
    rw [hf, List.filterMap_nil, List.append_nil, List.zipIdx_map_fst]
  | j :: rest, hn, hv => by
    have ⟨hj, hrest⟩ := List.nodup_cons.1 hn
    obtain ⟨h0, h1⟩ := hv j (List.mem_cons_self ..)
    have hi : j.toNat < l.length := (Int.toNat_lt h0).2 h1
    have hcast : ((j.toNat : Nat) : Int) = j := Int.toNat_of_nonneg h0
    have hget : getAt l j = some l[j.toNat] := by
      rw [getAt, if_neg (Int.not_lt.2 h0)]
      exact List.getElem?_eq_getElem hi
    have hstep := deletePositions_cons l rest j.toNat hi (hcast.symm ▸ hj)
    rw [hcast] at hstep
    rw [List.filterMap_cons, hget]
    -- l ~ D(rest) ++ P(rest) ~ (D(j::rest) ++ [x]) ++ P(rest) ~ D(j::rest) ++ x :: P(rest)
    refine (deletePositions_perm l rest hrest fun x hx => hv x (List.mem_cons_of_mem _ hx)).trans
      ((hstep.append_right _).trans ?_)
    rw [List.append_assoc]
    rfl

theorem rangeList_nodup (start stop step : Int) (hs : step ≠ 0) :
    (rangeList start stop step).Nodup := by
  unfold rangeList
  -- `k ↦ start + k * step` is injective for `step ≠ 0`
  refine List.pairwise_map.2 (List.Pairwise.imp (fun {a b} hab h => hab ?_) List.nodup_range)
  exact Int.ofNat_inj.1 (Int.eq_of_mul_eq_mul_right hs (Int.add_left_cancel h))

section
variable {l : List Item} {s : Slice} {start stop step : Int}

theorem pDelSlice_none (hs : sliceIndices l.length s = none) :
    pDelSlice l s = .error .valueError := by
  unfold pDelSlice
  rw [hs]

theorem pDelSlice_eq (hs : sliceIndices l.length s = some (start, stop, step)) :
    pDelSlice l s = .ok (deletePositions l (rangeList start stop step)) := by
  unfold pDelSlice
  rw [hs]

theorem iDelSlice_none (hs : sliceIndices l.length s = none) :
    iDelSlice l s = ⟨l, [], .err .valueError⟩ := by
  unfold iDelSlice pGetSlice
  rw [hs]

theorem iDelSlice_eq (hs : sliceIndices l.length s = some (start, stop, step)) :
    iDelSlice l s = ⟨deletePositions l (rangeList start stop step),
      ((rangeList start stop step).filterMap (getAt l)).map .rem, .none⟩ := by
  unfold iDelSlice pGetSlice pDelSlice
  rw [hs]

end

theorem iDelSlice_accounts (l : List Item) (s : Slice) :
    Accounts l (iDelSlice l s).events (iDelSlice l s).items := by
  cases hs : sliceIndices l.length s with
  | none =>
    rw [iDelSlice_none hs]
    exact acc_refl l
  | some t =>
    obtain ⟨start, stop, step⟩ := t
    rw [iDelSlice_eq hs]
    exact acc_rems (deletePositions_perm l _
      (rangeList_nodup start stop step (sliceIndices_bounds hs).1) (rangeList_valid hs))

end SaVerif.PySeq
