import SaVerif.Lemmas.PySeq
import SaVerif.Model.PySetDict
import SaVerif.Lemmas.ListFacts
import SaVerif.Lemmas.OrderedSet
namespace SaVerif.PySeq

structure ExactEvents (s : List Item) (r : Res) : Prop where
  appsNodup : (apps r.events).Nodup
  remsNodup : (rems r.events).Nodup
  appsIff : ∀ x, x ∈ apps r.events ↔ x ∈ r.items ∧ x ∉ s
  remsIff : ∀ x, x ∈ rems r.events ↔ x ∈ s ∧ x ∉ r.items

-- `sAdd` and `sUnion` are `Coll.dictSet` and `Coll.dictUpdate` written out again
theorem mem_sAdd {s : List Item} {x y : Item} : y ∈ sAdd s x ↔ y ∈ s ∨ y = x := Coll.mem_dictSet

theorem nodup_sAdd {s : List Item} {x : Item} (h : s.Nodup) : (sAdd s x).Nodup := Coll.nodup_dictSet h x

theorem mem_sUnion {s v : List Item} {y : Item} : y ∈ sUnion s v ↔ y ∈ s ∨ y ∈ v := Coll.mem_dictUpdate

theorem nodup_sUnion {s : List Item} (h : s.Nodup) (v : List Item) : (sUnion s v).Nodup :=
  Coll.nodup_dictUpdate h v

theorem mem_sDiff {s v : List Item} {y : Item} : y ∈ sDiff s v ↔ y ∈ s ∧ y ∉ v := by
  unfold sDiff; simp [List.mem_filter]

theorem mem_sInter {s v : List Item} {y : Item} : y ∈ sInter s v ↔ y ∈ s ∧ y ∈ v := by
  unfold sInter; simp [List.mem_filter]

theorem mem_sSymDiff {s v : List Item} {y : Item} :
    y ∈ sSymDiff s v ↔ (y ∈ s ∧ y ∉ v) ∨ (y ∈ v ∧ y ∉ s) := by
  unfold sSymDiff
  simp only [List.mem_append, mem_sDiff, mem_sUnion]
  simp

theorem nodup_sSymDiff {s : List Item} (h : s.Nodup) (v : List Item) : (sSymDiff s v).Nodup :=
  Coll.nodup_append_new (h.filter _) (nodup_sUnion List.nodup_nil v) fun _ hx => (List.mem_filter.1 hx).1

theorem sPlain_remove (s : List Item) (x : Item) :
    sPlain s (.remove x) = if s.contains x then some (s.erase x) else none := rfl

theorem sPlain_pop (s : List Item) (x : Item) :
    sPlain s (.pop (some x)) = if s.contains x then some (s.erase x) else none := rfl

theorem sPlain_update (s : List Item) (v : Val) : sPlain s (.update v) =
    match v.kind with | .nonIter => none | .self => some s | _ => some (sUnion s v.elems) := rfl

theorem sPlain_diffUpdate (s : List Item) (v : Val) : sPlain s (.diffUpdate v) =
    match v.kind with | .nonIter => none | .self => some [] | _ => some (sDiff s v.elems) := rfl

theorem sPlain_interUpdate (s : List Item) (v : Val) : sPlain s (.interUpdate v) =
    match v.kind with | .nonIter => none | .self => some s | _ => some (sInter s v.elems) := rfl

theorem sPlain_symDiffUpdate (s : List Item) (v : Val) : sPlain s (.symDiffUpdate v) =
    match v.kind with | .nonIter => none | .self => some [] | _ => some (sSymDiff s v.elems) := rfl

namespace SetI

section
variable {s : List Item} {x : Item}

theorem add_of_mem (h : x ∈ s) : add s x = ⟨s, [], .none⟩ := if_pos (List.contains_iff_mem.2 h)

theorem add_of_not_mem (h : x ∉ s) : add s x = ⟨s ++ [x], [.app x], .none⟩ :=
  if_neg (mt List.contains_iff_mem.1 h)

theorem discard_of_mem (h : x ∈ s) : discard s x = ⟨s.erase x, [.rem x], .none⟩ :=
  if_pos (List.contains_iff_mem.2 h)

theorem discard_of_not_mem (h : x ∉ s) : discard s x = ⟨s, [], .none⟩ :=
  if_neg (mt List.contains_iff_mem.1 h)

theorem remove_of_not_mem (h : x ∉ s) : remove s x = ⟨s, [], .err .keyError⟩ :=
  if_neg (mt List.contains_iff_mem.1 h)

theorem remove_of_mem (h : x ∈ s) : remove s x = discard s x :=
  (if_pos (List.contains_iff_mem.2 h)).trans (discard_of_mem h).symm

end

/-- the state of an `each` loop: what has been added / removed so far relative to `s0` -/
structure Loop (s0 s : List Item) (ev : List Event) : Prop where
  nodup : s.Nodup
  appsNodup : (apps ev).Nodup
  remsNodup : (rems ev).Nodup
  appsIff : ∀ x, x ∈ apps ev ↔ x ∈ s ∧ x ∉ s0
  remsIff : ∀ x, x ∈ rems ev ↔ x ∈ s0 ∧ x ∉ s

theorem loop_start {s : List Item} (h : s.Nodup) : Loop s s [] :=
  ⟨h, by simp [apps], by simp [rems], by simp [apps], by simp [rems]⟩

/-- adding an element that is not a "removed then re-added" one keeps the bookkeeping exact -/
theorem loop_add {s0 s : List Item} {ev : List Event} (h : Loop s0 s ev) (x : Item)
    (hx0 : x ∈ s0 → x ∈ s) :
    Loop s0 (add s x).items (ev ++ (add s x).events) := by
  by_cases hx : x ∈ s
  · rw [add_of_mem hx]
    exact (List.append_nil ev).symm ▸ h
  · rw [add_of_not_mem hx]
    have hx0' : x ∉ s0 := fun h0 => hx (hx0 h0)
    have hxa : x ∉ apps ev := fun ha => hx ((h.appsIff x).1 ha).1
    have happs : apps (ev ++ [.app x]) = apps ev ++ [x] := apps_append ev _
    have hrems : rems (ev ++ [.app x]) = rems ev := (rems_append ev _).trans (List.append_nil _)
    exact {
      nodup := ListFacts.nodup_snoc h.nodup hx
      appsNodup := happs ▸ ListFacts.nodup_snoc h.appsNodup hxa
      remsNodup := hrems ▸ h.remsNodup
      appsIff := fun y => by
        -- `x` is new relative to `s0`, so it counts as appended
        rw [happs, List.mem_append, List.mem_append, h.appsIff, List.mem_singleton, or_and_right]
        exact or_congr_right (iff_self_and.2 fun e => e ▸ hx0')
      remsIff := fun y => by
        rw [hrems, List.mem_append, h.remsIff, List.mem_singleton, not_or]
        exact and_congr_right fun h0 => iff_self_and.2 fun _ e => hx0' (e ▸ h0) }

/-- discarding an element that was not added by this loop keeps the bookkeeping exact -/
theorem loop_discard {s0 s : List Item} {ev : List Event} (h : Loop s0 s ev) (x : Item)
    (hx0 : x ∈ s → x ∈ s0) :
    Loop s0 (discard s x).items (ev ++ (discard s x).events) := by
  by_cases hx : x ∈ s
  · rw [discard_of_mem hx]
    have hx0' : x ∈ s0 := hx0 hx
    have hxr : x ∉ rems ev := fun hr => ((h.remsIff x).1 hr).2 hx
    have happs : apps (ev ++ [.rem x]) = apps ev := (apps_append ev _).trans (List.append_nil _)
    have hrems : rems (ev ++ [.rem x]) = rems ev ++ [x] := rems_append ev _
    exact {
      nodup := h.nodup.erase x
      appsNodup := happs ▸ h.appsNodup
      remsNodup := hrems ▸ ListFacts.nodup_snoc h.remsNodup hxr
      appsIff := fun y => by
        rw [happs, h.appsIff, h.nodup.mem_erase_iff]
        exact and_congr_left fun h0 => iff_and_self.2 fun _ e => h0 (e ▸ hx0')
      remsIff := fun y => by
        -- `x` was in `s0`, so it counts as removed
        rw [hrems, List.mem_append, h.remsIff, h.nodup.mem_erase_iff, List.mem_singleton]
        exact ⟨fun h1 => h1.elim (fun h2 => ⟨h2.1, fun h3 => h2.2 h3.2⟩) fun e => ⟨e ▸ hx0', fun h3 => h3.1 e⟩,
          fun h1 => (Decidable.em (y = x)).elim Or.inr fun ne => Or.inl ⟨h1.1, fun hm => h1.2 ⟨ne, hm⟩⟩⟩ }
  · rw [discard_of_not_mem hx]
    exact (List.append_nil ev).symm ▸ h

theorem add_ret (s : List Item) (x : Item) : (add s x).ret = .none := by
  unfold add; split <;> rfl

theorem discard_ret (s : List Item) (x : Item) : (discard s x).ret = .none := by
  unfold discard; split <;> rfl

theorem add_items (s : List Item) (x : Item) : (add s x).items = sAdd s x := by
  unfold add sAdd; split <;> rfl

theorem discard_items (s : List Item) (x : Item) : (discard s x).items = s.erase x := by
  by_cases hx : x ∈ s
  · rw [discard_of_mem hx]
  · rw [discard_of_not_mem hx, List.erase_of_not_mem hx]

theorem mem_add_items {s : List Item} {x y : Item} : y ∈ (add s x).items ↔ y ∈ s ∨ y = x :=
  add_items s x ▸ mem_sAdd

theorem mem_discard_items {s : List Item} (h : s.Nodup) {x y : Item} :
    y ∈ (discard s x).items ↔ y ∈ s ∧ y ≠ x := by
  rw [discard_items, h.mem_erase_iff]
  exact And.comm

theorem each_cons {f : List Item → Item → Res} {s : List Item} {x : Item} (h : (f s x).ret = .none)
    (xs : List Item) (ev : List Event) :
    each f (x :: xs) s ev = each f xs (f s x).items (ev ++ (f s x).events) := by
  rw [each]
  simp only [h]

/-- `for item in xs: self.add(item)` where no `xs` element was removed earlier in this call -/
theorem each_add (xs : List Item) : ∀ (s0 s : List Item) (ev : List Event), Loop s0 s ev →
    (∀ x ∈ xs, x ∈ s0 → x ∈ s) →
    let r := each add xs s ev
    r.ret = .none ∧ Loop s0 r.items r.events ∧ (∀ y, y ∈ r.items ↔ y ∈ s ∨ y ∈ xs) := by
  induction xs with
  | nil => intro s0 s ev h _; exact ⟨rfl, h, by simp [each]⟩
  | cons x xs ih =>
    intro s0 s ev h hx
    obtain ⟨h1, h2, h3⟩ := ih s0 _ _ (loop_add h x (hx x (List.mem_cons_self ..)))
      fun y hy hy0 => mem_add_items.2 (Or.inl (hx y (List.mem_cons_of_mem _ hy) hy0))
    rw [each_cons (add_ret s x)]
    refine ⟨h1, h2, fun y => ?_⟩
    rw [h3, mem_add_items, List.mem_cons, or_assoc]

/-- `for item in xs: self.discard(item)` where no `xs` element was added earlier in this call -/
theorem each_discard (xs : List Item) : ∀ (s0 s : List Item) (ev : List Event), Loop s0 s ev →
    (∀ x ∈ xs, x ∈ s → x ∈ s0) →
    let r := each discard xs s ev
    r.ret = .none ∧ Loop s0 r.items r.events ∧ (∀ y, y ∈ r.items ↔ y ∈ s ∧ y ∉ xs) := by
  induction xs with
  | nil => intro s0 s ev h _; exact ⟨rfl, h, by simp [each]⟩
  | cons x xs ih =>
    intro s0 s ev h hx
    obtain ⟨h1, h2, h3⟩ := ih s0 _ _ (loop_discard h x (hx x (List.mem_cons_self ..)))
      fun y hy hyi => hx y (List.mem_cons_of_mem _ hy) ((mem_discard_items h.nodup).1 hyi).1
    rw [each_cons (discard_ret s x)]
    refine ⟨h1, h2, fun y => ?_⟩
    rw [h3, mem_discard_items h.nodup, List.mem_cons, not_or, and_assoc]

theorem each_remove_eq_discard (xs : List Item) : ∀ (s : List Item) (ev : List Event), xs.Nodup →
    (∀ x ∈ xs, x ∈ s) → each remove xs s ev = each discard xs s ev := by
  induction xs with
  | nil => intro s ev _ _; rfl
  | cons x xs ih =>
    intro s ev hn hx
    have hxs := hx x (List.mem_cons_self ..)
    have ⟨hnx, hn'⟩ := List.nodup_cons.1 hn
    have hr : (remove s x).ret = .none := remove_of_mem hxs ▸ discard_ret s x
    rw [each_cons hr, each_cons (discard_ret s x), remove_of_mem hxs]
    refine ih _ _ hn' fun y hy => ?_
    rw [discard_of_mem hxs]
    exact (List.mem_erase_of_ne fun (hyx : y = x) => hnx (hyx ▸ hy)).2 (hx y (List.mem_cons_of_mem _ hy))

/-- `for item in xs: self.remove(item)` when every element is present and listed once -/
theorem each_remove (xs : List Item) (s0 s : List Item) (ev : List Event) (hl : Loop s0 s ev)
    (hn : xs.Nodup) (hx : ∀ x ∈ xs, x ∈ s ∧ x ∈ s0) :
    let r := each remove xs s ev
    r.ret = .none ∧ Loop s0 r.items r.events ∧ (∀ y, y ∈ r.items ↔ y ∈ s ∧ y ∉ xs) := by
  rw [each_remove_eq_discard xs s ev hn fun x hm => (hx x hm).1]
  exact each_discard xs s0 s ev hl fun x hm _ => (hx x hm).2

theorem wantHave_loop {s : List Item} (want : List Item) (hs : s.Nodup) :
    let r := wantHave s want
    r.ret = .none ∧ Loop s r.items r.events ∧ (∀ y, y ∈ r.items ↔ y ∈ want) := by
  obtain ⟨r1, l1, m1⟩ := each_remove (sDiff s want) s s [] (loop_start hs) (hs.filter _) fun x hx =>
    ⟨(mem_sDiff.1 hx).1, (mem_sDiff.1 hx).1⟩
  obtain ⟨r2, l2, m2⟩ := each_add (sDiff want s) s _ _ l1
    fun x hx hx0 => absurd hx0 (mem_sDiff.1 hx).2
  unfold wantHave
  simp only [r1]
  refine ⟨r2, l2, fun y => ?_⟩
  rw [m2, m1, mem_sDiff, mem_sDiff]
  -- a member of `s` stays iff it is wanted; a non-member comes in iff it is wanted
  by_cases hy : y ∈ s
  · exact ⟨fun h => h.elim (fun h1 => Decidable.byContradiction fun hw => h1.2 ⟨hy, hw⟩) And.left,
      fun hw => Or.inl ⟨hy, fun h1 => h1.2 hw⟩⟩
  · exact ⟨fun h => h.elim (fun h1 => absurd h1.1 hy) And.left, fun hw => Or.inr ⟨hw, hy⟩⟩

theorem wantHave_spec {s want : List Item} (hs : s.Nodup) (hw : want.Nodup) :
    let r := wantHave s want
    r.ret = .none ∧ Loop s r.items r.events ∧ (∀ y, y ∈ r.items ↔ y ∈ want) :=
  wantHave_loop want hs

theorem exact_of_loop {s : List Item} {r : Res} (h : Loop s r.items r.events) : ExactEvents s r :=
  { h with }

end SetI
end SaVerif.PySeq
