import SaVerif.Lemmas.PoolFaultP
/-! "No stale hand-out": what `get_connection` / the checkout loop guarantee about the
record they deliver, proved together with the preservation of `Inv` by `checkout`
(that the record in flight exists is its `PInv` half; that it passes the staleness tests needs
the `GR` half); then `Inv` along `exec` and `run` from `init`. -/
namespace SaVerif.PoolFault

theorem stale_eq_false {st : St} {x : Rec} :
    stale st x = false ↔ ¬ x.start < st.invTime ∧ ¬ x.start < x.softInv := by
  rw [stale, Bool.or_eq_false_iff, decide_eq_false_iff_not, decide_eq_false_iff_not]

/-- the age test of `get_connection` (`recycle`) is not part of `stale` -/
def Good (st : St) (r cn : Nat) : Prop :=
  connOf st.recs r = some cn ∧ stale st (getRec st r) = false

theorem Good.intro {st : St} {r cn : Nat} (hc : connOf st.recs r = some cn)
    (hs : stale st (getRec st r) = false) : Good st r cn := ⟨hc, hs⟩

theorem Good.conn {st : St} {r cn : Nat} (h : Good st r cn) : connOf st.recs r = some cn := h.1

theorem Good.notStale {st : St} {r cn : Nat} (h : Good st r cn) : stale st (getRec st r) = false := h.2

theorem Good.of_eq {st st' : St} {r cn : Nat} (h : Good st r cn) (h1 : getRec st' r = getRec st r)
    (h2 : st'.invTime = st.invTime) : Good st' r cn := by
  refine .intro (by rw [← getRec_conn, h1, getRec_conn]; exact h.conn) ?_
  rw [h1, stale_eq_false, h2, ← stale_eq_false]
  exact h.notStale

theorem getRec_connectPre (st : St) (r : Nat) (h : r < st.recs.length) :
    getRec (connectPre st r) r = { getRec st r with conn := none, start := st.clock } :=
  getRec_setRec_self (tickSt st) r _ h

theorem getRec_connectOk (st : St) (r : Nat) (h : r < st.recs.length) :
    getRec (connectOk st r) r = { getRec st r with conn := some st.conns.length, fresh := true } :=
  getRec_setRec_self { st with conns := st.conns ++ [true] } r _ h

theorem connect_good {st : St} {r : Nat} (h : GR st) (hr : r < st.recs.length)
    (hok : (connect st r).2 = true) : ∃ cn, Good (connect st r).1 r cn := by
  unfold connect at hok ⊢
  split
  · rename_i hf; simp [hf] at hok
  · have hr1 : r < (dropFault (connectPre st r)).recs.length :=
      Nat.lt_of_lt_of_eq hr (setRec_length (tickSt st) r _).symm
    refine ⟨(dropFault (connectPre st r)).conns.length, .intro (connOf_set_self _ hr1) ?_⟩
    have e : getRec (dropFault (connectPre st r)) r = _ := getRec_connectPre st r hr
    rw [getRec_connectOk _ r hr1, e, stale_eq_false]
    -- the record is stamped with `st.clock`; `invTime` and its `softInv` are older (`TInv`)
    show ¬ st.clock < st.invTime ∧ ¬ st.clock < (getRec st r).softInv
    have ht := (h.t.getRec r).2
    have hi := h.t.inv
    omega

theorem closeRec_GR' {st : St} (r : Nat) (h : GR st) : GR (closeRec st r) :=
  (closeRec_keep r st).gr h

theorem getConnection_good {c : Cfg} {st : St} {r : Nat} (h : GR st) (hr : r < st.recs.length) :
    (getConnection c st r).2 = true → ∃ cn, Good (getConnection c st r).1 r cn := by
  have reconnect : ∀ {s : St}, RecKeep r st s →
      (connect (closeRec s r) r).2 = true → ∃ cn, Good (connect (closeRec s r) r).1 r cn :=
    fun hs => connect_good ((hs.trans (closeRec_keep r _)).gr h) ((hs.trans (closeRec_keep r _)).frame.lt hr)
  unfold getConnection
  split
  · exact connect_good h hr
  · rename_i cn hcn
    split
    · split
      · exact reconnect (tickSt_keep r st)
      · rename_i h2
        exact fun _ => ⟨cn, .intro hcn (Bool.eq_false_iff.2 fun e => h2 (.inr e))⟩
    · split
      · exact reconnect (.refl r st)
      · rename_i h2
        exact fun _ => ⟨cn, .intro hcn (Bool.eq_false_iff.2 h2)⟩

theorem Good.setRec {st : St} {r cn : Nat} (h : Good st r cn) (hr : r < st.recs.length) (x : Rec)
    (hc : x.conn = (getRec st r).conn) (h1 : x.start = (getRec st r).start)
    (h2 : x.softInv = (getRec st r).softInv) : Good (setRec st r x) r cn := by
  refine .intro ((connOf_set_same hc r).trans h.conn) ?_
  rw [getRec_setRec_self _ _ _ hr, stale_eq_false, h1, h2]
  exact stale_eq_false.1 h.notStale

theorem checkoutLoop_inv (c : Cfg) (r n : Nat) (st : St) (hi : Inv c none st)
    (hu : inUseOf st.recs r = true) (hgood : ∃ cn, Good st r cn) :
    Inv c none (checkoutLoop c r n st).1 ∧
    ∀ conn, (checkoutLoop c r n st).2 = .ok conn →
      ∃ cn, conn = some cn ∧ Good (checkoutLoop c r n st).1 r cn := by
  let P (s : St) : Prop := Inv c none s ∧ inUseOf s.recs r = true
  have keep : ∀ {s s' : St}, RecKeep r s s' → P s → P s' := fun hs h =>
    ⟨h.1.keep hs, (hs.frame.inUse r).trans h.2⟩
  have hre : ∀ s ev, P s → P (getConnection c (afterDisconnect s r ev) r).1 := fun s ev h =>
    have h1 := keep (afterDisconnect_keep r ev s) h
    ⟨h1.1.recStep (getConnection_step c r _) (inUseOf_lt h1.2) (.inUse h1.2),
      ((getConnection_step c r _).frame.inUse r).trans h1.2⟩
  have := checkoutLoop_rule (c := c) (r := r) (P := fun s => P s ∧ ∃ cn, Good s r cn)
    (Q := Inv c none)
    -- the `rfl`s: clearing `fresh` leaves `inUse`, `conn`, `start`, `softInv` of the record as they were
    (hfresh := fun s h => ⟨keep (setField_keep r s _ rfl rfl rfl rfl) h.1,
      h.2.imp fun _ hgd => hgd.setRec (inUseOf_lt h.1.2) _ rfl rfl rfl⟩)
    (hdrop := fun s h => ⟨keep (dropFault_keep r s) h.1, h.2.imp fun _ hgd => hgd.of_eq rfl rfl⟩)
    (hre := fun s ev h hok => ⟨hre s ev h.1,
      getConnection_good (keep (afterDisconnect_keep r ev s) h.1).1.g
        (inUseOf_lt (keep (afterDisconnect_keep r ev s) h.1).2) hok⟩)
    (hrefail := fun s ev h => checkinFailed_inv_inUse (hre s ev h.1).1 (hre s ev h.1).2)
    (hfail := fun s h => checkinFailed_inv_inUse h.1.1 h.1.2) n st ⟨⟨hi, hu⟩, hgood⟩
  rcases this with ⟨⟨h1, cn, hgd⟩, h2⟩ | ⟨h1, h2⟩
  · refine ⟨h1.1, fun conn hres => ⟨cn, ?_, hgd⟩⟩
    rw [h2] at hres
    cases hres
    exact hgd.conn
  · exact ⟨h1, fun conn hres => absurd hres (h2 conn)⟩

theorem checkoutFairy_inv {c : Cfg} {st : St} {r : Nat} (hi : Inv c (some r) st)
    (hgood : ∃ cn, Good st r cn) :
    Inv c none (checkoutFairy c st r).1 ∧
    ∀ conn, (checkoutFairy c st r).2 = .ok conn →
      ∃ cn, conn = some cn ∧ Good (checkoutFairy c st r).1 r cn := by
  have ⟨h1, hu1⟩ := markInUse_inv hi
  have gm : ∃ cn, Good (markInUse st r) r cn :=
    hgood.imp fun _ h => h.setRec (hi.p.flOk r rfl).1 _ rfl rfl rfl
  unfold checkoutFairy
  split
  · exact ⟨h1, fun conn hres => gm.imp fun cn h => ⟨by cases hres; exact h.conn, h⟩⟩
  · exact checkoutLoop_inv c r 2 _ h1 hu1 gm

theorem checkout_inv {c : Cfg} {st : St} (hi : Inv c none st) :
    Inv c none (checkout c st).1 ∧
    ∀ h r cn, (checkout c st).2 = CoRes.ok h r cn → Good (checkout c st).1 r cn ∧
      (checkout c st).1.fairies[h]? = some (some { rid := r, conn := some cn }) := by
  have ⟨hok, herr⟩ := doGet_inv hi
  unfold checkout
  split
  · rename_i he; exact ⟨herr (fun r hr => by rw [he] at hr; cases hr), nofun⟩
  · rename_i he; exact ⟨herr (fun r hr => by rw [he] at hr; cases hr), nofun⟩
  · rename_i r he
    have i1 := hok r he
    have hv := (i1.p.flOk r rfl).1
    have i2 := i1.recStep (getConnection_step c r _) hv .flight
    split
    · rename_i hcn
      obtain ⟨i3, h3⟩ := checkoutFairy_inv i2 (getConnection_good i1.g hv hcn)
      generalize checkoutFairy c _ r = cf at i3 h3
      obtain ⟨st3, res⟩ := cf
      cases res with
      | ok conn =>
        obtain ⟨cn, rfl, hgd⟩ := h3 conn rfl
        refine ⟨addFairy_inv cn i3 (connOf_some_lt hgd.conn), ?_⟩
        intro h r' cn' hco
        cases hco
        exact ⟨hgd.of_eq rfl rfl, by simp [finishCheckout, addFairy]⟩
      | connectError => exact ⟨i3, nofun⟩
      | checkoutError => exact ⟨i3, nofun⟩
      | exhausted => exact ⟨i3, nofun⟩
    · exact ⟨checkinFailed_inv_flight i2, nofun⟩

theorem checkout_ok_spec {c : Cfg} {st : St} {h r cn : Nat} (hg : GR st) (hp : PInv c none st)
    (hco : (checkout c st).2 = CoRes.ok h r cn) :
    Good (checkout c st).1 r cn ∧
    (checkout c st).1.fairies[h]? = some (some { rid := r, conn := some cn }) :=
  (checkout_inv ⟨hg, hp⟩).2 h r cn hco

theorem exec_inv {c : Cfg} {st : St} (op : Op) (hi : Inv c none st) : Inv c none (exec c st op).1 := by
  cases op with
  | co => exact (checkout_inv hi).1
  | wait n =>
    -- only the clock moves: `RecKeep r` for any `r`
    exact hi.keep (r := 0) {
      frame := .of_fields rfl rfl rfl rfl
      gr := fun g => g.congr rfl rfl rfl (Nat.le_add_right ..)
      conn := fun _ => id }
  | ci k | drop k =>
    simp only [exec]; split
    · exact hi
    · exact release_inv _ (finalize_inv _ _ hi)
  | inv k =>
    simp only [exec]; split
    · exact hi
    · exact hardInvalidate_inv k _ hi
  | soft k =>
    simp only [exec]; split
    · exact hi
    · split
      · exact hi
      · exact hi.keep (invalidate_keep _ true st)
  | pinv k =>
    simp only [exec]; split
    · exact hi
    · -- `bumpInvTime` touches no record: `RecKeep r` for any `r`
      exact hardInvalidate_inv k _ (hi.keep (bumpInvTime_keep 0 _ st))

theorem inv_init (c : Cfg) (plan : List Nat) : Inv c none (init c plan) := by
  have hn : ∀ {r cn}, connOf (init c plan).recs r ≠ some cn :=
    fun h => Nat.not_lt_zero _ (connOf_some_lt h)
  have he : ∀ {α} {i : Nat} {x : α}, ([] : List α)[i]? ≠ some x :=
    fun h => nomatch List.getElem?_nil.symm.trans h
  exact {
    g := {
      r := ⟨fun _ _ h => absurd h hn, fun _ _ _ h => absurd h hn⟩
      o := fun _ h => absurd h he
      t := ⟨Nat.zero_lt_one, nofun⟩ }
    p := {
      acct := by show -(c.size : Int) + c.size = 0; exact Int.add_left_neg _
      qValid := nofun
      qIdle := nofun
      qNodup := .nil
      flOk := nofun
      liveConn := fun _ _ h => absurd h hn
      fValid := fun _ _ h => absurd h he
      qLe := fun _ => Nat.zero_le _ } }

theorem run_fst_cons (c : Cfg) (st : St) (op : Op) (ops : List Op) :
    (run c st (op :: ops)).1 = (run c (exec c st op).1 ops).1 := by
  simp [run]

theorem inv_run (c : Cfg) : ∀ (ops : List Op) (st : St), Inv c none st → Inv c none (run c st ops).1 := by
  intro ops
  induction ops with
  | nil => intro st h; simpa [run] using h
  | cons op ops ih =>
    intro st h
    rw [run_fst_cons]
    exact ih _ (exec_inv op h)

end SaVerif.PoolFault
