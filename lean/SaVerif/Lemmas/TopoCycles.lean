import SaVerif.Model.Topo
/-! Cycles of a dependency list and the `find_cycles` model.  `Step` lists what one iteration of its
`while stack:` loop can do, in three rules; every property of the search (here soundness: every
reported node lies on a cycle) is checked against the three rules, not against the model's loops. -/
namespace SaVerif.Topo

inductive Reach (ts : List Edge) : Node → Node → Prop
  | refl (a : Node) : Reach ts a a
  | tail {a b c : Node} : Reach ts a b → (b, c) ∈ ts → Reach ts a c

theorem Reach.trans {ts : List Edge} {a b c : Node} (h1 : Reach ts a b) (h2 : Reach ts b c) :
    Reach ts a c := by
  induction h2 with
  | refl => exact h1
  | tail _ e ih => exact .tail ih e

def OnCycle (ts : List Edge) (x : Node) : Prop :=
  ∃ y, (x, y) ∈ ts ∧ Reach ts y x

theorem Reach.head {ts : List Edge} {a b c : Node} (e : (a, b) ∈ ts) (h : Reach ts b c) :
    Reach ts a c :=
  Reach.trans (.tail (.refl a) e) h

/-- Pigeonhole: walking up from parent to parent gives ever longer duplicate-free lists of
    members, each reached from the head, until the next parent is already in the list. -/
theorem closed_set_has_cycle {ts : List Edge} {S : List Node} (hne : S ≠ [])
    (hS : ∀ n ∈ S, ∃ p ∈ S, (p, n) ∈ ts) : ∃ x ∈ S, OnCycle ts x := by
  have walk : ∀ k : Nat, (∃ x ∈ S, OnCycle ts x) ∨ ∃ (v : Node) (t : List Node),
      t.length = k ∧ (v :: t).Nodup ∧ ∀ y ∈ v :: t, y ∈ S ∧ Reach ts v y := by
    intro k
    induction k with
    | zero =>
      obtain ⟨x, hx⟩ := List.exists_mem_of_ne_nil S hne
      refine .inr ⟨x, [], rfl, List.nodup_cons.2 ⟨List.not_mem_nil, .nil⟩, fun y hy => ?_⟩
      rw [List.mem_singleton.1 hy]
      exact ⟨hx, .refl x⟩
    | succ k ih =>
      rcases ih with hc | ⟨v, t, hlen, hnd, hall⟩
      · exact .inl hc
      · obtain ⟨p, hpS, hpv⟩ := hS v (hall v List.mem_cons_self).1
        by_cases hpw : p ∈ v :: t
        · exact .inl ⟨p, hpS, v, hpv, (hall p hpw).2⟩
        · refine .inr ⟨p, v :: t, congrArg (· + 1) hlen, List.nodup_cons.2 ⟨hpw, hnd⟩,
            fun y hy => ?_⟩
          rcases List.mem_cons.1 hy with rfl | hy
          · exact ⟨hpS, .refl _⟩
          · exact ⟨(hall y hy).1, (hall y hy).2.head hpv⟩
  rcases walk S.length with hc | ⟨v, t, hlen, hnd, hall⟩
  · exact hc
  · have := hnd.length_le_of_subset fun y hy => (hall y hy).1
    rw [List.length_cons, hlen] at this
    exact absurd this (Nat.not_succ_le_self _)

theorem mem_childrenOf {ts : List Edge} {p c : Node} : c ∈ childrenOf ts p ↔ (p, c) ∈ ts := by
  unfold childrenOf
  simp only [List.mem_eraseDups, List.mem_map, List.mem_filter, beq_iff_eq]
  constructor
  · rintro ⟨_, ⟨h, rfl⟩, rfl⟩
    exact h
  · intro h
    exact ⟨(p, c), ⟨h, rfl⟩, rfl⟩

theorem mem_cycSlice_self :
    ∀ (stack : List Node) (c : Node), c ∈ stack → c ∈ cycSlice stack c := by
  intro stack
  induction stack with
  | nil => intro c h; cases h
  | cons x xs ih =>
    intro c h
    rw [cycSlice]
    split
    · rename_i hxc
      exact List.mem_singleton.2 (beq_iff_eq.1 hxc).symm
    · rename_i hxc
      exact List.mem_cons_of_mem _
        (ih c ((List.mem_cons.1 h).resolve_left fun e => hxc (beq_iff_eq.2 e.symm)))

theorem cycSlice_subset :
    ∀ (stack : List Node) (c y : Node), y ∈ cycSlice stack c → y ∈ stack := by
  intro stack
  induction stack with
  | nil => intro c y hy; exact absurd hy List.not_mem_nil
  | cons x xs ih =>
    intro c y hy
    rw [cycSlice] at hy
    split at hy
    · exact List.mem_singleton.1 hy ▸ List.mem_cons_self
    · exact (List.mem_cons.1 hy).elim (· ▸ List.mem_cons_self)
        fun h => List.mem_cons_of_mem _ (ih c y h)

theorem cycSlice_above {R : Node → Node → Prop} {c : Node} : ∀ {stack : List Node},
    stack.Pairwise R → c ∈ stack → ∀ y ∈ cycSlice stack c, y = c ∨ R y c := by
  intro stack
  induction stack with
  | nil => intro _ hc; cases hc
  | cons x xs ih =>
    intro hp hc y hy
    rw [cycSlice] at hy
    rw [List.pairwise_cons] at hp
    split at hy
    · rename_i hxc
      exact .inl ((List.mem_singleton.1 hy).trans (beq_iff_eq.1 hxc))
    · rename_i hxc
      have hcx : c ∈ xs := (List.mem_cons.1 hc).resolve_left fun e => hxc (beq_iff_eq.2 e.symm)
      rcases List.mem_cons.1 hy with rfl | hy
      · exact .inr (hp.1 c hcx)
      · exact ih hp.2 hcx y hy

/-- the `if node in stack: ...` statement of the inner loop: the `st1` of `scanChildren` word for
    word, so that the cases of `fun_induction scanChildren` below speak of `mark c st` -/
def mark (c : Node) (st : DfsState) : DfsState :=
  if st.stack.contains c then
    { st with todo := st.todo.filter (fun t => !(cycSlice st.stack c).contains t),
              output := st.output ++ cycSlice st.stack c }
  else st

theorem mark_stack (c : Node) (st : DfsState) : (mark c st).stack = st.stack := by
  unfold mark; split <;> rfl

theorem mark_todo_sublist (c : Node) (st : DfsState) : (mark c st).todo.Sublist st.todo := by
  unfold mark
  split
  · exact List.filter_sublist
  · exact .refl _

theorem mem_mark_todo {c t : Node} {st : DfsState} :
    t ∈ (mark c st).todo ↔ t ∈ st.todo ∧ ¬ (c ∈ st.stack ∧ t ∈ cycSlice st.stack c) := by
  unfold mark
  split
  · rename_i h
    simp only [List.mem_filter, Bool.not_eq_true', List.contains_eq_mem, decide_eq_false_iff_not,
      List.contains_iff_mem.1 h, true_and]
  · rename_i h
    exact (and_iff_left fun h' => h (List.contains_iff_mem.2 h'.1)).symm

theorem mem_mark_output {c y : Node} {st : DfsState} :
    y ∈ (mark c st).output ↔ y ∈ st.output ∨ c ∈ st.stack ∧ y ∈ cycSlice st.stack c := by
  unfold mark
  split
  · rename_i h
    simp only [List.mem_append, List.contains_iff_mem.1 h, true_and]
  · rename_i h
    exact (or_iff_left fun h' => h (List.contains_iff_mem.2 h'.1)).symm

/-- One iteration of `while stack:`.  `mark` is a prefix of an iteration, not one of its own, so
    that every `Step` ends in a push or a pop and makes the loop's measure strictly smaller. -/
inductive Step (ts : List Edge) : DfsState → DfsState → Prop
  | mark {st st' : DfsState} {top c : Node} {rest : List Node} : st.stack = top :: rest →
      (top, c) ∈ ts → Step ts (mark c st) st' → Step ts st st'
  | push {st : DfsState} {top c : Node} {rest : List Node} : st.stack = top :: rest →
      (top, c) ∈ ts → c ∈ st.todo →
      Step ts st { st with stack := c :: st.stack, todo := st.todo.filter (· != c) }
  | pop {st : DfsState} {top : Node} {rest : List Node} : st.stack = top :: rest →
      (∀ c, (top, c) ∈ ts → c ∉ st.todo ∧ (c ∈ st.stack → c ∈ st.output)) →
      Step ts st { st with stack := rest }

/-- `hdone` speaks of the children already looked at; later marks do not undo it -/
theorem scanChildren_step {ts : List Edge} {top : Node} {rest : List Node} (cs : List Node)
    (st : DfsState) (hst : st.stack = top :: rest) (hcs : ∀ c ∈ cs, (top, c) ∈ ts)
    (hdone : ∀ c, (top, c) ∈ ts → c ∈ cs ∨ c ∉ st.todo ∧ (c ∈ st.stack → c ∈ st.output)) :
    Step ts st (if (scanChildren cs st).2 then (scanChildren cs st).1
      else { (scanChildren cs st).1 with stack := rest }) := by
  fun_induction scanChildren cs st with
  | case1 st =>
    exact .pop hst fun c hc => (hdone c hc).resolve_left List.not_mem_nil
  | case2 st c cs _ hct =>
    exact .mark hst (hcs c List.mem_cons_self)
      (.push ((mark_stack c st).trans hst) (hcs c List.mem_cons_self) (List.contains_iff_mem.1 hct))
  | case3 st c cs _ hct ih =>
    refine .mark hst (hcs c List.mem_cons_self) (ih ((mark_stack c st).trans hst)
      (fun d hd => hcs d (List.mem_cons_of_mem _ hd)) fun d hd => ?_)
    rcases hdone d hd with hm | ⟨h1, h2⟩
    · rcases List.mem_cons.1 hm with rfl | hm
      · refine .inr ⟨mt List.contains_iff_mem.2 hct, fun hs => ?_⟩
        have hs : d ∈ st.stack := mark_stack d st ▸ hs
        exact mem_mark_output.2 (.inr ⟨hs, mem_cycSlice_self _ _ hs⟩)
      · exact .inl hm
    · exact .inr ⟨fun hm => h1 (mem_mark_todo.1 hm).1,
        fun hs => mem_mark_output.2 (.inl (h2 (mark_stack c st ▸ hs)))⟩

theorem dfsLoop_nil (ts : List Edge) (fuel : Nat) {st : DfsState} (h : st.stack = []) :
    dfsLoop ts fuel st = st := by
  cases fuel with
  | zero => rfl
  | succ n => rw [dfsLoop, h]

theorem dfsLoop_cons (ts : List Edge) (n : Nat) {st : DfsState} {top : Node} {rest : List Node}
    (h : st.stack = top :: rest) :
    ∃ st', Step ts st st' ∧ dfsLoop ts (n + 1) st = dfsLoop ts n st' := by
  have := scanChildren_step (childrenOf ts top) st h (fun _ => mem_childrenOf.1)
    fun _ hc => .inl (mem_childrenOf.2 hc)
  refine ⟨_, this, ?_⟩
  simp only [dfsLoop, h]
  cases scanChildren (childrenOf ts top) st with
  | mk st' pushed => cases pushed <;> rfl

theorem dfsLoop_inv {ts : List Edge} {P : DfsState → Prop}
    (step : ∀ st st', Step ts st st' → P st → P st') :
    ∀ (fuel : Nat) (st : DfsState), P st → P (dfsLoop ts fuel st) := by
  intro fuel
  induction fuel with
  | zero => intro st h; exact h
  | succ n ih =>
    intro st h
    cases hs : st.stack with
    | nil => rw [dfsLoop_nil ts _ hs]; exact h
    | cons top rest =>
      obtain ⟨st', hst', e⟩ := dfsLoop_cons ts n hs
      rw [e]; exact ih _ (step st st' hst' h)

structure DfsInv (ts : List Edge) (st : DfsState) : Prop where
  chain : st.stack.Pairwise fun a b => Reach ts b a
  sound : ∀ x ∈ st.output, OnCycle ts x

theorem OnCycle.of_reach {ts : List Edge} {a b d : Node} (hab : Reach ts a b) (e : (b, d) ∈ ts)
    (hda : Reach ts d a) : OnCycle ts a := by
  induction hab generalizing d with
  | refl => exact ⟨d, e, hda⟩
  | tail _ e' ih => exact ih e' (hda.head e)

theorem reach_top {ts : List Edge} {top y : Node} {rest : List Node}
    (h : (top :: rest).Pairwise fun a b => Reach ts b a) (hy : y ∈ top :: rest) : Reach ts y top :=
  (List.mem_cons.1 hy).elim (· ▸ .refl _) (List.rel_of_pairwise_cons h)

/-- the slice closes a cycle through the edge `top → c`: `y →* top → c →* y` -/
theorem DfsInv.mark {ts : List Edge} {st : DfsState} {top c : Node} {rest : List Node}
    (h : DfsInv ts st) (hst : st.stack = top :: rest) (e : (top, c) ∈ ts) :
    DfsInv ts (mark c st) := by
  refine ⟨mark_stack c st ▸ h.chain, fun x hx => ?_⟩
  rcases mem_mark_output.1 hx with hx | ⟨hc, hx⟩
  · exact h.sound x hx
  · refine .of_reach (reach_top (hst ▸ h.chain) (hst ▸ cycSlice_subset _ c x hx)) e ?_
    exact (cycSlice_above h.chain hc x hx).elim (· ▸ .refl _) id

theorem DfsInv.step {ts : List Edge} {st st' : DfsState} (hs : Step ts st st') (h : DfsInv ts st) :
    DfsInv ts st' := by
  induction hs with
  | mark hst e _ ih => exact ih (h.mark hst e)
  | push hst e _ =>
    exact ⟨List.pairwise_cons.2
      ⟨fun y hy => (reach_top (hst ▸ h.chain) (hst ▸ hy)).tail e, h.chain⟩, h.sound⟩
  | pop hst _ => exact ⟨(List.pairwise_cons.1 (hst ▸ h.chain)).2, h.sound⟩

theorem findCyclesFrom_eq (ts : List Edge) (nodes : List Node) (start : Node) (out : List Node) :
    findCyclesFrom ts nodes start out =
      (dfsLoop ts (2 * nodes.length + 2) ⟨[start], nodes.filter (· != start), out⟩).output := rfl

theorem findCyclesFrom_sound {ts : List Edge} (nodes : List Node) (start : Node) (out : List Node)
    (h : ∀ x ∈ out, OnCycle ts x) : ∀ x ∈ findCyclesFrom ts nodes start out, OnCycle ts x := by
  rw [findCyclesFrom_eq]
  exact (dfsLoop_inv (fun _ _ => DfsInv.step) _ _ ⟨List.pairwise_singleton _ _, h⟩).sound

end SaVerif.Topo
