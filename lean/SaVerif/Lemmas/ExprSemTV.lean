import SaVerif.Model.ExprEval
/-!
Three-valued logic by finite checks over `TV = Option Bool`; on values, associativity of the operators
whose chains SQLAlchemy flattens (`evalArith_assoc`) and the table of comparison negations (`evalCmp_not`).
-/
namespace SaVerif.Expr

theorem not3_not3 (t : TV) : not3 (not3 t) = t := by
  rcases t with _ | _ | _ <;> rfl

theorem truth_ofTV (t : TV) : truth (ofTV t) = t := by
  rcases t with _ | _ | _ <;> rfl

theorem and3_assoc (a b c : TV) : and3 (and3 a b) c = and3 a (and3 b c) := by
  rcases a with _ | _ | _ <;> rcases b with _ | _ | _ <;> rcases c with _ | _ | _ <;> rfl

theorem or3_assoc (a b c : TV) : or3 (or3 a b) c = or3 a (or3 b c) := by
  rcases a with _ | _ | _ <;> rcases b with _ | _ | _ <;> rcases c with _ | _ | _ <;> rfl

theorem or3_comm (a b : TV) : or3 a b = or3 b a := by
  rcases a with _ | _ | _ <;> rcases b with _ | _ | _ <;> rfl

theorem or3_idem (a : TV) : or3 a a = a := by
  rcases a with _ | _ | _ <;> rfl

theorem or3_false_left (a : TV) : or3 (some false) a = a := by
  rcases a with _ | _ | _ <;> rfl

theorem or3_false_right (a : TV) : or3 a (some false) = a := by
  rcases a with _ | _ | _ <;> rfl

theorem or3_true_right (a : TV) : or3 a (some true) = some true := by
  rcases a with _ | _ | _ <;> rfl

theorem and3_true_right (a : TV) : and3 a (some true) = a := by
  rcases a with _ | _ | _ <;> rfl

theorem and3_false_right (a : TV) : and3 a (some false) = some false := by
  rcases a with _ | _ | _ <;> rfl

theorem or3_eq_true (a b : TV) : or3 a b = some true ↔ a = some true ∨ b = some true := by
  rcases a with _ | _ | _ <;> rcases b with _ | _ | _ <;> simp [or3]

theorem or3_eq_false (a b : TV) : or3 a b = some false ↔ a = some false ∧ b = some false := by
  rcases a with _ | _ | _ <;> rcases b with _ | _ | _ <;> simp [or3]

theorem tvOf_not (o : Option Ordering) (f g : Ordering → Bool) (h : ∀ x, g x = !f x) :
    tvOf o g = not3 (tvOf o f) := by
  cases o with
  | none => rfl
  | some x => simp [tvOf, not3, h]

theorem evalArith_assoc {op : Op}
    (h : op = .add ∨ op = .mul ∨ op = .concat_op ∨ op = .and_ ∨ op = .or_) (a b c : Val) :
    evalArith op (evalArith op a b) c = evalArith op a (evalArith op b c) := by
  rcases h with rfl | rfl | rfl | rfl | rfl
  · cases a <;> cases b <;> cases c <;> first | rfl | exact congrArg Val.int (Int.add_assoc _ _ _)
  · cases a <;> cases b <;> cases c <;> first | rfl | exact congrArg Val.int (Int.mul_assoc _ _ _)
  · cases a <;> cases b <;> cases c <;> first | rfl | exact congrArg Val.str String.append_assoc
  · show ofTV (and3 (truth (ofTV _)) _) = ofTV (and3 _ (truth (ofTV _)))
    rw [truth_ofTV, truth_ofTV, and3_assoc]
  · show ofTV (or3 (truth (ofTV _)) _) = ofTV (or3 _ (truth (ofTV _)))
    rw [truth_ofTV, truth_ofTV, or3_assoc]

def cmpNegations : List (Op × Op) :=
  [(.eq, .ne), (.ne, .eq), (.lt, .ge), (.ge, .lt), (.le, .gt), (.gt, .le), (.is_, .is_not),
   (.is_not, .is_), (.is_distinct_from, .is_not_distinct_from),
   (.is_not_distinct_from, .is_distinct_from)]

theorem evalCmp_not {op n : Op} (h : (op, n) ∈ cmpNegations) (a b : Val) :
    evalCmp n a b = not3 (evalCmp op a b) := by
  simp only [cmpNegations, List.mem_cons, Prod.mk.injEq, List.mem_nil_iff, or_false] at h
  rcases h with ⟨rfl, rfl⟩ | ⟨rfl, rfl⟩ | ⟨rfl, rfl⟩ | ⟨rfl, rfl⟩ | ⟨rfl, rfl⟩ | ⟨rfl, rfl⟩ |
    ⟨rfl, rfl⟩ | ⟨rfl, rfl⟩ | ⟨rfl, rfl⟩ | ⟨rfl, rfl⟩
  iterate 6 exact tvOf_not _ _ _ (fun x => by cases x <;> rfl)
  all_goals simp [evalCmp, not3]

end SaVerif.Expr
