import SaVerif.Model.Ddl
import SaVerif.Lemmas.Lookup
import SaVerif.Props.C19
/-! M-DDL's `sort_tables_and_constraints`: the cycle-breaking step `breakEdge` by membership, the
loop invariant `EdgeInv`, and what a successful call guarantees (`SortSpec`). -/
namespace SaVerif.Ddl
open SaVerif.Topo

theorem dedup_cons {α} [BEq α] (x : α) (xs : List α) :
    dedup (x :: xs) = if xs.contains x then dedup xs else x :: dedup xs := rfl

theorem mem_dedup {α} [BEq α] [LawfulBEq α] {a : α} {l : List α} : a ∈ dedup l ↔ a ∈ l := by
  induction l with
  | nil => exact .rfl
  | cons x xs ih =>
    rw [dedup_cons]
    split
    · rename_i h
      rw [ih, List.mem_cons]
      exact ⟨.inr, fun h' => h'.elim (fun e => e ▸ List.contains_iff_mem.1 h) id⟩
    · rw [List.mem_cons, List.mem_cons, ih]

theorem nodup_dedup {α} [BEq α] [LawfulBEq α] (l : List α) : (dedup l).Nodup := by
  induction l with
  | nil => exact .nil
  | cons x xs ih =>
    rw [dedup_cons]
    split
    · exact ih
    · rename_i h
      exact List.nodup_cons.2 ⟨fun hm => h (List.contains_iff_mem.2 (mem_dedup.1 hm)), ih⟩

theorem lookup_some {tables : List Tbl} {i : Nat} {t : Tbl} (h : lookup tables i = some t) :
    t ∈ tables ∧ t.id = i := by
  unfold lookup at h
  have h2 := List.find?_some h
  exact ⟨List.mem_of_find?_eq_some h, beq_iff_eq.1 h2⟩

theorem lookup_of_mem {tables : List Tbl} (hn : (ids tables).Nodup) {t : Tbl} (ht : t ∈ tables) :
    lookup tables t.id = some t :=
  (Lookup.find?_only ht fun _ hb hp => Lookup.eq_of_key_eq hn ht hb (eq_of_beq hp)).trans
    (if_pos (beq_self_eq_true _))

theorem mem_ids {tables : List Tbl} {i : Nat} : i ∈ ids tables ↔ ∃ t ∈ tables, t.id = i :=
  List.mem_map

theorem deferred_fltCreate (f : Fkc) : deferred fltCreate f = f.useAlter :=
  Bool.or_false _

theorem deferred_fltDrop (sa : Bool) (f : Fkc) : deferred (fltDrop sa) f = f.useAlter := by
  have : filteredTrue (fltDrop sa) f = false := by
    unfold filteredTrue fltDrop
    dsimp only
    split <;> rfl
  rw [deferred, this, Bool.or_false]

theorem removable_fltDrop_true (f : Fkc) : removable (fltDrop true) f = f.named := by
  obtain ⟨_, _, _, named⟩ := f
  cases named <;> rfl

theorem mem_remaining0 {flt : Filter} {tables : List Tbl} {r : FkRef} :
    r ∈ remaining0 flt tables ↔ ∃ t ∈ tables, t.id = r.1 ∧ r.2 ∈ t.fkcs ∧ deferred flt r.2 = true := by
  unfold remaining0
  simp only [List.mem_flatMap, List.mem_map, List.mem_filter]
  constructor
  · rintro ⟨t, ht, f, ⟨hf, hd⟩, rfl⟩
    exact ⟨t, ht, rfl, hf, hd⟩
  · rintro ⟨t, ht, hi, hf, hd⟩
    exact ⟨t, ht, r.2, ⟨hf, hd⟩, by rw [hi]⟩

theorem mem_mutable0 {flt : Filter} {tables : List Tbl} {e : Edge} :
    e ∈ mutable0 flt tables ↔
      ∃ t ∈ tables, ∃ f ∈ t.fkcs, deferred flt f = false ∧ f.ref ≠ t.id ∧ e = (f.ref, t.id) := by
  unfold mutable0
  simp only [List.mem_flatMap, List.mem_map, List.mem_filter, Bool.and_eq_true,
    Bool.not_eq_true', bne_iff_ne, ne_eq]
  constructor
  · rintro ⟨t, ht, f, ⟨hf, hd, hr⟩, rfl⟩
    exact ⟨t, ht, f, hf, hd, hr, rfl⟩
  · rintro ⟨t, ht, f, hf, hd, hr, rfl⟩
    exact ⟨t, ht, f, ⟨hf, hd, hr⟩, rfl⟩

theorem mem_fixedDeps {extraArg : List Edge} {tables : List Tbl} {e : Edge} :
    e ∈ fixedDeps extraArg tables ↔ e ∈ extraArg ∨ ∃ t ∈ tables, e.1 ∈ t.extra ∧ e.2 = t.id := by
  unfold fixedDeps
  simp only [List.mem_append, List.mem_flatMap, List.mem_map]
  constructor
  · rintro (h | ⟨t, ht, p, hp, rfl⟩)
    · exact Or.inl h
    · exact Or.inr ⟨t, ht, hp, rfl⟩
  · rintro (h | ⟨t, ht, hp, he⟩)
    · exact Or.inl h
    · exact Or.inr ⟨t, ht, e.1, hp, by rw [← he]⟩

theorem fixedDeps_nil {tables : List Tbl} (h : ∀ t ∈ tables, t.extra = []) :
    fixedDeps [] tables = [] := by
  unfold fixedDeps
  simp only [List.nil_append, List.flatMap_eq_nil_iff]
  intro t ht
  rw [h t ht]; rfl

theorem breakEdge_cases (flt : Filter) (tables : List Tbl) (cycles : List Nat)
    (st : List FkRef × List Edge) (e : Edge) :
    (breakEdge flt tables cycles st e = st ∧
      (e ∉ st.2 ∨ e.2 ∉ cycles ∨ lookup tables e.2 = none)) ∨
    ∃ t, lookup tables e.2 = some t ∧ e.2 ∈ cycles ∧
      (∀ x, x ∈ (breakEdge flt tables cycles st e).1 ↔
        x ∈ st.1 ∨ ∃ f, (f ∈ t.fkcs ∧ removable flt f = true) ∧ (e.2, f) = x) ∧
      (∀ d, d ∈ (breakEdge flt tables cycles st e).2 ↔
        d ∈ st.2 ∧ ∀ f, f ∈ t.fkcs ∧ removable flt f = true → f.ref ≠ e.2 → d ≠ (f.ref, e.2)) := by
  unfold breakEdge
  by_cases h1 : st.2.contains e = true
  · by_cases h2 : cycles.contains e.2 = true
    · rw [if_pos h1, if_pos h2]
      cases h3 : lookup tables e.2 with
      | none => exact .inl ⟨rfl, .inr (.inr rfl)⟩
      | some t =>
        refine .inr ⟨t, rfl, List.contains_iff_mem.1 h2, fun x => ?_, fun d => ?_⟩
        · simp only [List.mem_append, List.mem_map, List.mem_filter]
        · simp only [List.mem_filter, Bool.not_eq_true', List.any_eq_false, Bool.and_eq_true,
            bne_iff_ne, ne_eq, beq_iff_eq, not_and]
    · rw [if_pos h1, if_neg h2]
      exact .inl ⟨rfl, .inr (.inl (mt List.contains_iff_mem.2 h2))⟩
  · rw [if_neg h1]
    exact .inl ⟨rfl, .inl (mt List.contains_iff_mem.2 h1)⟩

theorem breakEdge_snd_sub {flt tables cycles} {st : List FkRef × List Edge} {e d : Edge}
    (h : d ∈ (breakEdge flt tables cycles st e).2) : d ∈ st.2 := by
  rcases breakEdge_cases flt tables cycles st e with ⟨h', _⟩ | ⟨t, _, _, _, hsnd⟩
  · rw [h'] at h; exact h
  · exact ((hsnd d).1 h).1

theorem breakEdge_fst_origin {flt tables cycles} {st : List FkRef × List Edge} {e : Edge} {x : FkRef}
    (h : x ∈ (breakEdge flt tables cycles st e).1) :
    x ∈ st.1 ∨ ∃ t ∈ tables, t.id = x.1 ∧ x.2 ∈ t.fkcs ∧ removable flt x.2 = true := by
  rcases breakEdge_cases flt tables cycles st e with ⟨h', _⟩ | ⟨t, hl, _, hfst, _⟩
  · rw [h'] at h; exact .inl h
  · rcases (hfst x).1 h with h | ⟨f, hf, rfl⟩
    · exact .inl h
    · exact .inr ⟨t, (lookup_some hl).1, (lookup_some hl).2, hf.1, hf.2⟩

theorem breakEdge_keep_noncycle {flt tables cycles} {st : List FkRef × List Edge} {e d : Edge}
    (hd : d ∈ st.2) (hc : d.2 ∉ cycles) : d ∈ (breakEdge flt tables cycles st e).2 := by
  rcases breakEdge_cases flt tables cycles st e with ⟨h', _⟩ | ⟨t, _, hcyc, _, hsnd⟩
  · rw [h']; exact hd
  · exact (hsnd d).2 ⟨hd, fun f _ _ he => hc (he ▸ hcyc)⟩

/-- the guard the DROP proof forces: on a cycle table, no constraint that stays inline
    shares its target with a constraint that is moved to the ALTER list -/
def NoShared (flt : Filter) (tables : List Tbl) (cycles : List Nat) : Prop :=
  ∀ t ∈ tables, t.id ∈ cycles → ∀ f ∈ t.fkcs, ∀ g ∈ t.fkcs,
    removable flt g = true → removable flt f = false → deferred flt f = false → g.ref ≠ f.ref

theorem noShared_create (tables : List Tbl) (cycles : List Nat) : NoShared fltCreate tables cycles := by
  intro t _ _ f _ g _ _ hf
  cases hf

structure EdgeInv (flt : Filter) (tables : List Tbl) (st : List FkRef × List Edge) : Prop where
  inlineEdge : ∀ t ∈ tables, ∀ f ∈ t.fkcs, (t.id, f) ∉ st.1 → f.ref ≠ t.id → (f.ref, t.id) ∈ st.2
  deferredIn : ∀ t ∈ tables, ∀ f ∈ t.fkcs, deferred flt f = true → (t.id, f) ∈ st.1

theorem edgeInv_init (flt : Filter) (tables : List Tbl) :
    EdgeInv flt tables (remaining0 flt tables, mutable0 flt tables) := by
  constructor
  · intro t ht f hf hnr hne
    have hd : deferred flt f = false :=
      Bool.eq_false_iff.2 fun h => hnr (mem_remaining0.2 ⟨t, ht, rfl, hf, h⟩)
    exact mem_mutable0.2 ⟨t, ht, f, hf, hd, hne, rfl⟩
  · intro t ht f hf hd
    exact mem_remaining0.2 ⟨t, ht, rfl, hf, hd⟩

theorem edgeInv_step {flt : Filter} {tables : List Tbl} {cycles : List Nat}
    (hn : (ids tables).Nodup) (hs : NoShared flt tables cycles)
    (st : List FkRef × List Edge) (e : Edge) (h : EdgeInv flt tables st) :
    EdgeInv flt tables (breakEdge flt tables cycles st e) := by
  rcases breakEdge_cases flt tables cycles st e with ⟨h', _⟩ | ⟨T, hl, hcyc, hfst, hsnd⟩
  · rw [h']; exact h
  · refine ⟨fun t ht f hf hnr hne => ?_, fun t ht f hf hd => (hfst _).2 (.inl (h.deferredIn t ht f hf hd))⟩
    have hnr' : (t.id, f) ∉ st.1 := fun hm => hnr ((hfst _).2 (.inl hm))
    refine (hsnd _).2 ⟨h.inlineEdge t ht f hf hnr' hne, fun g hg _ he => ?_⟩
    -- an edge that goes is an edge of the cycle table `T` itself, to the target of a removable `g`
    obtain ⟨href, hid⟩ := Prod.mk.inj he
    have htT : t = T := Option.some.inj ((lookup_of_mem hn ht).symm.trans (hid ▸ hl))
    subst htT
    cases hrf : removable flt f with
    | true => exact hnr ((hfst _).2 (.inr ⟨f, ⟨hf, hrf⟩, by rw [hid]⟩))
    | false =>
      have hdf : deferred flt f = false := Bool.eq_false_iff.2 fun hd => hnr' (h.deferredIn t ht f hf hd)
      exact hs t ht (hid ▸ hcyc) f hf g hg.1 hg.2 hrf hdf href.symm

/-- a `remaining` entry is a declared constraint that was deferred by the first loop or
    is removable (the only ones the cycle-breaking loop may move) -/
def RealRem (flt : Filter) (tables : List Tbl) (r : FkRef) : Prop :=
  ∃ t ∈ tables, t.id = r.1 ∧ r.2 ∈ t.fkcs ∧ (deferred flt r.2 = true ∨ removable flt r.2 = true)

structure SortSpec (flt : Filter) (extraArg : List Edge) (tables : List Tbl) (s : Sorted) : Prop where
  perm : s.order.Perm (ids tables)
  remNodup : s.remaining.Nodup
  remReal : ∀ r ∈ s.remaining, RealRem flt tables r
  deferredIn : ∀ t ∈ tables, ∀ f ∈ t.fkcs, deferred flt f = true → (t.id, f) ∈ s.remaining
  inlineOrdered : ∀ t ∈ tables, ∀ f ∈ t.fkcs, (t.id, f) ∉ s.remaining → f.ref ≠ t.id →
      f.ref ∈ ids tables → s.order.idxOf f.ref < s.order.idxOf t.id
  fixedOrdered : ∀ e ∈ fixedDeps extraArg tables, e.1 ∈ ids tables → e.2 ∈ ids tables →
      s.order.idxOf e.1 < s.order.idxOf e.2

/-- the loop state `st` is the initial one or the one after the cycle-breaking loop: either way it
    satisfies every invariant `P` of that loop -/
theorem sortTCWith_some {cyc : List Edge → List Nat} {flt : Filter} {extraArg : List Edge}
    {tables : List Tbl} {s : Sorted} (h : sortTCWith cyc flt extraArg tables = some s) :
    ∃ st : List FkRef × List Edge,
      (∀ P : List FkRef × List Edge → Prop, P (remaining0 flt tables, mutable0 flt tables) →
        (∀ st e, P st → P (breakEdge flt tables
          (cyc (fixedDeps extraArg tables ++ mutable0 flt tables)) st e)) → P st) ∧
      sort (fixedDeps extraArg tables ++ st.2) (ids tables) = some s.order ∧
      s.remaining = dedup st.1 := by
  unfold sortTCWith at h
  simp only at h
  split at h
  · rename_i cand hsort
    cases h
    exact ⟨_, fun P h0 _ => h0, hsort, rfl⟩
  · split at h
    · rename_i cand hsort
      cases h
      exact ⟨_, fun P h0 hstep => List.foldlRecOn _ _ h0 fun st h e _ => hstep st e h, hsort, rfl⟩
    · cases h

/-- every table exactly once, whatever the graph -/
theorem sortTCWith_perm {cyc : List Edge → List Nat} {flt : Filter} {extraArg : List Edge}
    {tables : List Tbl} {s : Sorted} (h : sortTCWith cyc flt extraArg tables = some s) :
    s.order.Perm (ids tables) := by
  obtain ⟨st, _, hsort, _⟩ := sortTCWith_some h
  exact Props.C19.sort_perm _ _ _ hsort

theorem sortTCWith_fixedOrdered {cyc : List Edge → List Nat} {flt : Filter} {extraArg : List Edge}
    {tables : List Tbl} {s : Sorted} (h : sortTCWith cyc flt extraArg tables = some s) {e : Edge}
    (he : e ∈ fixedDeps extraArg tables) (h1 : e.1 ∈ ids tables) (h2 : e.2 ∈ ids tables) :
    s.order.idxOf e.1 < s.order.idxOf e.2 := by
  obtain ⟨st, _, hsort, _⟩ := sortTCWith_some h
  exact Props.C19.sort_respects _ _ _ e.1 e.2 hsort (List.mem_append_left _ he) h1 h2

theorem sortTCWith_spec {cyc : List Edge → List Nat} {flt : Filter} {extraArg : List Edge}
    {tables : List Tbl} {s : Sorted}
    (hn : (ids tables).Nodup)
    (hs : NoShared flt tables (cyc (fixedDeps extraArg tables ++ mutable0 flt tables)))
    (h : sortTCWith cyc flt extraArg tables = some s) : SortSpec flt extraArg tables s := by
  obtain ⟨st, hinv, hsort, hrem⟩ := sortTCWith_some h
  have hE : EdgeInv flt tables st :=
    hinv _ (edgeInv_init flt tables) fun st e => edgeInv_step hn hs st e
  have hR : ∀ r ∈ st.1, RealRem flt tables r := by
    refine hinv (fun st => ∀ r ∈ st.1, RealRem flt tables r) (fun r hr => ?_) fun st e hP r hr => ?_
    · obtain ⟨t, ht, hid, hf, hd⟩ := mem_remaining0.1 hr
      exact ⟨t, ht, hid, hf, .inl hd⟩
    · rcases breakEdge_fst_origin hr with h1 | ⟨t, ht, hid, hf, hrm⟩
      · exact hP r h1
      · exact ⟨t, ht, hid, hf, .inr hrm⟩
  have hmem : ∀ {r : FkRef}, r ∈ s.remaining ↔ r ∈ st.1 := hrem ▸ mem_dedup
  exact {
    perm := sortTCWith_perm h
    remNodup := hrem ▸ nodup_dedup _
    remReal := fun r hr => hR r (hmem.1 hr)
    deferredIn := fun t ht f hf hd => hmem.2 (hE.deferredIn t ht f hf hd)
    inlineOrdered := fun t ht f hf hnr hne hin =>
      Props.C19.sort_respects _ _ _ _ _ hsort
        (List.mem_append_right _ (hE.inlineEdge t ht f hf (mt hmem.2 hnr) hne)) hin (mem_ids.2 ⟨t, ht, rfl⟩)
    fixedOrdered := fun e he => sortTCWith_fixedOrdered h he }

theorem sortTC_nil (flt : Filter) (extraArg : List Edge) : sortTC flt extraArg [] = some ⟨[], []⟩ :=
  rfl

theorem foldl_breakEdge_snd_sub {flt tables cycles} (l : List Edge) (st : List FkRef × List Edge) :
    ∀ d ∈ (l.foldl (breakEdge flt tables cycles) st).2, d ∈ st.2 :=
  List.foldlRecOn (motive := fun st' : List FkRef × List Edge => ∀ d ∈ st'.2, d ∈ st.2) l _ (fun _ hd => hd)
    fun _ hP _ _ d hd => hP d (breakEdge_snd_sub hd)

theorem breakEdge_removes_self {tables : List Tbl} {cycles : List Nat}
    (hn : (ids tables).Nodup) (st : List FkRef × List Edge)
    {t : Tbl} (ht : t ∈ tables) {f : Fkc} (hf : f ∈ t.fkcs) (hne : f.ref ≠ t.id)
    (hc : t.id ∈ cycles) :
    (f.ref, t.id) ∉ (breakEdge fltCreate tables cycles st (f.ref, t.id)).2 := by
  rcases breakEdge_cases fltCreate tables cycles st (f.ref, t.id) with ⟨h', hno⟩ | ⟨T, hl, _, _, hsnd⟩
  · rw [h']
    rcases hno with hno | hno | hno
    · exact hno
    · exact absurd hc hno
    · exact absurd ((lookup_of_mem hn ht).symm.trans hno) nofun
  · cases Option.some.inj ((lookup_of_mem hn ht).symm.trans hl)
    exact fun hm => ((hsnd _).1 hm).2 f ⟨hf, rfl⟩ hne rfl

theorem foldl_breakEdge_removes {tables : List Tbl} {cycles : List Nat} (hn : (ids tables).Nodup) :
    ∀ (l : List Edge) (st : List FkRef × List Edge) (e : Edge), e ∈ l →
      e ∈ mutable0 fltCreate tables → e.2 ∈ cycles →
      e ∉ (l.foldl (breakEdge fltCreate tables cycles) st).2 := by
  intro l
  induction l with
  | nil => intro st e he; cases he
  | cons a l ih =>
    intro st e he hm hc
    rw [List.foldl_cons]
    rcases List.mem_cons.1 he with rfl | he'
    · obtain ⟨t, ht, f, hf, _, hne, rfl⟩ := mem_mutable0.1 hm
      intro hcon
      exact breakEdge_removes_self hn st ht hf hne hc (foldl_breakEdge_snd_sub _ _ _ hcon)
    · exact ih _ e he' hm hc

end SaVerif.Ddl
