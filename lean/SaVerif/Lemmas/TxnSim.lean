import SaVerif.Lemmas.Txn
/-! The simulation relation `Sim` between a fault-free `Conn` and the stack-of-scopes `Spec` of C23, and
`step_sim_match`: every operation that the stack-of-scopes specification accepts keeps `Sim` and
returns the specified result (C23's `refines_nested_spec` is the induction over histories).  `X_sim` is an
equation for the model function `X` under `Sim`, `sim_X` what `Sim` gives about the call, field or state `X`. -/
namespace SaVerif.Txn

/-- newer savepoints have larger sequence numbers and sit above older ones -/
def Sorted (l : List (Nat × Data)) : Prop := l.Pairwise (fun a b => b.1 < a.1)

theorem dropTo_of_sublist {n : Nat} {d : Data} {sp : List (Nat × Data)} :
    ∀ {saves : List (Nat × Data)}, Sorted saves → ((n, d) :: sp).Sublist saves →
      ∃ tail, dropTo n saves = some ((n, d) :: tail) ∧ sp.Sublist tail ∧
        Sorted ((n, d) :: tail) ∧ ∀ p ∈ tail, p ∈ saves := by
  intro saves
  induction saves with
  | nil => intro _ h; cases h
  | cons x rest ih =>
    intro hs hsub
    obtain ⟨m, e⟩ := x
    cases hsub with
    | cons _ h' =>
      have hs' : Sorted rest := (List.pairwise_cons.1 hs).2
      have hmem : (n, d) ∈ rest := h'.subset (List.mem_cons_self)
      have hlt : n < m := (List.pairwise_cons.1 hs).1 (n, d) hmem
      obtain ⟨tail, hdrop, hsub, hsorted, htail⟩ := ih hs' h'
      refine ⟨tail, ?_, hsub, hsorted, fun p hp => List.mem_cons_of_mem _ (htail p hp)⟩
      have : (m == n) = false := by simp; omega
      simp [dropTo, this, hdrop]
    | cons_cons _ h' =>
      refine ⟨rest, by simp [dropTo], h', hs, fun p hp => List.mem_cons_of_mem _ hp⟩

theorem sorted_push {saves : List (Nat × Data)} {k : Nat} {d : Data}
    (hs : Sorted saves) (hb : ∀ p ∈ saves, p.1 ≤ k) : Sorted ((k + 1, d) :: saves) := by
  refine List.pairwise_cons.2 ⟨fun p hp => ?_, hs⟩
  have := hb p hp
  simp only []; omega

def specSaves (c : Conn) (l : List Scope) : List (Nat × Data) :=
  l.map (fun sc => ((c.txn sc.h).sp, sc.snap))

/-- `saves` is a sublist and not an equality: ROLLBACK TO keeps its SAVEPOINT on the DBAPI stack while the
    scope is popped.  `sorted` and `bound` are there so that `dropTo` finds the innermost scope's entry
    (`dropTo_of_sublist`) and a new savepoint name is above all others (`sorted_push`). -/
structure Sim (c : Conn) (s : Spec) : Prop where
  dbapi : c.hasDbapi = true
  reconn : c.canReconnect = true
  nofault : c.db.faults = []
  nolistener : c.db.listener = .none
  noctx : c.ctxMgr = none
  noauto : c.db.raw.autocommit = false
  kindsLen : s.kinds.length = c.txns.length
  kindsAt : ∀ h, h < c.txns.length → s.kinds.getD h false = (c.txn h).isRoot
  committed : c.db.committed = s.committed
  working : c.db.raw.working = s.cur
  root : c.transaction = s.root
  rootOk : ∀ t, s.root = some t →
    t < c.txns.length ∧ (c.txn t).isRoot = true ∧ (c.txn t).active = true
  rootNone : s.root = none → s.scopes = []
  clean : s.root = none → s.cur = s.committed
  savesNone : s.root = none → c.db.raw.saves = []
  chain : ChainOk c c.nested s.scopes
  saves : (specSaves c s.scopes).Sublist c.db.raw.saves
  sorted : Sorted c.db.raw.saves
  bound : ∀ p ∈ c.db.raw.saves, p.1 ≤ c.spSeq
  others : ∀ h, h < c.txns.length → s.root ≠ some h → (∀ sc ∈ s.scopes, sc.h ≠ h) →
    (c.txn h).active = false

theorem specSaves_frame {c c' : Conn} {l : List Scope} (hs : ∀ sc ∈ l, c'.txn sc.h = c.txn sc.h) :
    specSaves c' l = specSaves c l :=
  List.map_congr_left fun sc hsc => by rw [hs sc hsc]

theorem sim_ctx {c : Conn} {s : Spec} (h : Sim c s) : c.ctxRaises = false := by
  simp [Conn.ctxRaises, h.noctx]

theorem sim_root_isRoot {c : Conn} {s : Spec} (h : Sim c s) {t : Nat} (ht : s.root = some t) :
    (c.txn t).isRoot = true := (h.rootOk t ht).2.1

theorem sim_root_active {c : Conn} {s : Spec} (h : Sim c s) {t : Nat} (ht : s.root = some t) :
    c.act t = true := (h.rootOk t ht).2.2

theorem sim_nested_nil {c : Conn} {s : Spec} (h : Sim c s) (hs : s.scopes = []) : c.nested = none :=
  chain_nil (hs ▸ h.chain)

theorem sim_nested_none {c : Conn} {s : Spec} (h : Sim c s) (hr : s.root = none) : c.nested = none :=
  sim_nested_nil h (h.rootNone hr)

theorem Sim.kinds_append {c c' : Conn} {s : Spec} (h : Sim c s) {t : Txn}
    (hc : c'.txns = c.txns ++ [t]) :
    (s.kinds ++ [t.isRoot]).length = c'.txns.length ∧
    ∀ x, x < c'.txns.length → (s.kinds ++ [t.isRoot]).getD x false = (c'.txn x).isRoot := by
  refine ⟨by rw [hc, List.length_append, List.length_append, h.kindsLen]; rfl, fun x hx => ?_⟩
  rcases Nat.lt_or_ge x c.txns.length with hx' | hx'
  · rw [txn_append_lt hc hx', ← h.kindsAt x hx', List.getD_eq_getElem?_getD,
      List.getElem?_append_left (h.kindsLen ▸ hx'), ← List.getD_eq_getElem?_getD]
  · rw [hc, List.length_append] at hx
    cases Nat.le_antisymm (Nat.le_of_lt_succ hx) hx'
    rw [txn_append_new hc, ← h.kindsLen, List.getD_eq_getElem?_getD, List.getElem?_concat_length]
    rfl

theorem Sim.others_append {c c' : Conn} {s : Spec} (h : Sim c s) {t : Txn}
    (hc : c'.txns = c.txns ++ [t]) {x : Nat} (hx : x < c'.txns.length) (hnew : x ≠ c.txns.length)
    (hr : s.root ≠ some x) (hs : ∀ sc ∈ s.scopes, sc.h ≠ x) : (c'.txn x).active = false := by
  rw [hc, List.length_append] at hx
  have hx' : x < c.txns.length := Nat.lt_of_le_of_ne (Nat.le_of_lt_succ hx) hnew
  rw [txn_append_lt hc hx']
  exact h.others x hx' hr hs

theorem sim_pushRoot {c : Conn} {s : Spec} (h : Sim c s) (hr : s.root = none) :
    Sim c.pushRoot { s with root := some s.kinds.length, kinds := s.kinds ++ [true] } := by
  have hnn := sim_nested_none h hr
  have hsc := h.rootNone hr
  have hk := h.kinds_append (c' := c.pushRoot) rfl
  exact
    { h with
      kindsLen := hk.1, kindsAt := hk.2,
      root := congrArg some h.kindsLen.symm,
      rootOk := fun t ht => by
        cases ht
        rw [h.kindsLen, txn_append_new (c' := c.pushRoot) rfl]
        exact ⟨by simp [Conn.pushRoot], rfl, rfl⟩
      rootNone := nofun, clean := nofun, savesNone := nofun,
      chain := by
        show ChainOk c.pushRoot c.nested s.scopes
        rw [hnn, hsc]; exact .nil _
      saves := by
        show (specSaves c.pushRoot s.scopes).Sublist c.db.raw.saves
        rw [hsc]; exact List.nil_sublist _
      others := fun x hx hne hsc' =>
        h.others_append (c' := c.pushRoot) rfl hx (fun e => hne (by rw [e, h.kindsLen]))
          (by rw [hr]; nofun) hsc' }

theorem sim_autobegin {c : Conn} {s : Spec} (h : Sim c s) :
    Sim c.autobegin.1 s.autobegin ∧ c.autobegin.2 = .ok := by
  unfold Spec.autobegin
  cases hr : s.root with
  | none =>
    rw [autobegin_none (h.root.trans hr) h.dbapi (sim_ctx h)]
    exact ⟨sim_pushRoot h hr, rfl⟩
  | some t =>
    rw [autobegin_some (h.root.trans hr)]
    exact ⟨h, rfl⟩

theorem autobegin_root (s : Spec) : ∃ t, s.autobegin.root = some t := by
  cases hr : s.root with
  | none => exact ⟨s.kinds.length, by simp [Spec.autobegin, hr]⟩
  | some t => exact ⟨t, by simp [Spec.autobegin, hr]⟩

theorem sim_stale {c : Conn} {s : Spec} (h : Sim c s) : c.stale = false := by
  have hn : (match c.nested with | some n => !c.act n | none => false) = false := by
    cases hcn : c.nested with
    | none => rfl
    | some n => simp [chain_nested_active (hcn ▸ h.chain)]
  have ht : (match c.transaction with | some t => !c.act t | none => false) = false := by
    cases hct : c.transaction with
    | none => rfl
    | some t =>
      have : s.root = some t := by rw [← h.root, hct]
      simp [sim_root_active h this]
  simp only [Conn.stale, Bool.or_eq_false_iff]
  exact ⟨ht, hn⟩

theorem execute_sim {c : Conn} {s : Spec} (h : Sim c s) (q : Sql) :
    c.execute q =
      match c.autobegin.1.db.apply q with
      | (some db, _) => ({ c.autobegin.1 with db := db }, .ok)
      | (none, r) => (c.autobegin.1, r) :=
  execute_quiet h.dbapi h.nofault (by rw [h.nolistener]; nofun) (sim_ctx h) (sim_stale h) q

theorem sim_frame {c c' : Conn} {s : Spec} (h : Sim c s) (cur : Data)
    (hw : c'.db.raw.working = cur) (hcl : s.root = none → cur = s.committed)
    (hlen : c'.txns.length = c.txns.length) (htx : ∀ x, c'.txn x = c.txn x) (hsp : c.spSeq ≤ c'.spSeq)
    (htr : c'.transaction = c.transaction) (hne : c'.nested = c.nested)
    (hctx : c'.ctxMgr = c.ctxMgr) (hd : c'.hasDbapi = c.hasDbapi)
    (hrc : c'.canReconnect = c.canReconnect) (hf : c'.db.faults = c.db.faults)
    (hl : c'.db.listener = c.db.listener) (ha : c'.db.raw.autocommit = c.db.raw.autocommit)
    (hc : c'.db.committed = c.db.committed) (hs : c'.db.raw.saves = c.db.raw.saves) :
    Sim c' { s with cur := cur } :=
  { dbapi := hd.trans h.dbapi, reconn := hrc.trans h.reconn, nofault := hf.trans h.nofault,
    nolistener := hl.trans h.nolistener, noctx := hctx.trans h.noctx, noauto := ha.trans h.noauto,
    committed := hc.trans h.committed, working := hw, sorted := hs ▸ h.sorted,
    bound := fun p hp => Nat.le_trans (h.bound p (hs ▸ hp)) hsp,
    kindsLen := h.kindsLen.trans hlen.symm,
    kindsAt := fun x hx => (h.kindsAt x (hlen ▸ hx)).trans (congrArg Txn.isRoot (htx x)).symm,
    root := htr.trans h.root,
    rootOk := fun t ht => by rw [hlen, htx]; exact h.rootOk t ht,
    rootNone := h.rootNone, clean := hcl, savesNone := fun hr => hs.trans (h.savesNone hr),
    chain := by rw [hne]; exact chain_frame (Nat.le_of_eq hlen.symm) (fun _ _ => htx _) h.chain,
    saves := by rw [hs, specSaves_frame (fun _ _ => htx _)]; exact h.saves,
    others := fun x hx => by rw [htx]; exact h.others x (hlen ▸ hx) }

theorem sim_warn {c : Conn} {s : Spec} (h : Sim c s) : Sim c.warn s :=
  sim_frame h s.cur h.working h.clean rfl (fun _ => rfl) (Nat.le_refl _) rfl rfl rfl rfl rfl rfl rfl rfl rfl rfl

theorem sim_write {c : Conn} {s : Spec} (h : Sim c s) {t : Nat} (ht : s.root = some t) (d : Data) :
    Sim { c with db := c.db.write d } { s with cur := d } := by
  have hw : c.db.write d = { c.db with raw := { c.db.raw with working := d } } := by
    simp [DB.write, h.noauto]
  rw [hw]
  exact sim_frame h d rfl (fun hr => nomatch ht.symm.trans hr) rfl (fun _ => rfl) (Nat.le_refl _)
    rfl rfl rfl rfl rfl rfl rfl rfl rfl rfl

theorem sim_exec {c : Conn} {s : Spec} (h : Sim c s) (st : Stmt) :
    ∃ s' r, s.step (.exec st) = some (s', r) ∧
      Sim (c.execute (.stmt st)).1 s' ∧ (c.execute (.stmt st)).2 = r := by
  obtain ⟨h1, _⟩ := sim_autobegin h
  obtain ⟨t, ht⟩ := autobegin_root s
  rw [execute_sim h]
  cases st with
  | ins k =>
    dsimp only [Spec.step, DB.apply]
    rw [h1.working]
    cases hi : s.autobegin.cur.insert k with
    | none => exact ⟨_, _, rfl, h1, rfl⟩
    | some d => exact ⟨_, _, rfl, sim_write h1 ht d, rfl⟩
  | del k =>
    dsimp only [Spec.step, DB.apply]
    rw [h1.working]
    exact ⟨_, _, rfl, sim_write h1 ht _, rfl⟩
  | sel => exact ⟨_, _, rfl, h1, rfl⟩

theorem execute_sim_ok {c : Conn} {s : Spec} (h : Sim c s) {t : Nat} (ht : s.root = some t)
    {q : Sql} {db' : DB} {r : Res} (ha : c.db.apply q = (some db', r)) :
    c.execute q = ({ c with db := db' }, .ok) := by
  rw [execute_sim h, autobegin_some (h.root.trans ht), ha]

/-- the state after `SAVEPOINT sa_savepoint_<spSeq+1>` and attaching the new object -/
def Conn.afterSavepoint (c : Conn) : Conn :=
  ({ c with spSeq := c.spSeq + 1,
            db := { c.db with raw := c.db.raw.savepoint (c.spSeq + 1) } } : Conn).pushNested

theorem sim_afterSavepoint {c : Conn} {s : Spec} (h : Sim c s) {t : Nat} (ht : s.root = some t) :
    Sim c.afterSavepoint
      { s with scopes := ⟨s.kinds.length, s.cur⟩ :: s.scopes, kinds := s.kinds ++ [false] } := by
  have hc : c.afterSavepoint.txns = c.txns ++ [⟨false, true, c.spSeq + 1, c.nested, false, none⟩] := rfl
  have hlen : c.txns.length < c.afterSavepoint.txns.length := by rw [hc]; simp
  have hsame : ∀ sc ∈ s.scopes, c.afterSavepoint.txn sc.h = c.txn sc.h := fun sc hsc =>
    txn_append_lt hc (chain_mem h.chain sc hsc).1
  have hk := h.kinds_append hc
  have hno {p : Prop} (hh : s.root = none) : p := nomatch ht.symm.trans hh
  exact
    { h with
      sorted := sorted_push h.sorted h.bound,
      bound := fun p hp => by
        rcases List.mem_cons.1 (show p ∈ (c.spSeq + 1, c.db.raw.working) :: c.db.raw.saves from hp) with rfl | hp'
        · exact Nat.le_refl _
        · exact Nat.le_succ_of_le (h.bound p hp')
      kindsLen := hk.1, kindsAt := hk.2,
      rootOk := fun t' ht' => by
        obtain ⟨hlt', hroot, hact⟩ := h.rootOk t' ht'
        rw [txn_append_lt hc hlt']
        exact ⟨Nat.lt_trans hlt' hlen, hroot, hact⟩
      rootNone := hno, clean := hno, savesNone := hno
      chain := by
        show ChainOk c.afterSavepoint (some c.txns.length) (⟨s.kinds.length, s.cur⟩ :: s.scopes)
        have hx := txn_append_new hc
        refine .cons h.kindsLen hlen (congrArg Txn.isRoot hx) (congrArg Txn.active hx) ?_ ?_ <;> rw [hx]
        · exact fun p hp => chain_head_lt ((show c.nested = some p from hp) ▸ h.chain)
        · exact chain_frame (Nat.le_of_lt hlen) hsame h.chain
      saves := by
        show (specSaves c.afterSavepoint (⟨s.kinds.length, s.cur⟩ :: s.scopes)).Sublist
            ((c.spSeq + 1, c.db.raw.working) :: c.db.raw.saves)
        rw [specSaves, List.map_cons, ← specSaves, specSaves_frame hsame, h.kindsLen,
          txn_append_new hc, h.working]
        exact List.Sublist.cons_cons _ h.saves
      others := fun x hx hne hsc' =>
        h.others_append hc hx
          (fun e => hsc' ⟨s.kinds.length, s.cur⟩ List.mem_cons_self (by rw [e, h.kindsLen]))
          hne (fun sc hsc => hsc' sc (List.mem_cons_of_mem _ hsc)) }

theorem sim_beginNested {c : Conn} {s : Spec} (h : Sim c s) :
    ∃ s', s.step .beginNested = some (s', .ok) ∧
      Sim c.beginNested.1 s' ∧ c.beginNested.2 = .ok := by
  obtain ⟨h1, h1ok⟩ := sim_autobegin h
  obtain ⟨t, ht⟩ := autobegin_root s
  refine ⟨_, rfl, ?_⟩
  have hab : c.autobegin = (c.autobegin.1, .ok) := by rw [← h1ok]
  have h2 : Sim { c.autobegin.1 with spSeq := c.autobegin.1.spSeq + 1 } s.autobegin :=
    sim_frame h1 s.autobegin.cur h1.working h1.clean rfl (fun _ => rfl) (Nat.le_succ _)
      rfl rfl rfl rfl rfl rfl rfl rfl rfl rfl
  have hres : c.beginNested = (c.autobegin.1.afterSavepoint, .ok) := by
    unfold Conn.beginNested
    rw [hab]
    simp only [andThen_ok, sim_ctx h1, Bool.false_eq_true, if_false]
    rw [execute_sim_ok h2 ht (q := .savepoint (c.autobegin.1.spSeq + 1)) rfl]
    rfl
  rw [hres]
  exact ⟨sim_afterSavepoint h1 ht, rfl⟩

/-- `c` after the root transaction `t` has ended, by commit or rollback (`rootCommit_sim`,
    `rootCloseImpl_sim`) -/
def Conn.endedRoot (c : Conn) (t : Nat) : Conn :=
  { c.cancelNested.deactivate t with transaction := none }

theorem sim_chain_db {c : Conn} {s : Spec} (h : Sim c s) (db' : DB) :
    ChainOk ({ c with db := db' } : Conn) ({ c with db := db' } : Conn).nested s.scopes :=
  chain_frame (c := c) (c' := { c with db := db' }) (Nat.le_refl _) (fun _ _ => rfl) h.chain

theorem sim_scope_ne_root {c : Conn} {s : Spec} (h : Sim c s) {t : Nat} (ht : s.root = some t) :
    ∀ sc ∈ s.scopes, sc.h ≠ t := fun sc hsc e =>
  -- a scope's handle has `isRoot = false`, the root's `true`
  Bool.noConfusion ((e ▸ (chain_mem h.chain sc hsc).2.1).symm.trans (sim_root_isRoot h ht))

theorem sim_endedRoot {c : Conn} {s : Spec} (h : Sim c s) {t : Nat} (ht : s.root = some t)
    (db' : DB) (rows : Data)
    (hcomm : db'.committed = rows) (hwork : db'.raw.working = rows) (hsaves : db'.raw.saves = [])
    (hf : db'.faults = []) (hl : db'.listener = .none) (ha : db'.raw.autocommit = false) :
    Sim (({ c with db := db' } : Conn).endedRoot t)
      { s with committed := rows, cur := rows, root := none, scopes := [] } := by
  obtain ⟨hnone, hfr, _, hoff, hsame⟩ := cancelNested_spec (sim_chain_db h db')
  have hframe := hfr.trans (frame_deactivate _ t)
  have e_db : (({ c with db := db' } : Conn).endedRoot t).db = db' := hframe.db
  have e_saves : (({ c with db := db' } : Conn).endedRoot t).db.raw.saves = [] :=
    (congrArg (·.raw.saves) e_db).trans hsaves
  exact
    { dbapi := hframe.hasDbapi.trans h.dbapi, reconn := hframe.canReconnect.trans h.reconn,
      nofault := (congrArg DB.faults e_db).trans hf, nolistener := (congrArg DB.listener e_db).trans hl,
      noctx := hframe.ctxMgr.trans h.noctx, noauto := (congrArg (·.raw.autocommit) e_db).trans ha,
      committed := (congrArg DB.committed e_db).trans hcomm, working := (congrArg (·.raw.working) e_db).trans hwork,
      sorted := e_saves ▸ List.Pairwise.nil,
      bound := e_saves ▸ nofun,
      kindsLen := h.kindsLen.trans hframe.len.symm,
      kindsAt := fun x hx => (h.kindsAt x (hframe.len ▸ hx)).trans (hframe.isRoot x).symm,
      root := rfl, rootOk := nofun, rootNone := fun _ => rfl, clean := fun _ => rfl,
      savesNone := fun _ => e_saves,
      chain := by
        show ChainOk _ ({ c with db := db' } : Conn).cancelNested.nested []
        rw [hnone]; exact .nil _
      saves := List.nil_sublist _
      others := fun x hx _ _ => by
        show ((({ c with db := db' } : Conn).cancelNested.deactivate t).txn x).active = false
        by_cases hxt : t = x
        · rw [← hxt, deactivate_txn_eq _ _ (hfr.len ▸ (h.rootOk t ht).1)]
        · rw [deactivate_txn_ne _ _ _ hxt]
          by_cases hin : ∃ sc ∈ s.scopes, sc.h = x
          · obtain ⟨sc, hsc, rfl⟩ := hin
            exact hoff sc hsc
          · rw [hsame x (fun sc hsc e => hin ⟨sc, hsc, e⟩)]
            exact h.others x (hframe.len ▸ hx) (ht ▸ fun e => hxt (Option.some.inj e))
              (fun sc hsc e => hin ⟨sc, hsc, e⟩) }

theorem sim_cancel_root {c : Conn} {s : Spec} (h : Sim c s) {t : Nat} (ht : s.root = some t)
    (db' : DB) :
    ({ c with db := db' } : Conn).cancelNested.act t = true ∧
      ({ c with db := db' } : Conn).cancelNested.transaction = some t := by
  obtain ⟨_, hfr, _, _, hsame⟩ := cancelNested_spec (sim_chain_db h db')
  exact ⟨(congrArg Txn.active (hsame t (sim_scope_ne_root h ht))).trans (sim_root_active h ht),
    hfr.transaction.trans (h.root.trans ht)⟩

theorem rootCommit_sim {c : Conn} {s : Spec} (h : Sim c s) {t : Nat} (ht : s.root = some t) :
    c.rootCommit t = (({ c with db := c.db.commit } : Conn).endedRoot t, .ok) := by
  have hact := sim_root_active h ht
  have hci : c.commitImpl = ({ c with db := c.db.commit }, .ok) := by
    rw [Conn.commitImpl, connProp_held h.dbapi, andThen_ok, dbapiCall_nofault _ _ _ h.nofault]
  simp only [Conn.rootCommit, hact, if_true, hci, andFinally_mk, andThen_ok, Conn.rootDeactivate,
    (sim_cancel_root h ht c.db.commit).1]
  rfl

theorem rootCloseImpl_sim {c : Conn} {s : Spec} (h : Sim c s) {t : Nat} (ht : s.root = some t)
    (b : Bool) :
    c.rootCloseImpl t b = (({ c with db := c.db.rollback } : Conn).endedRoot t, .ok) := by
  have hact := sim_root_active h ht
  have hri : c.rollbackImpl = ({ c with db := c.db.rollback }, .ok) := by
    simp [Conn.rollbackImpl, h.dbapi, dbapiCall_nofault _ _ _ h.nofault, DB.skipsRollback, h.noauto]
  obtain ⟨h2, htr⟩ := sim_cancel_root h ht c.db.rollback
  have : (({ c with db := c.db.rollback } : Conn).cancelNested.deactivate t).transaction = some t := htr
  simp only [Conn.rootCloseImpl, hact, if_true, hri, andThen_ok, andFinally_mk,
    Conn.rootCloseFinally, h2, Bool.true_or, Conn.rootDeactivate, this, beq_self_eq_true]
  rfl

theorem sim_rootCommit {c : Conn} {s : Spec} (h : Sim c s) {t : Nat} (ht : s.root = some t) :
    Sim (c.rootCommit t).1 (s.endRoot true) ∧ (c.rootCommit t).2 = .ok := by
  rw [rootCommit_sim h ht]
  exact ⟨sim_endedRoot h ht c.db.commit s.cur (hcomm := h.working) (hwork := h.working) (hsaves := rfl)
    h.nofault h.nolistener h.noauto, rfl⟩

theorem sim_rootRollback {c : Conn} {s : Spec} (h : Sim c s) {t : Nat} (ht : s.root = some t)
    (b : Bool) :
    Sim (c.rootCloseImpl t b).1 (s.endRoot false) ∧ (c.rootCloseImpl t b).2 = .ok := by
  rw [rootCloseImpl_sim h ht]
  exact ⟨sim_endedRoot h ht c.db.rollback s.committed (hcomm := h.committed) (hwork := h.committed)
    (hsaves := rfl) h.nofault h.nolistener h.noauto, rfl⟩

theorem sim_poppedNested {c : Conn} {s : Spec} (h : Sim c s) {t : Nat} (ht : s.root = some t)
    {sc : Scope} {rest : List Scope} (hsc : s.scopes = sc :: rest)
    (db' : DB) (rows : Data)
    (hcomm : db'.committed = c.db.committed) (hwork : db'.raw.working = rows)
    (hsub : (specSaves c rest).Sublist db'.raw.saves) (hsorted : Sorted db'.raw.saves)
    (hmem : ∀ p ∈ db'.raw.saves, p ∈ c.db.raw.saves)
    (hf : db'.faults = []) (hl : db'.listener = .none) (ha : db'.raw.autocommit = false) :
    Sim (({ c with db := db' } : Conn).poppedNested sc.h)
      { s with cur := rows, scopes := rest } := by
  have hch : ChainOk c c.nested (sc :: rest) := hsc ▸ h.chain
  obtain ⟨hcn, hlt, _, _, _, hrest⟩ := chain_cons hch
  have e_ne : ∀ x, sc.h ≠ x → (({ c with db := db' } : Conn).poppedNested sc.h).txn x = c.txn x :=
    deactivate_txn_ne ({ c with db := db' } : Conn) sc.h
  have e_len : (({ c with db := db' } : Conn).poppedNested sc.h).txns.length = c.txns.length :=
    setTxn_length _ _ _
  have hsame : ∀ x ∈ rest, (({ c with db := db' } : Conn).poppedNested sc.h).txn x.h = c.txn x.h :=
    fun x hx => e_ne x.h (fun e => chain_tail_ne (hcn ▸ hch) x hx e.symm)
  have hno {p : Prop} (hh : s.root = none) : p := nomatch ht.symm.trans hh
  exact
    { h with
      nofault := hf, nolistener := hl, noauto := ha, committed := hcomm.trans h.committed, working := hwork, sorted := hsorted,
      bound := fun p hp => h.bound p (hmem p hp),
      kindsLen := h.kindsLen.trans e_len.symm,
      kindsAt := fun x hx =>
        (h.kindsAt x (e_len ▸ hx)).trans (deactivate_isRoot ({ c with db := db' } : Conn) sc.h x).symm,
      rootOk := fun t' ht' => by
        rw [e_len, e_ne t' (sim_scope_ne_root h ht' sc (hsc ▸ List.mem_cons_self))]
        exact h.rootOk t' ht'
      rootNone := hno, clean := hno, savesNone := hno
      chain := chain_frame (Nat.le_of_eq e_len.symm) hsame hrest
      saves := (specSaves_frame hsame).symm ▸ hsub
      others := fun x hx hr hs => by
        by_cases hxn : sc.h = x
        · rw [← hxn]
          exact congrArg Txn.active (deactivate_txn_eq ({ c with db := db' } : Conn) sc.h hlt)
        · rw [e_ne x hxn]
          refine h.others x (e_len ▸ hx) hr fun y hy => ?_
          rcases List.mem_cons.1 (hsc ▸ hy) with rfl | hy
          · exact hxn
          · exact hs y hy }

theorem sim_innermost {c : Conn} {s : Spec} (h : Sim c s)
    {sc : Scope} {rest : List Scope} (hsc : s.scopes = sc :: rest) :
    c.nested = some sc.h ∧ sc.h < c.txns.length ∧ (c.txn sc.h).isRoot = false ∧
    c.act sc.h = true ∧
    ∃ tail, dropTo (c.txn sc.h).sp c.db.raw.saves = some (((c.txn sc.h).sp, sc.snap) :: tail) ∧
      (specSaves c rest).Sublist tail ∧ Sorted (((c.txn sc.h).sp, sc.snap) :: tail) ∧
      (∀ p ∈ tail, p ∈ c.db.raw.saves) ∧ ((c.txn sc.h).sp, sc.snap) ∈ c.db.raw.saves := by
  obtain ⟨hcn, hlt, hnr, hact, _, _⟩ := chain_cons (hsc ▸ h.chain : ChainOk c c.nested (sc :: rest))
  have hsv : (((c.txn sc.h).sp, sc.snap) :: specSaves c rest).Sublist c.db.raw.saves := by
    have := h.saves; rw [hsc] at this; exact this
  obtain ⟨tail, hdrop, hsub, hsorted, htail⟩ := dropTo_of_sublist h.sorted hsv
  exact ⟨hcn, hlt, hnr, hact, tail, hdrop, hsub, hsorted, htail, hsv.subset List.mem_cons_self⟩

theorem sim_root_of_scopes {c : Conn} {s : Spec} (h : Sim c s) {sc : Scope} {rest : List Scope}
    (hsc : s.scopes = sc :: rest) : ∃ t, s.root = some t := by
  cases hr : s.root with
  | none => rw [h.rootNone hr] at hsc; cases hsc
  | some t => exact ⟨t, rfl⟩

theorem sim_inTransaction {c : Conn} {s : Spec} (h : Sim c s) {t : Nat} (ht : s.root = some t) :
    c.inTransaction = true := by
  simp [Conn.inTransaction, h.root, ht, sim_root_active h ht]

theorem sim_nestedRollback {c : Conn} {s : Spec} (h : Sim c s)
    {sc : Scope} {rest : List Scope} (hsc : s.scopes = sc :: rest) (w : Bool) :
    Sim (c.nestedCloseImpl sc.h w).1 { s with cur := sc.snap, scopes := rest } ∧
      (c.nestedCloseImpl sc.h w).2 = .ok := by
  obtain ⟨t, ht⟩ := sim_root_of_scopes h hsc
  obtain ⟨hn, hlt, _, hact, tail, hdrop, hsub, hsorted, htail, hentry⟩ := sim_innermost h hsc
  let raw' : Raw := { c.db.raw with working := sc.snap, saves := ((c.txn sc.h).sp, sc.snap) :: tail }
  let db' : DB := { c.db with raw := raw' }
  have hex : c.execute (.rollbackTo (c.txn sc.h).sp) = ({ c with db := db' }, .ok) := by
    refine execute_sim_ok h ht (r := .ok) ?_
    dsimp only [DB.apply, Raw.rollbackTo]
    rw [hdrop]
  have hres : c.nestedCloseImpl sc.h w = (({ c with db := db' } : Conn).poppedNested sc.h, .ok) := by
    have hcond : (c.act sc.h && c.inTransaction && c.hasDbapi) = true := by
      simp [hact, sim_inTransaction h ht, h.dbapi]
    simp only [Conn.nestedCloseImpl, hcond, if_true, hex, andFinally_mk]
    rw [nestedDeactivate_pop ({ c with db := db' } : Conn) sc.h w hn]
  rw [hres]
  refine ⟨?_, rfl⟩
  exact sim_poppedNested h ht hsc db' sc.snap (hcomm := rfl) (hwork := rfl)
    (hsub := hsub.trans (List.sublist_cons_self _ _)) (hsorted := hsorted)
    (hmem := fun p hp => by
      rcases List.mem_cons.1 hp with rfl | hp
      · exact hentry
      · exact htail p hp)
    h.nofault h.nolistener h.noauto

theorem sim_nestedCommit {c : Conn} {s : Spec} (h : Sim c s)
    {sc : Scope} {rest : List Scope} (hsc : s.scopes = sc :: rest) :
    Sim (c.nestedCommit sc.h).1 { s with scopes := rest } ∧ (c.nestedCommit sc.h).2 = .ok := by
  obtain ⟨t, ht⟩ := sim_root_of_scopes h hsc
  obtain ⟨hn, hlt, _, hact, tail, hdrop, hsub, hsorted, htail, _⟩ := sim_innermost h hsc
  let db' : DB := { c.db with raw := { c.db.raw with saves := tail } }
  have hex : c.execute (.release (c.txn sc.h).sp) = ({ c with db := db' }, .ok) := by
    refine execute_sim_ok h ht (r := .ok) ?_
    dsimp only [DB.apply, Raw.release]
    rw [hdrop]
    dsimp only
    rw [if_neg (by rw [h.noauto]; nofun)]
  have hres : c.nestedCommit sc.h = (({ c with db := db' } : Conn).poppedNested sc.h, .ok) := by
    simp only [Conn.nestedCommit, hact, if_true, hex, andFinally_mk, andThen_ok]
    rw [nestedDeactivate_pop ({ c with db := db' } : Conn) sc.h true hn]
  rw [hres]
  exact ⟨sim_poppedNested h ht hsc db' s.cur (hcomm := rfl) (hwork := h.working) (hsub := hsub)
    (hsorted := (List.pairwise_cons.1 hsorted).2) (hmem := htail) h.nofault h.nolistener h.noauto, rfl⟩

theorem sim_deactivate_inactive {c : Conn} {s : Spec} (h : Sim c s) (x : Nat)
    (hi : (c.txn x).active = false) : Sim (c.deactivate x) s :=
  sim_frame h s.cur h.working h.clean (setTxn_length c x _) (deactivate_txn_inactive c x hi) (Nat.le_refl _)
    rfl rfl rfl rfl rfl rfl rfl rfl rfl rfl

theorem sim_isEnded_inactive {c : Conn} {s : Spec} (h : Sim c s) {x : Nat} (he : s.isEnded x = true) :
    x < c.txns.length ∧ s.root ≠ some x ∧ (∀ sc ∈ s.scopes, sc.h ≠ x) ∧ (c.txn x).active = false := by
  simp only [Spec.isEnded, Bool.and_eq_true, decide_eq_true_eq, bne_iff_ne, ne_eq,
    Bool.not_eq_true', List.any_eq_false, beq_iff_eq] at he
  obtain ⟨⟨a, b⟩, d⟩ := he
  have a' : x < c.txns.length := by rw [← h.kindsLen]; exact a
  exact ⟨a', b, fun sc hsc => d sc hsc, h.others x a' b (fun sc hsc => d sc hsc)⟩

theorem sim_nested_ne {c : Conn} {s : Spec} (h : Sim c s) {x : Nat}
    (hx : ∀ sc ∈ s.scopes, sc.h ≠ x) : c.nested ≠ some x := by
  intro e
  cases hs : s.scopes with
  | nil => rw [sim_nested_nil h hs] at e; cases e
  | cons sc rest =>
    have hch : ChainOk c c.nested (sc :: rest) := hs ▸ h.chain
    rw [(chain_cons hch).1] at e
    exact hx sc (by rw [hs]; exact List.mem_cons_self) (Option.some.inj e)

theorem tCommit_sim_ended {c : Conn} {s : Spec} (h : Sim c s) {x : Nat} (he : s.isEnded x = true) :
    c.tCommit x = (c, .invalidRequest) := by
  obtain ⟨_, b, d, e⟩ := sim_isEnded_inactive h he
  have hat : c.attached x = false := by
    unfold Conn.attached
    cases (c.txn x).isRoot
    · simpa using sim_nested_ne h d
    · rw [h.root]; simpa using b
  rw [tCommit_ended c x e, hat]
  rfl

theorem sim_ended_nested_rollback {c : Conn} {s : Spec} (h : Sim c s) {x : Nat}
    (he : s.isEnded x = true) (w : Bool) :
    Sim (c.nestedCloseImpl x w).1 s ∧ (c.nestedCloseImpl x w).2 = .ok := by
  obtain ⟨_, _, d, e⟩ := sim_isEnded_inactive h he
  rw [nestedCloseImpl_ended c x w e (sim_nested_ne h d)]
  have hd := sim_deactivate_inactive h x e
  cases w
  · exact ⟨hd, rfl⟩
  · exact ⟨sim_warn hd, rfl⟩

theorem sim_ended_root_rollback {c : Conn} {s : Spec} (h : Sim c s) {x : Nat}
    (he : s.isEnded x = true) (hsc : s.scopes = []) (b : Bool) :
    Sim (c.rootCloseImpl x b).1 s ∧ (c.rootCloseImpl x b).2 = .ok := by
  obtain ⟨_, hb, _, e⟩ := sim_isEnded_inactive h he
  rw [rootCloseImpl_ended c x b e (by rw [h.root]; exact fun e => hb e)
    (sim_nested_nil h hsc)]
  cases b
  · exact ⟨h, rfl⟩
  · exact ⟨sim_warn h, rfl⟩

/-- the branch of `Spec.handleCommit` that `sim_handleCommit` meets twice -/
theorem sim_ended_commit_or_none {c : Conn} {s : Spec} (h : Sim c s) (x : Nat) :
    match (if s.isEnded x = true then some (s, Res.invalidRequest) else none) with
    | some (s', r) => Sim (c.tCommit x).1 s' ∧ (c.tCommit x).2 = r
    | none => True := by
  by_cases he : s.isEnded x = true
  · rw [if_pos he, tCommit_sim_ended h he]; exact ⟨h, rfl⟩
  · rw [if_neg he]; trivial

theorem sim_handleCommit {c : Conn} {s : Spec} (h : Sim c s) (x : Nat) :
    match s.handleCommit x with
    | some (s', r) => Sim (c.tCommit x).1 s' ∧ (c.tCommit x).2 = r
    | none => True := by
  unfold Spec.handleCommit
  by_cases hrx : s.root = some x
  · rw [if_pos (beq_iff_eq.2 hrx),
      show c.tCommit x = c.rootCommit x by rw [Conn.tCommit, sim_root_isRoot h hrx]; rfl]
    exact sim_rootCommit h hrx
  · rw [if_neg (fun e => hrx (beq_iff_eq.1 e))]
    cases hsc : s.scopes with
    | nil => exact sim_ended_commit_or_none h x
    | cons sc rest =>
      dsimp only
      by_cases hx : sc.h = x
      · obtain ⟨_, _, hnr, _⟩ := sim_innermost h hsc
        have := sim_nestedCommit h hsc
        rw [hx] at this hnr
        rw [if_pos (beq_iff_eq.2 hx),
          show c.tCommit x = c.nestedCommit x by rw [Conn.tCommit, hnr]; rfl]
        exact this
      · rw [if_neg (fun e => hx (beq_iff_eq.1 e))]
        by_cases hany : rest.any (fun y => y.h == x) = true
        · rw [if_pos hany]; trivial
        · rw [if_neg hany]; exact sim_ended_commit_or_none h x

/-- `tRollback x` and `tClose x` unfold to the `if` below at `b = true` and `b = false` (`step_sim_match`) -/
theorem sim_handleRollback {c : Conn} {s : Spec} (h : Sim c s) (x : Nat) (b : Bool) :
    match s.handleRollback x with
    | some (s', r) =>
      Sim (if (c.txn x).isRoot then c.rootCloseImpl x b else c.nestedCloseImpl x b).1 s' ∧
        (if (c.txn x).isRoot then c.rootCloseImpl x b else c.nestedCloseImpl x b).2 = r
    | none => True := by
  unfold Spec.handleRollback
  by_cases hrx : s.root = some x
  · rw [if_pos (beq_iff_eq.2 hrx), if_pos (sim_root_isRoot h hrx)]
    exact sim_rootRollback h hrx b
  · rw [if_neg (fun e => hrx (beq_iff_eq.1 e))]
    cases hsc : s.scopes with
    | nil =>
      dsimp only
      by_cases he : s.isEnded x = true
      · rw [if_pos he]
        cases hr : (c.txn x).isRoot
        · exact sim_ended_nested_rollback h he b
        · exact sim_ended_root_rollback h he hsc b
      · rw [if_neg he]; trivial
    | cons sc rest =>
      dsimp only
      by_cases hx : sc.h = x
      · obtain ⟨_, _, hnr, _⟩ := sim_innermost h hsc
        have := sim_nestedRollback h hsc b
        rw [hx] at this hnr
        rw [if_pos (beq_iff_eq.2 hx), hnr]
        exact this
      · rw [if_neg (fun e => hx (beq_iff_eq.1 e))]
        by_cases hany : rest.any (fun y => y.h == x) = true
        · rw [if_pos hany]; trivial
        · rw [if_neg hany]
          by_cases he : (s.isEnded x && !s.kinds.getD x false) = true
          · rw [if_pos he]
            rw [Bool.and_eq_true, Bool.not_eq_true'] at he
            have hr : (c.txn x).isRoot = false := by
              rw [← h.kindsAt x (sim_isEnded_inactive h he.1).1]; exact he.2
            rw [hr]
            exact sim_ended_nested_rollback h he.1 b
          · rw [if_neg he]; trivial

theorem step_sim_match {c : Conn} {s : Spec} (h : Sim c s) (op : Op) :
    match s.step op with
    | some (s', r) => Sim (c.step op).1 s' ∧ (c.step op).2 = r
    | none => True := by
  cases op with
  | begin =>
    dsimp only [Spec.step, Conn.step]
    cases hr : s.root with
    | none =>
      rw [show c.begin = c.autobegin by unfold Conn.autobegin; rw [h.root, hr]; rfl]
      exact sim_autobegin h
    | some t =>
      rw [show c.begin = (c, .invalidRequest) by unfold Conn.begin; rw [h.root, hr]; rfl]
      exact ⟨h, rfl⟩
  | beginNested =>
    obtain ⟨s2, e, h2, r2⟩ := sim_beginNested h
    rw [e]; exact ⟨h2, r2⟩
  | exec st =>
    obtain ⟨s2, r2, e, h2, hr2⟩ := sim_exec h st
    rw [e]; exact ⟨h2, hr2⟩
  | commit =>
    dsimp only [Spec.step, Conn.step]
    cases hr : s.root with
    | none =>
      rw [show c.commit = (c, .ok) by unfold Conn.commit; rw [h.root, hr]]
      exact ⟨h, rfl⟩
    | some t =>
      rw [show c.commit = c.rootCommit t by
        unfold Conn.commit; rw [h.root, hr]; exact if_pos (sim_root_isRoot h hr)]
      exact sim_rootCommit h hr
  | rollback =>
    dsimp only [Spec.step, Conn.step]
    cases hr : s.root with
    | none =>
      rw [show c.rollback = (c, .ok) by unfold Conn.rollback; rw [h.root, hr]]
      exact ⟨h, rfl⟩
    | some t =>
      rw [show c.rollback = c.rootCloseImpl t true by
        unfold Conn.rollback; rw [h.root, hr]; exact if_pos (sim_root_isRoot h hr)]
      exact sim_rootRollback h hr true
  | tCommit x => exact sim_handleCommit h x
  | tRollback x => exact sim_handleRollback h x true
  | tClose x => exact sim_handleRollback h x false
  | _ => trivial

end SaVerif.Txn
