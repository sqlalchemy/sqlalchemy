import SaVerif.Lemmas.EventInv
/-! Preservation of `EInv` by `listen`, on an instance and on a class. -/
namespace SaVerif.Event

/-- `for_modify()`: the instance gets its own collection, same listeners -/
theorem EInv.forModify {n : Nat} {st : St} (h : EInv n st) {i : Nat} (hi : i < st.insts.length) :
    EInv n (setColl st i (collOf st i)) := by
  refine h.withColl rfl rfl rfl rfl h.reg hi _ fun j => ?_
  split
  · subst ‹i = j›; exact h.inst i
  · exact h.inst j

theorem EInv.addInst {n : Nat} {st : St} (h : EInv n st) {i : Nat} (hi : i < st.insts.length)
    {e : RegEntry} (het : e.target = Target.inst i) (hkey : hasKey st e.target e.fn = false)
    (hfresh : ∀ x ∈ instEntries st i, x.lsn ≠ e.lsn) (hb : e.lsn < st.lsn.length)
    (hk : e.lsn = e.fn ∨ n ≤ e.lsn) :
    EInv n (addReg (setColl st i (if e.ins then e.lsn :: collOf st i else collOf st i ++ [e.lsn])) e) := by
  have hcl : isCls e = false := isCls_of_inst het
  have hr : RegInv n (addReg st e) := h.reg.add hkey (fun hc => absurd hc (by simp [hcl]))
    (fun j hj => by cases het.symm.trans hj; exact hfresh) hb hk
  rw [addReg_setColl]
  refine h.withColl (st0 := addReg st e) rfl rfl rfl ?_ hr hi _ fun j => ?_
  · rw [clsEntries_addReg, hcl]
    exact List.append_nil _
  · rw [specColl, instEntries_addReg, het]
    split
    · subst ‹i = j›
      rw [if_pos rfl, orderOf_append_single, h.inst i]
      rfl
    · rw [if_neg (fun hh => ‹¬ i = j› (Target.inst.inj hh)), List.append_nil]
      exact h.inst j

theorem listenInst_inv {n : Nat} {st : St} (h : EInv n st) (i fn : Nat) (ins : Bool) (wrap : Nat)
    (hi : i < st.insts.length) (hfn : fn < n) : EInv n (listenInst st i fn ins wrap) := by
  have hmk := mkListener_core st fn wrap
  obtain ⟨hlb, hlk, hlf⟩ := mkListener_fresh h.reg fn wrap hfn
  have h1 : EInv n (mkListener st fn wrap).1 := h.core hmk
  unfold listenInst
  simp only
  generalize (mkListener st fn wrap).1 = st1 at *
  generalize (mkListener st fn wrap).2 = l at *
  have h2 := h1.forModify (hmk.insts ▸ hi)
  obtain ⟨-, -, hsr, hsl, hsn⟩ := setColl_frame st1 i (collOf st1 i)
  generalize setColl st1 i (collOf st1 i) = st2 at *
  have hi2 : i < st2.insts.length := by rw [hsn, hmk.insts]; exact hi
  split
  · exact h2
  · rename_i hk
    have hk2 : hasKey st2 (Target.inst i) fn = false := Bool.eq_false_iff.2 hk
    have hk3 : hasKey (setColl st2 i (if ins = true then l :: collOf st2 i else collOf st2 i ++ [l]))
        (Target.inst i) fn = false := (hasKey_congr (setColl_frame st2 i _).2.2.1 _ _).trans hk2
    rw [storeKey_new hk3]
    refine h2.addInst (e := ⟨Target.inst i, fn, l, ins⟩) hi2 rfl hk2 ?_ (hsl ▸ hlb) hlk
    · -- the bare function on `i` again would be the same key
      intro x hx hxl
      obtain ⟨hxr, hxt⟩ := mem_instEntries.1 hx
      have hx0 : x ∈ st.reg := hmk.reg ▸ hsr ▸ hxr
      obtain ⟨_, hxf⟩ := hlf x hx0 hxl
      rcases h.reg.fnKind x hx0 with h3 | h3
      · exact hk (hasKey_iff.2 ⟨x, hxr, hxt, h3 ▸ hxf⟩)
      · exact absurd hfn (Nat.not_lt.2 (hxf ▸ h3))

theorem listenCls_eq (st : St) (c : Cls) (fn : Nat) (ins : Bool) (wrap : Nat) :
    listenCls st c fn ins wrap =
      storeKey (insLoop (mkListener st fn wrap).1 c (mkListener st fn wrap).2 ins
        (nClasses (mkListener st fn wrap).1)) (Target.cls c) fn (mkListener st fn wrap).2 ins := rfl

theorem EInv.addCls {n : Nat} {st : St} (h : EInv n st) {c : Cls} (hc : c < nClasses st) {e : RegEntry}
    (het : e.target = Target.cls c) (hkey : hasKey st e.target e.fn = false)
    (hfresh : ∀ x ∈ clsEntries st, x.lsn ≠ e.lsn) (hb : e.lsn < st.lsn.length)
    (hk : e.lsn = e.fn ∨ n ≤ e.lsn) :
    EInv n (storeKey (insLoop st c e.lsn e.ins (nClasses st)) e.target e.fn e.lsn e.ins) := by
  -- `st2`: the state after the loop (`insLoop_spec`); the result is `addReg st2 e`, whose `EInv` is
  -- put together from that of `st`
  have hm : nClasses st = st.clslevel.length := h.base.len.symm
  obtain ⟨hsame, hdone, hkeep⟩ := insLoop_spec st h.base c e het (nClasses st) (Nat.le_of_eq hm)
  generalize insLoop st c e.lsn e.ins (nClasses st) = st2 at *
  have hk2 : hasKey st2 e.target e.fn = false := (hasKey_congr hsame.reg _ _).trans hkey
  rw [storeKey_new hk2]
  show EInv n (addReg st2 e)
  have hni : ∀ i, e.target ≠ Target.inst i := fun i hi => nomatch het.symm.trans hi
  have hsome : ∀ k, (dequeOf st k).isSome = true → (dequeOf st2 k).isSome = true := by
    intro k hk
    by_cases hr : Rel st c k
    · obtain ⟨d, hd⟩ := Option.isSome_iff_exists.1 hk
      rw [hdone k (hm ▸ dequeOf_some_lt hd) hr]
      rfl
    · rw [hkeep k (Or.inr hr)]
      exact hk
  refine h.withReg hsame.parent hsame.insts hsame.len ?reg (fun j => ?inst) ?deq ?tp hsome
  case deq =>
    intro k d (hd : dequeOf st2 k = some d)
    rw [specDeque_congr (st := addReg st e) (st' := addReg st2 e) hsame.parent
      (by simp only [addReg, hsame.reg])]
    by_cases hr : Rel st c k
    · rw [hdone k (by rw [hm, ← hsame.len]; exact dequeOf_some_lt hd) hr] at hd
      exact (Option.some.inj hd).symm
    · rw [specDeque_addReg st e c het k, if_neg hr]
      exact h.base.deq k d (hkeep k (Or.inr hr) ▸ hd)
  case tp =>
    intro x hx t ht
    show (dequeOf st2 t).isSome = true
    rcases List.mem_append.1 hx with hx | hx
    · exact hsome t (h.base.tp x (hsame.reg ▸ hx) t ht)
    · cases List.mem_singleton.1 hx
      cases het.symm.trans ht
      rw [hdone c hc (rel_self st c)]
      rfl
  case reg =>
    refine (h.reg.mono hsame.reg (Nat.le_of_eq (congrArg _ hsame.lsn.symm))).add hk2
      (fun _ x hx => hfresh x (clsEntries_congr hsame.reg ▸ hx)) (fun i hi => absurd hi (hni i))
      (by rw [hsame.lsn]; exact hb) hk
  case inst =>
    rw [instEntries_addReg, if_neg (hni j), List.append_nil, instEntries_congr hsame.reg]

theorem listenCls_inv {n : Nat} {st : St} (h : EInv n st) (c : Cls) (fn : Nat) (ins : Bool) (wrap : Nat)
    (hc : c < nClasses st) (hfn : fn < n) (hkey : hasKey st (Target.cls c) fn = false)
    (hdist : wrap = 0 → ∀ x ∈ clsEntries st, x.lsn ≠ fn) : EInv n (listenCls st c fn ins wrap) := by
  have hmk := mkListener_core st fn wrap
  obtain ⟨hlb, hlk, hlf⟩ := mkListener_fresh h.reg fn wrap hfn
  have h1 : EInv n (mkListener st fn wrap).1 := h.core hmk
  rw [listenCls_eq]
  generalize (mkListener st fn wrap).1 = st1 at *
  generalize (mkListener st fn wrap).2 = l at *
  refine h1.addCls (e := ⟨Target.cls c, fn, l, ins⟩) (by rw [nClasses, hmk.parent]; exact hc) rfl
    ((hasKey_congr hmk.reg _ _).trans hkey) (fun x hx hxl => ?_) hlb hlk
  -- the bare function listening on a class again is excluded by `hdist`
  obtain ⟨hxr, hxc⟩ := mem_clsEntries.1 hx
  have hx0 : x ∈ st.reg := hmk.reg ▸ hxr
  obtain ⟨hw, hxf⟩ := hlf x hx0 hxl
  exact hdist hw x (mem_clsEntries.2 ⟨hx0, hxc⟩) hxf

end SaVerif.Event
