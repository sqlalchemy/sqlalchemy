import SaVerif.Lemmas.SessFrame
/-! Identity-map key uniqueness is preserved by every function of M-ORM/Sess. -/
namespace SaVerif.Sess

/-- "keys nodup": no identity key occurs twice in `identity_map._dict` -/
def KN (σ : Sess) : Prop := (σ.imap.map Prod.fst).Nodup

@[simp] theorem setO_imap (σ : Sess) (o : Oid) (f : Obj → Obj) : (setO σ o f).imap = σ.imap := rfl
@[simp] theorem emit_imap (σ : Sess) (e : Ev) (o : Oid) : (emit σ e o).imap = σ.imap := rfl

theorem KN_deleted_upd (σ : Sess) (l : List Oid) (h : KN σ) : KN { σ with deleted := l } := h
theorem KN_db (σ : Sess) (l : List Nat) (h : KN σ) : KN { σ with db := l } := h
theorem KN_sql_db (σ : Sess) (n : Nat) (l : List Nat) (h : KN σ) : KN { σ with sql := n, db := l } := h
theorem KN_db_txns (σ : Sess) (d : List Nat) (l : List Txn) (h : KN σ) : KN { σ with db := d, txns := l } := h
theorem KN_committed (σ : Sess) (l : List Nat) (h : KN σ) : KN { σ with committed := l } := h

theorem KN_of_imap_eq {σ τ : Sess} (h : τ.imap = σ.imap) (hk : KN σ) : KN τ := by
  unfold KN at *; rw [h]; exact hk

theorem frame_KN : Frame (fun _ => True) (Keeps KN) where
  refl _ := id
  trans h1 h2 := h2 ∘ h1
  ext _ _ hi _ _ _ := KN_of_imap_eq hi
  setO _ _ _ _ := id
  imap _ _ h := h

theorem opFrame_KN : OpFrame (fun _ => True) (Keeps KN) :=
  have hall : ∀ o : Oid, True := fun _ => trivial
  have hnew : ∀ (σ : Sess) (p : Oid → Bool), KN σ → KN { σ with new := σ.new.filter p } := fun _ _ => id
  have hrs := frame_KN.restoreSnapshot hall hnew
  { frame_KN with
    extTxn := fun _ _ hi => KN_of_imap_eq hi
    append := fun _ _ => id
    saveImpl := fun σ o _ => by
      unfold saveImpl
      simp only [beforeAttach_eq]
      refine ite_fst_rel id ?_
      refine frame_KN.trans (frame_KN.trans (frame_KN.autobegin σ) (ite_rel id ?_))
        (ite_rel (frame_KN.afterAttach _ trivial) id)
      exact frame_KN.keep { autobegin σ with new := _ } o fun _ => ⟨rfl, rfl⟩
    updateImpl := fun σ o r => frame_KN.updateImpl σ r trivial
    delete := fun σ o => frame_KN.delete σ trivial
    expungeStates := fun σ os t => frame_KN.expungeStates hnew σ t fun _ _ => trivial
    expungeAll := fun σ _ => by
      unfold expungeAll
      exact frame_KN.detachStates _ false (fun _ _ => trivial) List.nodup_nil
    restoreSnapshot := hrs
    flushCore := fun σ proc dels _ => by
      unfold flushCore
      have h := frame_KN.flushExecute (fun _ _ => id) hnew σ dels (proc := proc) fun _ _ => trivial
      split
      · rename_i heq; rw [heq] at h; exact h
      · rename_i τ e heq; rw [heq] at h
        cases ht : τ.txns with
        | nil => unfold flushFailed; rw [ht]; exact h
        | cons t ts => exact frame_KN.flushFailed_tail hrs ht ∘ hrs _ _ ∘ h
    removeSnapshot := fun σ _ => frame_KN.removeSnapshot hall (fun _ _ => id) σ }

/-- `KN` itself does not need `hv` (`opFrame_KN.saveImpl` ignores the bound); it comes with `OpFrame.step` -/
theorem KN_step (σ : Sess) (op : Op) (hv : opValid σ op = true) : KN σ → KN (step σ op).1.1 := by
  refine opFrame_KN.step (fun σ o k => ?_) (fun σ o => ?_) σ op hv
  · unfold makeTransient
    refine frame_KN.trans (frame_KN.trans ?_ (frame_KN.setO _ o _ (Or.inl trivial))) (opFrame_KN.setPk _ o k true)
    exact ite_rel (opFrame_KN.expungeStates σ [o] false) id
  · unfold makeTransientToDetached
    simp only
    refine ite_fst_rel id ?_
    split
    · exact id
    · exact frame_KN.setO σ o _ (Or.inl trivial)

end SaVerif.Sess
