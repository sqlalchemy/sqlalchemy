import SaVerif.Model.TxnSpec
/-! Equations for the M-TXN model functions that every Txn file rests on, the `_previous_nested` chain as a list
of scopes (`ChainOk`), what ending transaction objects leaves alone (`Frame`), and the walk of `_cancel` along the
chain to its end (`cancelNested_spec`). -/
namespace SaVerif.Txn

theorem txn_append_lt {c c' : Conn} {x : Txn} (hc : c'.txns = c.txns ++ [x]) {h : Nat}
    (hh : h < c.txns.length) : c'.txn h = c.txn h := by
  rw [Conn.txn, Conn.txn, hc, List.getD_eq_getElem?_getD, List.getElem?_append_left hh,
    ← List.getD_eq_getElem?_getD]

theorem txn_congr {c c' : Conn} (h : c'.txns = c.txns) : c'.txn = c.txn :=
  funext fun x => congrArg (·.getD x default) h

theorem txn_append_new {c c' : Conn} {x : Txn} (hc : c'.txns = c.txns ++ [x]) :
    c'.txn c.txns.length = x := by
  rw [Conn.txn, hc, List.getD_eq_getElem?_getD, List.getElem?_concat_length]
  rfl

theorem setTxn_txn_ne (c : Conn) (h h' : Nat) (f : Txn → Txn) (hne : h ≠ h') :
    (c.setTxn h f).txn h' = c.txn h' := by
  simp [Conn.txn, Conn.setTxn, List.getD_eq_getElem?_getD, List.getElem?_modify_ne _ _ hne]

theorem setTxn_txn_eq (c : Conn) (h : Nat) (f : Txn → Txn) (hh : h < c.txns.length) :
    (c.setTxn h f).txn h = f (c.txn h) := by
  simp [Conn.txn, Conn.setTxn, List.getD_eq_getElem?_getD, List.getElem?_eq_getElem hh]

@[simp] theorem setTxn_length (c : Conn) (h : Nat) (f : Txn → Txn) :
    (c.setTxn h f).txns.length = c.txns.length := by
  simp [Conn.setTxn]

theorem setTxn_proj {α : Type} (g : Txn → α) (c : Conn) (h : Nat) (f : Txn → Txn)
    (hg : g (f (c.txn h)) = g (c.txn h)) (x : Nat) : g ((c.setTxn h f).txn x) = g (c.txn x) := by
  by_cases e : h = x
  · subst e
    simp only [Conn.txn, Conn.setTxn, List.getD_eq_getElem?_getD, List.getElem?_modify_eq] at hg ⊢
    cases e : c.txns[h]? with
    | none => rfl
    | some t => rw [e] at hg; exact hg
  · rw [setTxn_txn_ne _ _ _ _ e]

theorem takeFault_nil (db : DB) (p : FPoint) (h : db.faults = []) : db.takeFault p = (none, db) := by
  simp [DB.takeFault, h]

/-- following `_previous_nested` from `o` visits exactly the handles of `l` (innermost first),
    all of them live savepoint objects -/
def ChainOk (c : Conn) : Option Nat → List Scope → Prop
  | none, [] => True
  | some h, sc :: rest =>
      sc.h = h ∧ h < c.txns.length ∧ (c.txn h).isRoot = false ∧ (c.txn h).active = true
      ∧ (∀ p, (c.txn h).prev = some p → p < h) ∧ ChainOk c (c.txn h).prev rest
  | _, _ => False

theorem ChainOk.nil (c : Conn) : ChainOk c none [] := trivial

theorem ChainOk.cons {c : Conn} {n : Nat} {sc : Scope} {rest : List Scope} (hsc : sc.h = n)
    (hlt : n < c.txns.length) (hnr : (c.txn n).isRoot = false) (hact : (c.txn n).active = true)
    (hprev : ∀ p, (c.txn n).prev = some p → p < n) (hrest : ChainOk c (c.txn n).prev rest) :
    ChainOk c (some n) (sc :: rest) := ⟨hsc, hlt, hnr, hact, hprev, hrest⟩

theorem chain_nested_active {c : Conn} {l : List Scope} {n : Nat} (h : ChainOk c (some n) l) :
    c.act n = true := by
  cases l with
  | nil => exact h.elim
  | cons sc rest => exact h.2.2.2.1

theorem chain_none {c : Conn} {l : List Scope} (h : ChainOk c none l) : l = [] := by
  cases l with
  | nil => rfl
  | cons _ _ => exact h.elim

theorem chain_nil {c : Conn} {o : Option Nat} (h : ChainOk c o []) : o = none := by
  cases o with
  | none => rfl
  | some _ => exact h.elim

theorem chain_head_lt {c : Conn} {l : List Scope} {n : Nat} (h : ChainOk c (some n) l) :
    n < c.txns.length := by
  cases l with
  | nil => exact h.elim
  | cons _ _ => exact h.2.1

theorem chain_cons {c : Conn} {o : Option Nat} {sc : Scope} {rest : List Scope}
    (h : ChainOk c o (sc :: rest)) :
    o = some sc.h ∧ sc.h < c.txns.length ∧ (c.txn sc.h).isRoot = false ∧ (c.txn sc.h).active = true ∧
      (∀ p, (c.txn sc.h).prev = some p → p < sc.h) ∧ ChainOk c (c.txn sc.h).prev rest := by
  cases o with
  | none => exact h.elim
  | some n =>
    obtain ⟨h1, r⟩ := h
    cases h1
    exact ⟨rfl, r⟩

theorem chain_mem {c : Conn} : ∀ {l : List Scope} {o : Option Nat}, ChainOk c o l → ∀ sc ∈ l,
    sc.h < c.txns.length ∧ (c.txn sc.h).isRoot = false ∧ (c.txn sc.h).active = true ∧
      ∀ n, o = some n → sc.h ≤ n := by
  intro l
  induction l with
  | nil => intro o _ x hx; cases hx
  | cons sc rest ih =>
    intro o h x hx
    obtain ⟨rfl, hlt, hnr, hact, hprev, hrest⟩ := chain_cons h
    rcases List.mem_cons.1 hx with rfl | hx
    · exact ⟨hlt, hnr, hact, fun m hm => by cases hm; exact Nat.le_refl _⟩
    · obtain ⟨xlt, xnr, xact, xle⟩ := ih hrest x hx
      refine ⟨xlt, xnr, xact, fun m hm => ?_⟩
      cases hm
      cases hp : (c.txn sc.h).prev with
      | none => rw [hp] at hrest; rw [chain_none hrest] at hx; cases hx
      | some p => exact Nat.le_of_lt (Nat.lt_of_le_of_lt (xle p hp) (hprev p hp))

theorem chain_active {c : Conn} : ∀ {l : List Scope} {o : Option Nat}, ChainOk c o l →
    ∀ sc ∈ l, (c.txn sc.h).active = true := fun h sc hsc => (chain_mem h sc hsc).2.2.1

theorem chain_tail_ne {c : Conn} {sc : Scope} {rest : List Scope} {n : Nat}
    (h : ChainOk c (some n) (sc :: rest)) : ∀ x ∈ rest, x.h ≠ n := by
  intro x hx
  obtain ⟨e, -, -, -, hprev, hrest⟩ := chain_cons h
  obtain rfl := Option.some.inj e
  cases hp : (c.txn sc.h).prev with
  | none => rw [hp] at hrest; rw [chain_none hrest] at hx; cases hx
  | some p =>
    rw [hp] at hrest
    exact Nat.ne_of_lt (Nat.lt_of_le_of_lt ((chain_mem hrest x hx).2.2.2 p rfl) (hprev p hp))

@[simp] theorem andThen_ok (c : Conn) (f : Conn → Conn × Res) : andThen (c, .ok) f = f c := rfl

theorem andThen_cases {P : Conn × Res → Prop} {x : Conn × Res} {f : Conn → Conn × Res}
    (h1 : x.2 ≠ .ok → P x) (h2 : x.2 = .ok → P (f x.1)) : P (andThen x f) := by
  obtain ⟨c, r⟩ := x
  cases r
  case ok => exact h2 rfl
  all_goals exact h1 nofun

theorem andThen_not_ok {x : Conn × Res} {f : Conn → Conn × Res} (h : x.2 ≠ .ok) : andThen x f = x :=
  andThen_cases (P := (· = x)) (fun _ => rfl) (fun e => absurd e h)

@[simp] theorem andFinally_mk (c : Conn) (r : Res) (g : Conn → Conn) :
    andFinally (c, r) g = (g c, r) := rfl

theorem dbapiCall_nofault (c : Conn) (p : FPoint) (f : DB → DB) (h : c.db.faults = []) :
    c.dbapiCall p f = ({ c with db := f c.db }, .ok) := by
  simp [Conn.dbapiCall, takeFault_nil _ _ h]

theorem resetInterrupted_nofault (db : DB) (b : Bool) (h : db.faults = []) :
    db.resetInterrupted b = false := by
  unfold DB.resetInterrupted
  cases db.reset <;> simp [takeFault_nil _ _ h]

theorem releaseOrInterrupt_nofault (c : Conn) (b : Bool) (h : c.db.faults = []) :
    c.releaseOrInterrupt b = (c.release b, .ok) := by
  simp [Conn.releaseOrInterrupt, resetInterrupted_nofault _ _ h]

theorem connProp_held {c : Conn} (hd : c.hasDbapi = true) : c.connProp = (c, .ok) := by
  rw [Conn.connProp, if_pos hd]

theorem autobegin_some {c : Conn} {t : Nat} (ht : c.transaction = some t) : c.autobegin = (c, .ok) := by
  rw [Conn.autobegin, ht]
  rfl

theorem autobegin_none {c : Conn} (ht : c.transaction = none) (hd : c.hasDbapi = true)
    (hc : c.ctxRaises = false) : c.autobegin = (c.pushRoot, .ok) := by
  simp only [Conn.autobegin, Conn.begin, Conn.beginRoot, connProp_held hd, ht, hc, Option.isNone_none,
    if_true, Bool.false_eq_true, if_false, andThen_ok]

theorem autobegin_quiet {c : Conn} (hd : c.hasDbapi = true) (hc : c.ctxRaises = false)
    (hs : c.stale = false) :
    c.autobegin = (c.autobegin.1, .ok) ∧ c.autobegin.1.db = c.db ∧ c.autobegin.1.hasDbapi = true ∧
      c.autobegin.1.inTransaction = true := by
  cases ht : c.transaction with
  | none =>
    rw [autobegin_none ht hd hc]
    refine ⟨rfl, rfl, hd, ?_⟩
    show (c.pushRoot.txn c.txns.length).active = true
    rw [txn_append_new (c' := c.pushRoot) rfl]
  | some t =>
    rw [autobegin_some ht]
    refine ⟨rfl, rfl, hd, ?_⟩
    rw [Conn.stale, ht, Bool.or_eq_false_iff] at hs
    rw [Conn.inTransaction, ht]
    exact (Bool.not_eq_false' _).mp hs.1

theorem execute_quiet {c : Conn} (hd : c.hasDbapi = true) (hf : c.db.faults = [])
    (hl : c.db.listener ≠ .forceDisc) (hc : c.ctxRaises = false) (hs : c.stale = false) (q : Sql) :
    c.execute q =
      match c.autobegin.1.db.apply q with
      | (some db, _) => ({ c.autobegin.1 with db := db }, .ok)
      | (none, r) => (c.autobegin.1, r) := by
  obtain ⟨hab, hdb, _, hin⟩ := autobegin_quiet hd hc hs
  have hcur : c.dbapiCall .cursor id = (c, .ok) := dbapiCall_nofault _ _ _ hf
  have hl' : (c.autobegin.1.db.listener == .forceDisc) = false := by
    rw [hdb]
    exact beq_eq_false_iff_ne.2 hl
  simp only [Conn.execute, connProp_held hd, andThen_ok, hcur, Conn.execChecked, hs, hc,
    Bool.false_eq_true, if_false]
  rw [hab]
  simp only [andThen_ok, Conn.runSql, takeFault_nil _ _ (hdb ▸ hf)]
  cases c.autobegin.1.db.apply q with
  | mk o r =>
    cases o with
    | some db => rfl
    | none => simp [Conn.dbapiError, hl', Conn.plainError, hin]

theorem chain_frame {c c' : Conn} (hlen : c.txns.length ≤ c'.txns.length) :
    ∀ {l : List Scope} {o : Option Nat}, (∀ sc ∈ l, c'.txn sc.h = c.txn sc.h) →
      ChainOk c o l → ChainOk c' o l := by
  intro l
  induction l with
  | nil => intro o _ h; cases o <;> exact h
  | cons sc rest ih =>
    intro o hs h
    obtain ⟨rfl, hlt, hnr, hact, hprev, hrest⟩ := chain_cons h
    rw [← hs sc List.mem_cons_self] at hnr hact hprev hrest
    exact .cons rfl (Nat.lt_of_lt_of_le hlt hlen) hnr hact hprev
      (ih (fun x hx => hs x (List.mem_cons_of_mem _ hx)) hrest)

theorem deactivate_txn_eq (c : Conn) (h : Nat) (hh : h < c.txns.length) :
    (c.deactivate h).txn h = { c.txn h with active := false } :=
  setTxn_txn_eq _ _ _ hh

theorem deactivate_txn_ne (c : Conn) (h h' : Nat) (hne : h ≠ h') :
    (c.deactivate h).txn h' = c.txn h' :=
  setTxn_txn_ne _ _ _ _ hne

theorem deactivate_txn_inactive (c : Conn) (h : Nat) (hi : (c.txn h).active = false) (x : Nat) :
    (c.deactivate h).txn x = c.txn x :=
  setTxn_proj id c h _ (by rw [← hi]) x

theorem deactivate_isRoot (c : Conn) (h h' : Nat) :
    ((c.deactivate h).txn h').isRoot = (c.txn h').isRoot :=
  setTxn_proj (·.isRoot) c h (fun t => { t with active := false }) rfl h'

theorem deactivate_prev (c : Conn) (h x : Nat) : ((c.deactivate h).txn x).prev = (c.txn x).prev :=
  setTxn_proj (·.prev) c h (fun t => { t with active := false }) rfl x

/-- what deactivating handles and moving `nested` leaves alone -/
structure Frame (c c' : Conn) : Prop where
  len : c'.txns.length = c.txns.length
  transaction : c'.transaction = c.transaction
  db : c'.db = c.db
  spSeq : c'.spSeq = c.spSeq
  ctxMgr : c'.ctxMgr = c.ctxMgr
  hasDbapi : c'.hasDbapi = c.hasDbapi
  canReconnect : c'.canReconnect = c.canReconnect
  isRoot : ∀ h, (c'.txn h).isRoot = (c.txn h).isRoot

theorem Frame.refl (c : Conn) : Frame c c := ⟨rfl, rfl, rfl, rfl, rfl, rfl, rfl, fun _ => rfl⟩

theorem Frame.trans {a b c : Conn} (h1 : Frame a b) (h2 : Frame b c) : Frame a c :=
  ⟨h2.len.trans h1.len, h2.transaction.trans h1.transaction, h2.db.trans h1.db,
   h2.spSeq.trans h1.spSeq, h2.ctxMgr.trans h1.ctxMgr, h2.hasDbapi.trans h1.hasDbapi,
   h2.canReconnect.trans h1.canReconnect, fun h => (h2.isRoot h).trans (h1.isRoot h)⟩

theorem frame_deactivate (c : Conn) (h : Nat) : Frame c (c.deactivate h) :=
  { Frame.refl c with len := setTxn_length _ _ _, isRoot := deactivate_isRoot c h }

theorem frame_nestedDeactivate (c : Conn) (h : Nat) (w : Bool) : Frame c (c.nestedDeactivate h w) := by
  unfold Conn.nestedDeactivate
  split
  · exact ⟨rfl, rfl, rfl, rfl, rfl, rfl, rfl, fun _ => rfl⟩
  · split
    · exact ⟨rfl, rfl, rfl, rfl, rfl, rfl, rfl, fun _ => rfl⟩
    · exact Frame.refl c

theorem frame_rootDeactivate (c : Conn) (h : Nat) : Frame c (c.rootDeactivate h) := by
  unfold Conn.rootDeactivate
  split
  · exact frame_deactivate c h
  · split
    · exact ⟨rfl, rfl, rfl, rfl, rfl, rfl, rfl, fun _ => rfl⟩
    · exact Frame.refl c

theorem cancel_ind {R : Conn → Conn → Prop} (hr : ∀ c, R c c) (ht : ∀ {a b c}, R a b → R b c → R a c)
    (hs : ∀ c h, R c ((c.deactivate h).nestedDeactivate h true)) :
    ∀ (fuel : Nat) (c : Conn) (h : Nat), R c (Conn.cancel fuel c h) := by
  intro fuel
  induction fuel with
  | zero => intro c h; exact hr c
  | succ f ih =>
    intro c h
    simp only [Conn.cancel]
    split
    · exact ht (hs c h) (ih _ _)
    · exact hs c h

theorem cancelNested_ind {R : Conn → Conn → Prop} (hr : ∀ c, R c c)
    (ht : ∀ {a b c}, R a b → R b c → R a c)
    (hs : ∀ c h, R c ((c.deactivate h).nestedDeactivate h true)) (c : Conn) : R c c.cancelNested := by
  unfold Conn.cancelNested
  split
  · exact cancel_ind hr ht hs _ _ _
  · exact hr c

theorem frame_cancelNested (c : Conn) : Frame c c.cancelNested :=
  cancelNested_ind Frame.refl Frame.trans
    (fun c h => (frame_deactivate c h).trans (frame_nestedDeactivate _ h true)) c

/-- `c` after the current savepoint object `n` has ended (`nestedDeactivate_pop`) -/
def Conn.poppedNested (c : Conn) (n : Nat) : Conn :=
  { c.deactivate n with nested := (c.txn n).prev }

theorem nestedDeactivate_pop (c : Conn) (n : Nat) (w : Bool) (hn : c.nested = some n) :
    (c.deactivate n).nestedDeactivate n w = c.poppedNested n := by
  have e1 : ((c.deactivate n).nested == some n) = true := by
    simp only [Conn.deactivate, Conn.setTxn, hn, beq_self_eq_true]
  simp only [Conn.nestedDeactivate, e1, if_true, deactivate_prev]
  rfl

theorem cancel_succ (c : Conn) (n f : Nat) (hn : c.nested = some n) :
    Conn.cancel (f + 1) c n =
      match (c.txn n).prev with
      | some p => Conn.cancel f (c.poppedNested n) p
      | none => c.poppedNested n := by
  simp only [Conn.cancel, nestedDeactivate_pop c n true hn]
  rw [show ((c.poppedNested n).txn n).prev = (c.txn n).prev from deactivate_prev c n n]
  rfl

theorem rootCloseImpl_ended (c : Conn) (h : Nat) (b : Bool) (hi : c.act h = false)
    (hd : c.transaction ≠ some h) (hn : c.nested = none) :
    c.rootCloseImpl h b = (if b then c.warn else c, .ok) := by
  have hcn : c.cancelNested = c := by rw [Conn.cancelNested, hn]
  have h1 : (c.transaction == some h) = false := by simpa using hd
  simp only [Conn.rootCloseImpl, hi, Bool.false_eq_true, if_false, andThen_ok, hcn, andFinally_mk,
    Conn.rootCloseFinally]
  cases b
  · simp only [Bool.or_self, Bool.false_eq_true, if_false, h1]
  · have hne : (c.transaction != some h) = true := by simp [bne, h1]
    have h1' : (c.warn.transaction == some h) = false := h1
    simp only [Bool.or_true, if_true, Conn.rootDeactivate, hne, hi, Bool.false_eq_true, if_false, h1']

theorem nestedCloseImpl_ended (c : Conn) (h : Nat) (w : Bool) (hi : c.act h = false)
    (hd : c.nested ≠ some h) :
    c.nestedCloseImpl h w = (if w then (c.deactivate h).warn else c.deactivate h, .ok) := by
  have h2 : ((c.deactivate h).nested == some h) = false := by
    simp only [Conn.deactivate, Conn.setTxn]; simpa using hd
  simp only [Conn.nestedCloseImpl, hi, Bool.false_and, Bool.false_eq_true, if_false, andFinally_mk,
    Conn.nestedDeactivate, h2]

theorem tCommit_ended (c : Conn) (h : Nat) (hi : c.act h = false) :
    c.tCommit h = (c, if c.attached h then .pendingRollback else .invalidRequest) := by
  unfold Conn.tCommit Conn.attached
  cases (c.txn h).isRoot
  · simp only [Bool.false_eq_true, if_false, Conn.nestedCommit, hi]
    cases (c.nested == some h) <;> rfl
  · simp only [if_true, Conn.rootCommit, hi, Bool.false_eq_true, if_false]
    cases (c.transaction == some h) <;> rfl

theorem cancel_chain : ∀ (l : List Scope) (fuel n : Nat) (c : Conn),
    ChainOk c (some n) l → c.nested = some n → n < fuel →
    (Conn.cancel fuel c n).nested = none ∧
    (Conn.cancel fuel c n).warns = c.warns ∧
    (∀ sc ∈ l, ((Conn.cancel fuel c n).txn sc.h).active = false) ∧
    (∀ h, (∀ sc ∈ l, sc.h ≠ h) → (Conn.cancel fuel c n).txn h = c.txn h) := by
  intro l
  induction l with
  | nil => intro fuel n c h; exact h.elim
  | cons sc rest ih =>
    intro fuel n c hch hn hf
    cases fuel with
    | zero => cases hf
    | succ f =>
      -- One step of `cancel` is `poppedNested n` (`cancel_succ`).  It changes the handle `n` only, which is not
      -- on the rest of the chain, so the rest is still a chain (`chain_frame`) and `ih` applies at `prev`.
      have hne_rest : ∀ x ∈ rest, x.h ≠ n := chain_tail_ne hch
      obtain ⟨e, hlt, _, _, hprev, hrest⟩ := chain_cons hch
      have hsc_n : sc.h = n := (Option.some.inj e).symm
      rw [hsc_n] at hlt hprev hrest
      have pop_n : (c.poppedNested n).txn n = { c.txn n with active := false } :=
        deactivate_txn_eq c n hlt
      have pop_ne : ∀ x, n ≠ x → (c.poppedNested n).txn x = c.txn x :=
        fun x hx => deactivate_txn_ne c n x hx
      have hlen : (c.poppedNested n).txns.length = c.txns.length := setTxn_length c n _
      have hoff_n : ∀ h, (∀ y ∈ sc :: rest, y.h ≠ h) → n ≠ h :=
        fun h hne e => hne sc List.mem_cons_self (hsc_n.trans e)
      rw [cancel_succ c n f hn]
      cases hp : (c.txn n).prev with
      | none =>
        rw [hp] at hrest
        cases chain_none hrest
        refine ⟨hp, rfl, fun x hx => ?_, fun h hne => pop_ne h (hoff_n h hne)⟩
        cases List.mem_singleton.1 hx
        rw [hsc_n, pop_n]
      | some p =>
        rw [hp] at hrest
        have hch1 : ChainOk (c.poppedNested n) (some p) rest :=
          chain_frame (Nat.le_of_eq hlen.symm)
            (fun x hx => pop_ne x.h (fun e => hne_rest x hx e.symm)) hrest
        obtain ⟨hnone, hwarns, hoff, hsame⟩ := ih f p _ hch1 hp (by have := hprev p hp; omega)
        refine ⟨hnone, hwarns, fun x hx => ?_, fun h hne => ?_⟩
        · rcases List.mem_cons.1 hx with rfl | hx
          · rw [hsc_n, hsame n hne_rest, pop_n]
          · exact hoff x hx
        · rw [hsame h (fun y hy => hne y (List.mem_cons_of_mem _ hy))]
          exact pop_ne h (hoff_n h hne)

theorem cancelNested_spec {c : Conn} {l : List Scope} (hch : ChainOk c c.nested l) :
    c.cancelNested.nested = none ∧
    Frame c c.cancelNested ∧
    c.cancelNested.warns = c.warns ∧
    (∀ sc ∈ l, (c.cancelNested.txn sc.h).active = false) ∧
    (∀ h, (∀ sc ∈ l, sc.h ≠ h) → c.cancelNested.txn h = c.txn h) := by
  have hf := frame_cancelNested c
  unfold Conn.cancelNested at hf ⊢
  cases hn : c.nested with
  | none =>
    rw [hn] at hch hf
    cases chain_none hch
    exact ⟨hn, hf, rfl, nofun, fun _ _ => rfl⟩
  | some n =>
    rw [hn] at hch hf
    obtain ⟨hnone, rest⟩ := cancel_chain l c.txns.length n c hch hn (chain_head_lt hch)
    exact ⟨hnone, hf, rest⟩

end SaVerif.Txn
