import SaVerif.Lemmas.TxnPool
/-!
Frame lemma for the context-manager fields: no transaction operation changes
`Connection._trans_context_manager` or the `_outer_trans_ctx` / `_trans_subject` slots of an
existing transaction object (only `__enter__` / `__exit__` do).
-/
namespace SaVerif.Txn

structure CtxSame (c c' : Conn) : Prop where
  ctxMgr : c'.ctxMgr = c.ctxMgr
  len : c.txns.length ≤ c'.txns.length
  keep : ∀ x, x < c.txns.length →
    (c'.txn x).outerCtx = (c.txn x).outerCtx ∧ (c'.txn x).subject = (c.txn x).subject

theorem CtxSame.refl (c : Conn) : CtxSame c c := ⟨rfl, Nat.le_refl _, fun _ _ => ⟨rfl, rfl⟩⟩
theorem CtxSame.trans {a b c : Conn} (h1 : CtxSame a b) (h2 : CtxSame b c) : CtxSame a c :=
  ⟨h2.ctxMgr.trans h1.ctxMgr, Nat.le_trans h1.len h2.len, fun x hx =>
    ⟨((h2.keep x (Nat.lt_of_lt_of_le hx h1.len)).1).trans (h1.keep x hx).1,
     ((h2.keep x (Nat.lt_of_lt_of_le hx h1.len)).2).trans (h1.keep x hx).2⟩⟩

theorem ctxSame_of_eq {c c' : Conn} (htxns : c'.txns = c.txns) (hcm : c'.ctxMgr = c.ctxMgr) : CtxSame c c' :=
  ⟨hcm, by rw [htxns]; exact Nat.le_refl _, fun _ _ => txn_congr htxns ▸ ⟨rfl, rfl⟩⟩

theorem ctxSame_of_append {c c' : Conn} (t : Txn) (htxns : c'.txns = c.txns ++ [t])
    (hcm : c'.ctxMgr = c.ctxMgr) : CtxSame c c' :=
  ⟨hcm, by simp [htxns], fun x hx => by rw [txn_append_lt htxns hx]; exact ⟨rfl, rfl⟩⟩

theorem ctxSame_append (c : Conn) (t : Txn) : CtxSame c { c with txns := c.txns ++ [t] } :=
  ctxSame_of_append t rfl rfl

theorem ctxSame_pushNested (c : Conn) : CtxSame c c.pushNested := ctxSame_of_append _ rfl rfl

theorem Evo.ctxSame {c c' : Conn} (he : Evo false c c') : CtxSame c c' := by
  induction he with
  | refl => exact CtxSame.refl _
  | trans _ _ ih1 ih2 => exact ih1.trans ih2
  | pushRoot | pushNested => exact ctxSame_of_append _ rfl rfl
  | @setTxn c h f hf =>
    exact ⟨rfl, Nat.le_of_eq (setTxn_length c h f).symm, fun x _ =>
      ⟨setTxn_proj (·.outerCtx) c h f ((hf _).2.2 rfl).1 x,
       setTxn_proj (·.subject) c h f ((hf _).2.2 rfl).2 x⟩⟩
  | setCtx _ h => cases h
  | _ => exact ctxSame_of_eq rfl rfl

end SaVerif.Txn
