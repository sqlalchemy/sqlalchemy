import SaVerif.Lemmas.Like
/-! For C43: the ORM evaluator compares against the bind value itself, which is right when the bind
    value spells itself as a LIKE pattern: none of its characters is `%`, `_` or the escape. -/
namespace SaVerif.Like

theorem Lit_self (E : Option Char) (p : List Char)
    (h : ∀ c ∈ p, c ≠ '%' ∧ c ≠ '_' ∧ E ≠ some c) : Lit E p p := by
  induction p with
  | nil => exact .nil
  | cons c p ih =>
    have hc := h c (by simp)
    exact .plain hc.1 hc.2.1 hc.2.2 (ih (fun d hd => h d (by simp [hd])))

end SaVerif.Like
