/-!
Reading an ASCII string off its bytes.  `String.toList` runs the UTF-8 decoder, which the
kernel evaluates slowly; generated tables are ASCII, and `toList_eq_asciiToList` lets a proof
by evaluation read them bytewise.
-/
namespace SaVerif

/-- the lead byte of every encoding longer than one byte has this form -/
theorem lead_byte_ge (x : Nat) {k m : Nat} (hk : 0 < k) (hkm : k + m ≤ 256) (hm : 128 ≤ m) :
    ¬ (UInt8.ofNat (x % k + m)).toNat < 128 := by
  rw [UInt8.toNat_ofNat', Nat.mod_eq_of_lt (Nat.lt_of_lt_of_le (Nat.add_lt_add_right (Nat.mod_lt x hk) m) hkm)]
  exact Nat.not_lt.2 (Nat.le_trans hm (Nat.le_add_left ..))

theorem map_ofNat_utf8EncodeChar {c : Char} (h : ∀ b ∈ String.utf8EncodeChar c, b.toNat < 128) :
    (String.utf8EncodeChar c).map (fun b => Char.ofNat b.toNat) = [c] := by
  unfold String.utf8EncodeChar at h ⊢
  by_cases h1 : c.val.toNat ≤ 0x7f
  · have : c.val.toNat % 256 = c.toNat := Nat.mod_eq_of_lt (by omega)
    simp only [h1, if_true, List.map, UInt8.toNat_ofNat', this, Char.ofNat_toNat]
  · simp only [h1, if_false] at h
    split at h
    · exact absurd (h _ List.mem_cons_self) (lead_byte_ge _ (by decide) (by decide) (by decide))
    · split at h
      · exact absurd (h _ List.mem_cons_self) (lead_byte_ge _ (by decide) (by decide) (by decide))
      · exact absurd (h _ List.mem_cons_self) (lead_byte_ge _ (by decide) (by decide) (by decide))

theorem map_ofNat_utf8Encode : ∀ (l : List Char),
    (∀ b ∈ l.flatMap String.utf8EncodeChar, b.toNat < 128) →
    (l.flatMap String.utf8EncodeChar).map (fun b => Char.ofNat b.toNat) = l
  | [], _ => rfl
  | c :: l, h => by
    simp only [List.flatMap_cons, List.mem_append] at h
    rw [List.flatMap_cons, List.map_append, map_ofNat_utf8EncodeChar fun b hb => h b (.inl hb),
      map_ofNat_utf8Encode l fun b hb => h b (.inr hb)]
    rfl

def asciiToList (s : String) : List Char :=
  if s.toByteArray.data.toList.all (·.toNat < 128) then
    s.toByteArray.data.toList.map (fun b => Char.ofNat b.toNat)
  else s.toList

theorem toList_eq_asciiToList (s : String) : s.toList = asciiToList s := by
  unfold asciiToList
  split
  · rename_i h
    have e : s.toByteArray.data.toList = s.toList.flatMap String.utf8EncodeChar := by
      rw [← String.utf8Encode_toList, List.utf8Encode, List.toList_data_toByteArray]
    rw [e] at h ⊢
    exact (map_ofNat_utf8Encode _ fun b hb => of_decide_eq_true (List.all_eq_true.1 h b hb)).symm
  · rfl

end SaVerif
