import SaVerif.Lemmas.ExprCore
import SaVerif.Lemmas.PrattTight
/-!
Two predicates on token trees, without grammar and without `SaExpr`.  `Exp p x`: `x` is built from closed
pieces and nodes of fragment operators above `p`.  `Disc x`: every operator node of `x` has its operands
grouped as the precedence table asks; a bracket body is a separator chain (`sepOpnds`) of such trees.
`Lemmas/ExprRender` builds them, `Lemmas/ExprCompat` uses them.
-/
namespace SaVerif.Expr
open SaVerif.Expr.Gen SaVerif.Pratt

def closedG : G → Bool
  | G.atom _ => true
  | G.br _ _ => true
  | _ => false

theorem closedG_caseG (v : Option G) (ws : List G) (e : Option G) : closedG (caseG v ws e) = true := by
  unfold caseG
  cases caseBody v ws with
  | none => rfl
  | some p => cases e <;> rfl

theorem chainFrom_induct {A B : G → Prop} {s : Sym} {t : String} :
    ∀ (gs : List G) (acc : G), A acc → (∀ x ∈ gs, B x) →
      (∀ acc x, A acc → B x → A (G.inf s t acc x)) → A (chainFrom s t acc gs)
  | [], _, ha, _, _ => ha
  | x :: gs, _, ha, hx, step =>
    chainFrom_induct gs _ (step _ x ha (hx x (by simp))) (fun y hy => hx y (by simp [hy])) step

section
-- `full`: the grammar reads every bare operand of `||` as the table does (`concatFull g = true` where
-- a grammar comes in, `Lemmas/ExprOk`); a parameter, since the trees are described without a grammar
variable {full : Prop}

inductive Exp (p : Int) : G → Prop
  | closed {x} : closedG x = true → Exp p x
  | pre {u} (t) {c} : u ∈ corePrefix → p < precOf u → Exp p c → Exp p (G.pre (symOf u) t c)
  | inf {o} (t) {l r} : o ∈ coreInfix → btwOp o = false → p < precOf o → Exp p l → Exp p r →
      Exp p (G.inf (symOf o) t l r)
  | tern {o} (t m mt) {a b c} : o ∈ coreInfix → ternOp o = true → p < precOf o →
      Exp p a → Exp p b → Exp p c → Exp p (G.tern (symOf o) t m mt a b c)

def sepOpnds : G → List G
  | G.inf s t acc x => if s.isSep then sepOpnds acc ++ [x] else [G.inf s t acc x]
  | x => [x]

/-- an operand left bare under `o`; under `||` it is closed unless `full`: the cells of finding F1 -/
def Opnd (full : Prop) (o : Op) (c : G) : Prop :=
  (Exp (precOf o) c ∧ (o ≠ .concat_op ∨ full ∨ closedG c = true)) ∨
  (naturalSelfPrecedent o = true ∧ rootIs (symOf o) c = true)

inductive Disc (full : Prop) : G → Prop
  | atom (a) : Disc full (G.atom a)
  | br (k) {b} : (∀ x ∈ sepOpnds b, Disc full x) → Disc full (G.br k b)
  | pre {u} (t) {c} : u ∈ corePrefix → Exp (precOf u) c → Disc full c → Disc full (G.pre (symOf u) t c)
  | inf {o} (t) {l r} : o ∈ coreInfix → btwOp o = false → Opnd full o l → Opnd full o r →
      Disc full l → Disc full r → Disc full (G.inf (symOf o) t l r)
  | esc {o} (t mt) {a b} (c) : likeOp o = true → closedG a = true → closedG b = true →
      Disc full a → Disc full b → Disc full (G.tern (symOf o) t .escape mt a b (G.atom c))
  | btw {o} (t mt) {a lo hi} : btwOp o = true → Exp (precOf o) a → Exp (precOf o) lo →
      Exp (precOf o) hi → Disc full a → Disc full lo → Disc full hi →
      Disc full (G.tern (symOf o) t .and_ mt a lo hi)

theorem Disc.exp {x : G} (h : Disc full x) : Exp (opSmallest - 1) x := by
  induction h with
  | atom a => exact .closed rfl
  | br k _ _ => exact .closed rfl
  | pre t hu _ _ ih => exact .pre t hu (precOf_bottom _) ih
  | inf t ho hb _ _ _ _ ihl ihr => exact .inf t ho hb (precOf_bottom _) ihl ihr
  | esc t mt c hl _ _ _ _ iha ihb =>
    exact .tern t _ mt (likeOp_mem hl) (by simp [ternOp, hl]) (precOf_bottom _) iha ihb (.closed rfl)
  | btw t mt hb _ _ _ _ _ _ iha ihlo ihhi =>
    exact .tern t _ mt (btwOp_mem hb) (by simp [ternOp, hb]) (precOf_bottom _) iha ihlo ihhi

theorem Exp.sepOpnds {p : Int} {x : G} (h : Exp p x) : sepOpnds x = [x] := by
  cases h with
  | closed hx => cases x <;> first | rfl | cases hx
  | inf t ho => simp [Expr.sepOpnds, symOf_not_sep ho]
  | _ => rfl

theorem body_one {x : G} (h : Disc full x) : ∀ y ∈ sepOpnds x, Disc full y := by
  rw [h.exp.sepOpnds]; simpa using h

theorem body_sep {s : Sym} (t : String) {acc x : G} (hs : s.isSep = true)
    (ha : ∀ y ∈ sepOpnds acc, Disc full y) (hx : Disc full x) :
    ∀ y ∈ sepOpnds (G.inf s t acc x), Disc full y := by
  simp only [sepOpnds, hs, if_true, List.mem_append, List.mem_singleton]
  rintro y (hy | rfl)
  · exact ha y hy
  · exact hx

theorem body_comma (gs : List G) (h : ∀ x ∈ gs, Disc full x) :
    ∀ y ∈ sepOpnds (chain .comma ", " gs), Disc full y := by
  cases gs with
  | nil => exact body_one (.atom _)
  | cons x xs =>
    exact chainFrom_induct (A := fun acc => ∀ y ∈ sepOpnds acc, Disc full y) xs x
      (body_one (h x (by simp))) (fun y hy => h y (by simp [hy])) fun _ _ => body_sep ", " rfl

theorem body_whenChain : ∀ (gs : List G) (acc : G),
    (∀ y ∈ sepOpnds acc, Disc full y) → (∀ x ∈ gs, Disc full x) →
      ∀ y ∈ sepOpnds (whenChain acc gs), Disc full y
  | [], _, ha, _ => ha
  | [_], _, ha, _ => ha
  | c :: r :: rest, _, ha, hx =>
    body_whenChain rest _
      (body_sep " THEN " rfl (body_sep " WHEN " rfl ha (hx c (by simp))) (hx r (by simp)))
      fun y hy => hx y (by simp [hy])

theorem disc_caseG (v : Option G) (ws : List G) (e : Option G)
    (hv : ∀ x, v = some x → Disc full x) (hw : ∀ x ∈ ws, Disc full x)
    (he : ∀ x, e = some x → Disc full x) : Disc full (caseG v ws e) := by
  have key : ∀ (k : Bracket) (b : G), (∀ y ∈ sepOpnds b, Disc full y) →
      Disc full (caseEnd k b e) := by
    intro k b hb
    cases e with
    | none => exact .br _ hb
    | some eg => exact .br _ (body_sep " ELSE " rfl hb (he eg rfl))
  unfold caseG
  cases v with
  | none =>
    cases ws with
    | nil => exact .atom _
    | cons c ws =>
      cases ws with
      | nil => exact .atom _
      | cons r rest =>
        exact key _ _ (body_whenChain rest _
          (body_sep " THEN " rfl (body_one (hw c (by simp))) (hw r (by simp)))
          fun y hy => hw y (by simp [hy]))
  | some vg => exact key _ _ (body_whenChain ws _ (body_one (hv vg rfl)) hw)

end

end SaVerif.Expr
