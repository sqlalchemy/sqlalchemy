import SaVerif.Lemmas.Ddl
import SaVerif.Lemmas.ListFacts
/-! Executing DDL op lists on the strict backend: one equation per statement it accepts, then the
state reached by each of the sequences that `emitCreate` and `emitDrop` are made of. -/
namespace SaVerif.Ddl

theorem run_nil (db : DB) : run db [] = some db := rfl

theorem run_cons (db : DB) (o : Op) (ops : List Op) :
    run db (o :: ops) = (exec db o).bind (fun d => run d ops) := rfl

theorem run_append (db : DB) (a b : List Op) :
    run db (a ++ b) = (run db a).bind (fun d => run d b) :=
  List.foldlM_append

theorem exec_createTable {db : DB} {t : Nat} {inl : List Fkc} (hnew : t ∉ db.tables)
    (href : ∀ f ∈ inl, f.ref = t ∨ f.ref ∈ db.tables) :
    exec db (.createTable t inl) =
      some ⟨db.tables ++ [t], db.fks ++ inl.map (fun f => (t, f)), db.idx⟩ := by
  have hall : inl.all (fun f => f.ref == t || db.tables.contains f.ref) = true := by
    simp only [List.all_eq_true, Bool.or_eq_true, beq_iff_eq, List.contains_iff_mem]
    exact href
  exact (if_neg (mt List.contains_iff_mem.1 hnew)).trans (if_pos hall)

theorem exec_createIndex {db : DB} {t ix : Nat} (h : t ∈ db.tables) :
    exec db (.createIndex t ix) = some ⟨db.tables, db.fks, db.idx ++ [(t, ix)]⟩ :=
  if_pos (List.contains_iff_mem.2 h)

theorem exec_addConstraint {db : DB} {t : Nat} {f : Fkc} (h1 : t ∈ db.tables)
    (h2 : f.ref ∈ db.tables) (h3 : (t, f) ∉ db.fks) :
    exec db (.addConstraint t f) = some ⟨db.tables, db.fks ++ [(t, f)], db.idx⟩ := by
  refine if_pos ?_
  rw [List.contains_iff_mem.2 h1, List.contains_iff_mem.2 h2,
    Bool.eq_false_iff.2 (mt List.contains_iff_mem.1 h3)]
  rfl

theorem exec_dropConstraint {db : DB} {t : Nat} {f : Fkc} (h1 : f.named = true)
    (h2 : (t, f) ∈ db.fks) :
    exec db (.dropConstraint t f) =
      some ⟨db.tables, db.fks.filter (fun r => r != (t, f)), db.idx⟩ := by
  refine if_pos ?_
  rw [h1, List.contains_iff_mem.2 h2]
  rfl

theorem exec_dropTable {db : DB} {t : Nat} (h1 : t ∈ db.tables)
    (h2 : ∀ r ∈ db.fks, r.2.ref ≠ t ∨ r.1 = t) :
    exec db (.dropTable t) =
      some ⟨db.tables.filter (· != t), db.fks.filter (fun r => r.1 != t),
            db.idx.filter (fun r => r.1 != t)⟩ := by
  have hall : db.fks.all (fun r => r.2.ref != t || r.1 == t) = true := by
    simp only [List.all_eq_true, Bool.or_eq_true, bne_iff_ne, beq_iff_eq]
    exact h2
  refine if_pos ?_
  rw [List.contains_iff_mem.2 h1, hall]
  rfl

theorem idxOf_cons_lt {x a b : Nat} {l : List Nat}
    (h : (x :: l).idxOf a < (x :: l).idxOf b) : b ≠ x ∧ (a = x ∨ l.idxOf a < l.idxOf b) := by
  rw [List.idxOf_cons, List.idxOf_cons] at h
  by_cases hb : x = b
  · rw [hb, beq_self_eq_true, cond_true] at h
    exact absurd h (Nat.not_lt_zero _)
  · refine ⟨fun e => hb e.symm, ?_⟩
    by_cases ha : x = a
    · exact .inl ha.symm
    · rw [beq_false_of_ne ha, beq_false_of_ne hb] at h
      exact .inr (Nat.lt_of_succ_lt_succ h)

theorem run_createIndexes (i : Nat) : ∀ (ixs : List Nat) (db : DB), i ∈ db.tables →
    run db (ixs.map (Op.createIndex i)) =
      some ⟨db.tables, db.fks, db.idx ++ ixs.map (fun x => (i, x))⟩ := by
  intro ixs
  induction ixs with
  | nil => intro db _; rw [List.map_nil, List.map_nil, List.append_nil]; rfl
  | cons x xs ih =>
    intro db hi
    rw [List.map_cons, run_cons, exec_createIndex hi, Option.bind_some,
      ih ⟨db.tables, db.fks, db.idx ++ [(i, x)]⟩ hi, List.map_cons, List.append_assoc]
    rfl

theorem mem_createInline_true {disabled : List FkRef} {s : Sorted} {t : Tbl} {f : Fkc} :
    f ∈ createInline true disabled s t ↔
      f ∈ t.fkcs ∧ ((t.id, f) ∉ s.remaining ∧ f.useAlter = false) ∧ (t.id, f) ∉ disabled := by
  simp only [createInline, if_true, List.mem_filter, Bool.and_eq_true, Bool.not_eq_true',
    List.contains_eq_mem, decide_eq_false_iff_not]

theorem exists_mem_mk_eq {α β} {a : α} {l : List β} {x : α × β} :
    (∃ b ∈ l, (a, b) = x) ↔ a = x.1 ∧ x.2 ∈ l :=
  ⟨fun ⟨_, hb, e⟩ => e ▸ ⟨rfl, hb⟩, fun ⟨h1, h2⟩ => ⟨x.2, h2, by rw [h1]⟩⟩

def createdDB (inl : Tbl → List Fkc) (db : DB) (ts : List Tbl) : DB :=
  ⟨db.tables ++ ts.map (·.id),
   db.fks ++ ts.flatMap (fun t => (inl t).map (fun f => (t.id, f))),
   db.idx ++ ts.flatMap (fun t => t.indexes.map (fun x => (t.id, x)))⟩

theorem createdDB_tables (inl : Tbl → List Fkc) (db : DB) (ts : List Tbl) :
    (createdDB inl db ts).tables = db.tables ++ ts.map (·.id) := rfl

theorem mem_createdDB_fks {inl : Tbl → List Fkc} {db : DB} {ts : List Tbl} {r : FkRef} :
    r ∈ (createdDB inl db ts).fks ↔ r ∈ db.fks ∨ ∃ t ∈ ts, t.id = r.1 ∧ r.2 ∈ inl t := by
  simp only [createdDB, List.mem_append, List.mem_flatMap, List.mem_map, exists_mem_mk_eq]

theorem mem_createdDB_idx {inl : Tbl → List Fkc} {db : DB} {ts : List Tbl} {x : Nat × Nat} :
    x ∈ (createdDB inl db ts).idx ↔ x ∈ db.idx ∨ ∃ t ∈ ts, t.id = x.1 ∧ x.2 ∈ t.indexes := by
  simp only [createdDB, List.mem_append, List.mem_flatMap, List.mem_map, exists_mem_mk_eq]

theorem run_creates (inl : Tbl → List Fkc) : ∀ (ts : List Tbl) (db : DB),
    (ts.map (·.id)).Nodup → (∀ t ∈ ts, t.id ∉ db.tables) →
    (∀ t ∈ ts, ∀ f ∈ inl t, f.ref = t.id ∨ f.ref ∈ db.tables ∨
        (ts.map (·.id)).idxOf f.ref < (ts.map (·.id)).idxOf t.id) →
    run db (ts.flatMap
        (fun t => Op.createTable t.id (inl t) :: t.indexes.map (Op.createIndex t.id))) =
      some (createdDB inl db ts) := by
  intro ts
  induction ts with
  | nil =>
    intro db _ _ _
    simp only [createdDB, List.map_nil, List.flatMap_nil, List.append_nil]
    rfl
  | cons x xs ih =>
    intro db hn hnew href
    rw [List.map_cons, List.nodup_cons] at hn
    have hne : ∀ t ∈ xs, t.id ≠ x.id := fun t ht he => hn.1 (he ▸ List.mem_map.2 ⟨t, ht, rfl⟩)
    have hx : ∀ f ∈ inl x, f.ref = x.id ∨ f.ref ∈ db.tables := by
      intro f hf
      rcases href x List.mem_cons_self f hf with h | h | h
      · exact .inl h
      · exact .inr h
      · exact absurd rfl (idxOf_cons_lt h).1
    rw [List.flatMap_cons, run_append, run_cons, exec_createTable (hnew x List.mem_cons_self) hx,
      Option.bind_some, run_createIndexes _ _ _ (List.mem_append_right _ (List.mem_singleton_self _)),
      Option.bind_some, ih _ hn.2]
    · simp only [createdDB, List.map_cons, List.flatMap_cons, List.append_assoc,
        List.singleton_append]
    · intro t ht hm
      rcases List.mem_append.1 hm with hm | hm
      · exact hnew t (List.mem_cons_of_mem _ ht) hm
      · exact hne t ht (List.mem_singleton.1 hm)
    · intro t ht f hf
      rcases href t (List.mem_cons_of_mem _ ht) f hf with h | h | h
      · exact .inl h
      · exact .inr (.inl (List.mem_append_left _ h))
      · rcases (idxOf_cons_lt h).2 with h | h
        · exact .inr (.inl (List.mem_append_right _ (List.mem_singleton.2 h)))
        · exact .inr (.inr h)

theorem run_adds : ∀ (rem : List FkRef) (db : DB), rem.Nodup →
    (∀ r ∈ rem, r.1 ∈ db.tables ∧ r.2.ref ∈ db.tables ∧ r ∉ db.fks) →
    run db (rem.map (fun r => Op.addConstraint r.1 r.2)) =
      some ⟨db.tables, db.fks ++ rem, db.idx⟩ := by
  intro rem
  induction rem with
  | nil => intro db _ _; rw [List.append_nil]; rfl
  | cons r rs ih =>
    intro db hn h
    obtain ⟨t, f⟩ := r
    rw [List.nodup_cons] at hn
    obtain ⟨h1, h2, h3⟩ := h _ List.mem_cons_self
    rw [List.map_cons, run_cons, exec_addConstraint h1 h2 h3, Option.bind_some, ih _ hn.2,
      List.append_assoc]
    · rfl
    · intro r' hr'
      obtain ⟨h1', h2', h3'⟩ := h r' (List.mem_cons_of_mem _ hr')
      refine ⟨h1', h2', fun hm => ?_⟩
      rcases List.mem_append.1 hm with hm | hm
      · exact h3' hm
      · exact hn.1 (List.mem_singleton.1 hm ▸ hr')

theorem filter_true {α} (l : List α) : l.filter (fun _ => true) = l :=
  List.filter_eq_self.2 fun _ _ => rfl

theorem run_dropConstraints : ∀ (rem : List FkRef) (db : DB), rem.Nodup →
    (∀ r ∈ rem, r.2.named = true ∧ r ∈ db.fks) →
    run db (rem.map (fun r => Op.dropConstraint r.1 r.2)) =
      some ⟨db.tables, db.fks.filter (fun r => !rem.contains r), db.idx⟩ := by
  intro rem
  induction rem with
  | nil =>
    intro db _ _
    simp only [List.contains_nil, Bool.not_false, filter_true]
    rfl
  | cons r rs ih =>
    intro db hn h
    obtain ⟨t, f⟩ := r
    rw [List.nodup_cons] at hn
    obtain ⟨h1, h2⟩ := h _ List.mem_cons_self
    rw [List.map_cons, run_cons, exec_dropConstraint h1 h2, Option.bind_some, ih _ hn.2,
      List.filter_filter]
    · simp only [List.contains_cons, Bool.not_or, bne, Bool.and_comm]
    · intro r' hr'
      obtain ⟨h1', h2'⟩ := h r' (List.mem_cons_of_mem _ hr')
      exact ⟨h1', List.mem_filter.2 ⟨h2', bne_iff_ne.2 fun he => hn.1 (he ▸ hr')⟩⟩

/-- what the backend must satisfy for the tables `l` (in CREATE order) to be droppable in
    reverse order -/
def DropOK (l : List Nat) (db : DB) : Prop :=
  ∀ r ∈ db.fks,
    (r.1 ∈ l → r.2.ref = r.1 ∨ r.2.ref ∉ l ∨ l.idxOf r.2.ref < l.idxOf r.1) ∧
    (r.1 ∉ l → r.2.ref ∉ l)

theorem DropOK.tail {x : Nat} {xs : List Nat} {db : DB} (hx : x ∉ xs) (hok : DropOK (x :: xs) db) :
    DropOK xs db := by
  intro r hr
  obtain ⟨h1, h2⟩ := hok r hr
  have sub : r.2.ref ∉ x :: xs → r.2.ref ∉ xs := fun h hc => h (List.mem_cons_of_mem _ hc)
  constructor
  · intro hin
    rcases h1 (List.mem_cons_of_mem _ hin) with h | h | h
    · exact .inl h
    · exact .inr (.inl (sub h))
    · rcases (idxOf_cons_lt h).2 with h | h
      · exact .inr (.inl (h ▸ hx))
      · exact .inr (.inr h)
  · intro hnin
    by_cases hrx : r.1 = x
    · rcases h1 (hrx ▸ List.mem_cons_self) with h | h | h
      · exact h ▸ hrx ▸ hx
      · exact sub h
      · exact absurd hrx (idxOf_cons_lt h).1
    · exact sub (h2 fun hm => (List.mem_cons.1 hm).elim hrx hnin)

theorem run_dropTables : ∀ (l : List Nat) (db : DB), l.Nodup → (∀ t ∈ l, t ∈ db.tables) →
    DropOK l db →
    run db (l.reverse.map Op.dropTable) =
      some ⟨db.tables.filter (fun t => !l.contains t), db.fks.filter (fun r => !l.contains r.1),
            db.idx.filter (fun r => !l.contains r.1)⟩ := by
  intro l
  induction l with
  | nil =>
    intro db _ _ _
    simp only [List.contains_nil, Bool.not_false, filter_true]
    rfl
  | cons x xs ih =>
    intro db hn hpres hok
    rw [List.nodup_cons] at hn
    rw [List.reverse_cons, List.map_append, run_append,
      ih db hn.2 (fun t ht => hpres t (List.mem_cons_of_mem _ ht)) (hok.tail hn.1), Option.bind_some]
    rw [List.map_cons, List.map_nil, run_cons, exec_dropTable, Option.bind_some, run_nil]
    rw [List.filter_filter, List.filter_filter, List.filter_filter]
    · simp only [List.contains_cons, Bool.not_or, bne]
    · exact List.mem_filter.2 ⟨hpres x List.mem_cons_self, ListFacts.not_contains_iff.2 hn.1⟩
    · intro r hr
      obtain ⟨hr, hnx⟩ := List.mem_filter.1 hr
      by_cases hrx : r.1 = x
      · exact .inr hrx
      · refine .inl fun he => (hok r hr).2 (fun hm => ?_) (he ▸ List.mem_cons_self)
        exact (List.mem_cons.1 hm).elim hrx (ListFacts.not_contains_iff.1 hnx)

theorem createAllWith_eq (iso sa cf : Bool) (present : List Nat) (disabled : List FkRef)
    (tables : List Tbl) :
    createAllWith iso sa cf present disabled tables =
      (sortTC fltCreate [] (toCreate cf present tables)).map fun s =>
        (emitCreate sa disabled (toCreate cf present tables) s,
          if sa && iso then disabled ++ s.remaining else disabled) := by
  unfold createAllWith
  dsimp only
  cases sortTC fltCreate [] (toCreate cf present tables) <;> rfl

theorem mem_tblsOf {tables : List Tbl} (hn : (ids tables).Nodup) {order : List Nat} {t : Tbl} :
    t ∈ tblsOf tables order ↔ t ∈ tables ∧ t.id ∈ order := by
  unfold tblsOf
  rw [List.mem_filterMap]
  constructor
  · rintro ⟨i, hi, hl⟩
    obtain ⟨h1, rfl⟩ := lookup_some hl
    exact ⟨h1, hi⟩
  · rintro ⟨ht, ho⟩
    exact ⟨t.id, ho, lookup_of_mem hn ht⟩

theorem tblsOf_map_id {tables : List Tbl} {order : List Nat}
    (h : ∀ i ∈ order, i ∈ ids tables) : (tblsOf tables order).map (·.id) = order := by
  induction order with
  | nil => rfl
  | cons i is ih =>
    obtain ⟨t, ht, hti⟩ := mem_ids.1 (h _ List.mem_cons_self)
    cases hl : lookup tables i with
    | none => exact absurd (beq_iff_eq.2 hti) (List.find?_eq_none.1 hl t ht)
    | some u =>
      rw [tblsOf, List.filterMap_cons_some hl, List.map_cons, (lookup_some hl).2, ← tblsOf,
        ih fun j hj => h j (List.mem_cons_of_mem _ hj)]

end SaVerif.Ddl
