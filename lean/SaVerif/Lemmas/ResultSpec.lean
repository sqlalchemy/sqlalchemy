import SaVerif.Lemmas.Result
/-! Closed forms of the Result loops over the bare list.  The uniquing loops compute `takeUniq`; every
call that hands out rows `Delivers` a prefix of the remaining rows, projected and filtered as `deliver`
says, and `Delivers` composes (`Delivers.trans`), which is what lets C10 speak about a whole history of
calls.  `rawDrain_spec`: pulling a real source empty by `rawNext`, as MergedResult does with its
children, yields its remaining rows. -/
namespace SaVerif.Result

/-- the first `n` rows whose key has not been seen, in order of appearance:
    (items, updated seen-set, rows not touched) -/
def takeUniq (sss : Bool) (h : Handle) (u : UStrat) :
    List Row → Nat → List Key → List Item × List Key × List Row
  | [], _, seen => ([], seen, [])
  | r :: rest, n, seen =>
    if n = 0 then ([], seen, r :: rest)
    else
      let k := keyOf u (mkItem sss h r)
      if seen.contains k then takeUniq sss h u rest n seen
      else
        match takeUniq sss h u rest (n - 1) (k :: seen) with
        | (o, s', r') => (mkItem sss h r :: o, s', r')

def hashableRows (sss : Bool) (h : Handle) (u : UStrat) (rows : List Row) : Prop :=
  ∀ r ∈ rows, (keyOf u (mkItem sss h r)).hashable = true

theorem takeUniq_zero (sss : Bool) (h : Handle) (u : UStrat) (rows : List Row) (seen : List Key) :
    takeUniq sss h u rows 0 seen = ([], seen, rows) := by
  cases rows <;> rfl

theorem takeUniq_seen {sss : Bool} {h : Handle} {u : UStrat} {r : Row} {seen : List Key}
    (hc : seen.contains (keyOf u (mkItem sss h r)) = true) (rest : List Row) (n : Nat) :
    takeUniq sss h u (r :: rest) (n + 1) seen = takeUniq sss h u rest (n + 1) seen := by
  rw [takeUniq, if_neg (Nat.succ_ne_zero n)]
  dsimp only
  rw [if_pos hc]

theorem takeUniq_new {sss : Bool} {h : Handle} {u : UStrat} {r : Row} {seen : List Key}
    (hc : ¬seen.contains (keyOf u (mkItem sss h r)) = true) (rest : List Row) (n : Nat) :
    takeUniq sss h u (r :: rest) (n + 1) seen =
      (mkItem sss h r :: (takeUniq sss h u rest n (keyOf u (mkItem sss h r) :: seen)).1,
        (takeUniq sss h u rest n (keyOf u (mkItem sss h r) :: seen)).2) := by
  rw [takeUniq, if_neg (Nat.succ_ne_zero n)]
  dsimp only
  rw [if_neg hc]
  rfl

theorem takeUniq_length_le (sss : Bool) (h : Handle) (u : UStrat) :
    ∀ (rows : List Row) (n : Nat) (seen : List Key), (takeUniq sss h u rows n seen).1.length ≤ n
  | [], _, _ => Nat.zero_le _
  | r :: rest, 0, seen => by rw [takeUniq_zero]; exact Nat.le_refl _
  | r :: rest, n + 1, seen => by
    by_cases hc : seen.contains (keyOf u (mkItem sss h r)) = true
    · rw [takeUniq_seen hc]; exact takeUniq_length_le sss h u rest (n + 1) seen
    · rw [takeUniq_new hc]; exact Nat.succ_le_succ (takeUniq_length_le sss h u rest n _)

theorem takeUniq_one (sss : Bool) (h : Handle) (u : UStrat) (rows : List Row) (seen : List Key) :
    (takeUniq sss h u rows 1 seen).1 = [] ∨ ∃ it, (takeUniq sss h u rows 1 seen).1 = [it] := by
  have hlen := takeUniq_length_le sss h u rows 1 seen
  generalize (takeUniq sss h u rows 1 seen).1 = T at hlen ⊢
  match T, hlen with
  | [], _ => exact .inl rfl
  | [it], _ => exact .inr ⟨it, rfl⟩
  | _ :: _ :: _, hlen => exact nomatch Nat.le_of_succ_le_succ hlen

theorem takeUniq_nil_iff (sss : Bool) (h : Handle) (u : UStrat) :
    ∀ (rows : List Row) (n : Nat) (seen : List Key), (rows ≠ [] → 0 < n) →
      ((takeUniq sss h u rows n seen).1 = [] ↔
        ∀ r ∈ rows, seen.contains (keyOf u (mkItem sss h r)) = true)
  | [], _, _, _ => ⟨fun _ _ hr => (nomatch hr), fun _ => rfl⟩
  | r :: rest, 0, _, hn => nomatch hn nofun
  | r :: rest, n + 1, seen, _ => by
    by_cases hc : seen.contains (keyOf u (mkItem sss h r)) = true
    · rw [takeUniq_seen hc, takeUniq_nil_iff sss h u rest (n + 1) seen fun _ => Nat.succ_pos n,
        List.forall_mem_cons]
      exact ⟨fun h => ⟨hc, h⟩, fun h => h.2⟩
    · rw [takeUniq_new hc]
      exact ⟨fun h => (nomatch h), fun h => absurd (h r List.mem_cons_self) hc⟩

theorem uniqFold_seen {u : UStrat} {x : Item} {seen : List Key} (hk : (keyOf u x).hashable = true)
    (hc : seen.contains (keyOf u x) = true) (xs : List Item) :
    uniqFold u (x :: xs) seen = uniqFold u xs seen := by
  rw [uniqFold]
  rw [hk, hc]
  rfl

theorem uniqFold_new {u : UStrat} {x : Item} {seen : List Key} (hk : (keyOf u x).hashable = true)
    (hc : ¬seen.contains (keyOf u x) = true) (xs : List Item) :
    uniqFold u (x :: xs) seen =
      ((uniqFold u xs (keyOf u x :: seen)).1.map (x :: ·), (uniqFold u xs (keyOf u x :: seen)).2) := by
  rw [uniqFold]
  rw [hk, if_neg hc]
  rcases uniqFold u xs (keyOf u x :: seen) with ⟨_ | _, _⟩ <;> rfl

theorem uniqFold_unhashable {u : UStrat} {x : Item} (hk : (keyOf u x).hashable = false) (xs : List Item)
    (seen : List Key) : uniqFold u (x :: xs) seen = (none, seen) := by
  rw [uniqFold]
  rw [hk]
  rfl

theorem uniqFold_cons_some {u : UStrat} {x : Item} {xs o : List Item} {seen s : List Key}
    (h : uniqFold u (x :: xs) seen = (some o, s)) :
    (keyOf u x).hashable = true ∧
      ((seen.contains (keyOf u x) = true ∧ uniqFold u xs seen = (some o, s)) ∨
        (¬seen.contains (keyOf u x) = true ∧
          ∃ o1, o = x :: o1 ∧ uniqFold u xs (keyOf u x :: seen) = (some o1, s))) := by
  cases hk : (keyOf u x).hashable with
  | false => rw [uniqFold_unhashable hk] at h; exact nomatch h
  | true =>
    refine ⟨rfl, ?_⟩
    by_cases hc : seen.contains (keyOf u x) = true
    · exact .inl ⟨hc, (uniqFold_seen hk hc xs).symm.trans h⟩
    · rw [uniqFold_new hk hc] at h
      rcases hx : uniqFold u xs (keyOf u x :: seen) with ⟨_ | o1, s1⟩
      · rw [hx] at h; exact nomatch h
      · rw [hx] at h; cases h; exact .inr ⟨hc, o1, rfl, rfl⟩

theorem uniqFold_append (u : UStrat) :
    ∀ (a b : List Item) {seen sa sb : List Key} {oa ob : List Item},
      uniqFold u a seen = (some oa, sa) → uniqFold u b sa = (some ob, sb) →
      uniqFold u (a ++ b) seen = (some (oa ++ ob), sb)
  | [], _, _, _, _, _, _, h, hb => by cases h; exact hb
  | x :: xs, b, _, _, _, _, _, h, hb => by
    obtain ⟨hk, ⟨hc, h'⟩ | ⟨hc, o1, rfl, h'⟩⟩ := uniqFold_cons_some h
    · rw [List.cons_append, uniqFold_seen hk hc]
      exact uniqFold_append u xs b h' hb
    · rw [List.cons_append, uniqFold_new hk hc, uniqFold_append u xs b h' hb]
      rfl

theorem hashableRows_cons {sss : Bool} {h : Handle} {u : UStrat} {r : Row} {rest : List Row}
    (hh : hashableRows sss h u (r :: rest)) :
    (keyOf u (mkItem sss h r)).hashable = true ∧ hashableRows sss h u rest :=
  ⟨hh r List.mem_cons_self, fun x hx => hh x (List.mem_cons_of_mem _ hx)⟩

theorem takeUniq_prefix (sss : Bool) (h : Handle) (u : UStrat) :
    ∀ (rows : List Row) (n : Nat) (seen : List Key), hashableRows sss h u rows →
      ∃ c, rows = c ++ (takeUniq sss h u rows n seen).2.2 ∧
        uniqFold u (c.map (mkItem sss h)) seen =
          (some (takeUniq sss h u rows n seen).1, (takeUniq sss h u rows n seen).2.1)
  | [], _, _, _ => ⟨[], rfl, rfl⟩
  | r :: rest, 0, seen, _ => ⟨[], by rw [takeUniq_zero]; rfl, by rw [takeUniq_zero]; rfl⟩
  | r :: rest, n + 1, seen, hh => by
    obtain ⟨hr, hrest⟩ := hashableRows_cons hh
    by_cases hc : seen.contains (keyOf u (mkItem sss h r)) = true
    · obtain ⟨c, h1, h2⟩ := takeUniq_prefix sss h u rest (n + 1) seen hrest
      rw [takeUniq_seen hc]
      exact ⟨r :: c, congrArg (r :: ·) h1, by rw [List.map_cons, uniqFold_seen hr hc, h2]⟩
    · obtain ⟨c, h1, h2⟩ := takeUniq_prefix sss h u rest n (keyOf u (mkItem sss h r) :: seen) hrest
      rw [takeUniq_new hc]
      exact ⟨r :: c, congrArg (r :: ·) h1, by rw [List.map_cons, uniqFold_new hr hc, h2]; rfl⟩

theorem uniqFold_hashable (sss : Bool) (h : Handle) (u : UStrat) :
    ∀ (a : List Row) (seen : List Key), hashableRows sss h u a →
      ∃ o s, uniqFold u (a.map (mkItem sss h)) seen = (some o, s)
  | [], seen, _ => ⟨[], seen, rfl⟩
  | r :: rest, seen, hh => by
    obtain ⟨hr, hrest⟩ := hashableRows_cons hh
    by_cases hc : seen.contains (keyOf u (mkItem sss h r)) = true
    · rw [List.map_cons, uniqFold_seen hr hc]
      exact uniqFold_hashable sss h u rest seen hrest
    · obtain ⟨o, s, hos⟩ := uniqFold_hashable sss h u rest (keyOf u (mkItem sss h r) :: seen) hrest
      rw [List.map_cons, uniqFold_new hr hc, hos]
      exact ⟨_, _, rfl⟩

theorem takeUniq_append (sss : Bool) (h : Handle) (u : UStrat) :
    ∀ (a b : List Row) (n : Nat) (seen : List Key) (oa : List Item) (sa : List Key),
      a.length ≤ n → uniqFold u (a.map (mkItem sss h)) seen = (some oa, sa) →
      takeUniq sss h u (a ++ b) n seen =
        (oa ++ (takeUniq sss h u b (n - oa.length) sa).1, (takeUniq sss h u b (n - oa.length) sa).2)
  | [], b, n, seen, oa, sa, _, hu => by cases hu; rfl
  | r :: rest, b, 0, _, _, _, hlen, _ => nomatch hlen
  | r :: rest, b, n + 1, seen, oa, sa, hlen, hu => by
    have hlen' : rest.length ≤ n := Nat.le_of_succ_le_succ hlen
    obtain ⟨-, ⟨hc, hu'⟩ | ⟨hc, o1, rfl, hu'⟩⟩ := uniqFold_cons_some hu
    · rw [List.cons_append, takeUniq_seen hc]
      exact takeUniq_append sss h u rest b (n + 1) seen oa sa (Nat.le_succ_of_le hlen') hu'
    · rw [List.cons_append, takeUniq_new hc, takeUniq_append sss h u rest b n _ o1 sa hlen' hu',
        List.length_cons, Nat.succ_sub_succ]
      rfl

theorem hashableRows_subset {sss : Bool} {h : Handle} {u : UStrat} {a b : List Row} (hs : a ⊆ b)
    (hh : hashableRows sss h u b) : hashableRows sss h u a :=
  fun r hr => hh r (hs hr)

theorem Plain.fetchmany_some_open (k : Nat) (p : Plain) (hp : p.hard = false) :
    Plain.ops.fetchmany (some k) p =
      (.ok (p.rem.take k), { p with rem := p.rem.drop k, d1 := p.d1 && !(p.rem.take k).isEmpty }) := by
  obtain ⟨rem, hard, d1⟩ := p
  cases hp
  rfl

theorem Plain.fetchmany_open (n : Option Nat) (p : Plain) (hp : p.hard = false) :
    ∃ k, Plain.ops.fetchmany n p =
      (.ok (p.rem.take k), { p with rem := p.rem.drop k, d1 := p.d1 && !(p.rem.take k).isEmpty }) := by
  cases n with
  | some n => exact ⟨n, Plain.fetchmany_some_open n p hp⟩
  | none =>
    obtain ⟨rem, hard, d1⟩ := p
    cases hp
    exact ⟨if d1 then 1 else rem.length, rfl⟩

theorem Plain.fetchall_open (p : Plain) (hp : p.hard = false) :
    Plain.ops.fetchall p = (.ok p.rem, { p with rem := [], d1 := false }) := by
  obtain ⟨rem, hard, d1⟩ := p
  cases hp
  rfl

theorem Plain.fetchone_open (b : Bool) (p : Plain) (hh : p.hard = false) :
    Plain.ops.fetchone b p =
      (match p.rem with
       | [] => (.ok none, { rem := [], hard := b, d1 := false })
       | r :: rest => (.ok (some r), { p with rem := rest })) := by
  obtain ⟨rem, hard, d1⟩ := p
  cases hh
  cases rem <;> rfl

theorem Plain.rawNext_open (p : Plain) (hh : p.hard = false) :
    Plain.rawNext p =
      (match p.rem with
       | [] => (.ok none, { rem := [], hard := false, d1 := false })
       | r :: rest => (.ok (some r), { p with rem := rest })) :=
  (Plain.rawNext_eq p).trans (Plain.fetchone_open false p hh)

theorem Plain.rawNext_or_fetchone_open (raw : Bool) (p : Plain) (hh : p.hard = false) :
    (if raw then Plain.ops.rawNext p else Plain.ops.fetchone false p) =
      (match p.rem with
       | [] => (.ok none, { rem := [], hard := false, d1 := false })
       | r :: rest => (.ok (some r), { p with rem := rest })) := by
  cases raw
  · exact Plain.fetchone_open false p hh
  · exact Plain.rawNext_open p hh

theorem manyLoop_plain (sss : Bool) (h : Handle) (u : UStrat) (num : Nat) :
    ∀ (fuel : Nat) (collect : List Item) (seen : List Key) (p : Plain),
      p.hard = false → hashableRows sss h u p.rem → p.rem.length < fuel →
      ∃ p', manyLoop Plain.ops sss h u num fuel collect seen p =
          (.ok (collect ++ (takeUniq sss h u p.rem (num - collect.length) seen).1),
            (takeUniq sss h u p.rem (num - collect.length) seen).2.1, p') ∧
        p'.rem = (takeUniq sss h u p.rem (num - collect.length) seen).2.2 ∧ p'.hard = false
  | 0, _, _, _, _, _, hf => nomatch hf
  | f + 1, collect, seen, p, hhard, hh, hf => by
    rw [manyLoop]
    by_cases hreq : num - collect.length = 0
    · rw [if_pos hreq, hreq, takeUniq_zero, List.append_nil]
      exact ⟨p, rfl, rfl, hhard⟩
    · rw [if_neg hreq, Plain.fetchmany_some_open _ p hhard]
      generalize hk : num - collect.length = k at hreq
      cases htk : p.rem.take k with
      | nil =>
        rw [(List.take_eq_nil_iff.1 htk).resolve_left hreq, List.drop_nil,
          show takeUniq sss h u [] k seen = ([], seen, []) from rfl, List.append_nil]
        exact ⟨_, rfl, rfl, hhard⟩
      | cons r rs =>
        -- the batch is de-duplicated, then the loop goes on with what is still missing
        obtain ⟨out, seen1, huf⟩ := uniqFold_hashable sss h u _ seen (hashableRows_subset (List.take_subset k _) hh)
        have hsplit := takeUniq_append sss h u (p.rem.take k) (p.rem.drop k) k seen out seen1
          (List.length_take_le _ _) huf
        have hdl : (p.rem.drop k).length < f := by
          have hpos : 0 < (p.rem.take k).length := by rw [htk]; exact Nat.succ_pos _
          rw [List.length_take] at hpos
          rw [List.length_drop]
          omega
        obtain ⟨p', hi, hr, hp'⟩ := manyLoop_plain sss h u num f (collect ++ out) seen1
          { p with rem := p.rem.drop k, d1 := p.d1 && !(r :: rs).isEmpty } hhard (hashableRows_subset (List.drop_subset k _) hh) hdl
        -- `num - (collect ++ out).length` is `k - out.length`, the count `hsplit` goes on with
        rw [List.length_append, Nat.sub_add_eq, hk] at hi hr
        rw [List.take_append_drop] at hsplit
        rw [htk] at huf
        dsimp only
        rw [huf, hsplit]
        exact ⟨p', hi.trans (by rw [List.append_assoc]), hr, hp'⟩

theorem oneLoop_plain (raw sss : Bool) (h : Handle) (u : UStrat) :
    ∀ (fuel : Nat) (seen : List Key) (p : Plain),
      p.hard = false → hashableRows sss h u p.rem → p.rem.length < fuel →
      ∃ p', oneLoop Plain.ops raw sss h u fuel seen p =
          (.ok (takeUniq sss h u p.rem 1 seen).1.head?, (takeUniq sss h u p.rem 1 seen).2.1, p') ∧
        p'.rem = (takeUniq sss h u p.rem 1 seen).2.2 ∧ p'.hard = false
  | 0, _, _, _, _, hf => nomatch hf
  | f + 1, seen, p, hhard, hh, hf => by
    rw [oneLoop, Plain.rawNext_or_fetchone_open raw p hhard]
    cases hrem : p.rem with
    | nil => exact ⟨_, rfl, rfl, rfl⟩
    | cons r rest =>
      rw [hrem] at hh hf
      obtain ⟨hr, hrest⟩ := hashableRows_cons hh
      dsimp only
      rw [hr, Bool.not_true, if_neg Bool.false_ne_true]
      by_cases hc : seen.contains (keyOf u (mkItem sss h r)) = true
      · rw [if_pos hc, takeUniq_seen hc]
        exact oneLoop_plain raw sss h u f seen { p with rem := rest } hhard hrest (Nat.lt_of_succ_lt_succ hf)
      · rw [if_neg hc, takeUniq_new hc, takeUniq_zero]
        exact ⟨_, rfl, rfl, hhard⟩

/-- what a handle must hand out for the consumed raw rows `c`: their projection, with the
    unique filter (if any) applied against the handle's seen-set; `none` = TypeError -/
def deliver (sss : Bool) (h : Handle) (c : List Row) : Option (List Item) × Handle :=
  match h.uq with
  | none => (some (c.map (mkItem sss h)), h)
  | some u =>
    ((uniqFold u.strat (c.map (mkItem sss h)) u.seen).1,
      { h with uq := some { u with seen := (uniqFold u.strat (c.map (mkItem sss h)) u.seen).2 } })

def Handle.sameShape (h h' : Handle) : Prop :=
  h'.view = h.view ∧ h'.cols = h.cols ∧ (h'.uq.map (·.strat)) = (h.uq.map (·.strat))

section
variable {h h' : Handle} (hs : h.sameShape h')
include hs
theorem Handle.sameShape.view : h'.view = h.view := hs.1
theorem Handle.sameShape.cols : h'.cols = h.cols := hs.2.1
theorem Handle.sameShape.strat : h'.uq.map (·.strat) = h.uq.map (·.strat) := hs.2.2
end

theorem mkItem_shape {sss : Bool} {h h' : Handle} (hs : h.sameShape h') (r : Row) :
    mkItem sss h' r = mkItem sss h r := by
  unfold mkItem
  rw [hs.view, hs.cols]

theorem postItem_shape {sss : Bool} {h h' : Handle} (hs : h.sameShape h') (it : Item) :
    postItem sss h' it = postItem sss h it := by
  unfold postItem
  rw [hs.view]

theorem deliver_uq (sss : Bool) (h : Handle) (u : UQ) (c : List Row) (hu : h.uq = some u) :
    deliver sss h c = ((uniqFold u.strat (c.map (mkItem sss h)) u.seen).1,
      { h with uq := some { u with seen := (uniqFold u.strat (c.map (mkItem sss h)) u.seen).2 } }) := by
  unfold deliver
  rw [hu]

theorem deliver_none (sss : Bool) (h : Handle) (c : List Row) (hu : h.uq = none) :
    deliver sss h c = (some (c.map (mkItem sss h)), h) := by
  unfold deliver
  rw [hu]

theorem deliver_nil (sss : Bool) (h : Handle) : deliver sss h [] = (some [], h) := by
  obtain ⟨view, cols, _ | u⟩ := h <;> rfl

theorem deliver_shape {sss : Bool} {h : Handle} {c : List Row} : h.sameShape (deliver sss h c).2 := by
  obtain ⟨view, cols, _ | u⟩ := h <;> exact ⟨rfl, rfl, rfl⟩

theorem sameShape_trans {h1 h2 h3 : Handle} (a : h1.sameShape h2) (b : h2.sameShape h3) :
    h1.sameShape h3 :=
  ⟨b.view.trans a.view, b.cols.trans a.cols, b.strat.trans a.strat⟩

theorem deliver_append {sss : Bool} {h h1 h2 : Handle} {c1 c2 : List Row} {o1 o2 : List Item}
    (d1 : deliver sss h c1 = (some o1, h1)) (d2 : deliver sss h1 c2 = (some o2, h2)) :
    deliver sss h (c1 ++ c2) = (some (o1 ++ o2), h2) := by
  cases hu : h.uq with
  | none =>
    rw [deliver_none sss h _ hu] at d1 ⊢
    cases d1
    rw [deliver_none sss h _ hu] at d2
    cases d2
    rw [List.map_append]
  | some u =>
    rw [deliver_uq sss h u _ hu] at d1 ⊢
    obtain ⟨e1, rfl⟩ := Prod.mk.inj d1
    -- the handle after `c1` projects rows as `h` does: `mkItem` reads only `view` and `cols`
    obtain ⟨e2, rfl⟩ := Prod.mk.inj ((deliver_uq sss _ _ c2 rfl).symm.trans d2)
    rw [List.map_append, uniqFold_append u.strat _ (c2.map (mkItem sss h)) (Prod.ext e1 rfl) (Prod.ext e2 rfl)]
    rfl

def Handle.hashOk (sss : Bool) (h : Handle) (rows : List Row) : Prop :=
  ∀ u, h.uq = some u → hashableRows sss h u.strat rows

def Delivers (sss : Bool) (h : Handle) (p : Plain) (items : List Item) (h' : Handle) (p' : Plain) : Prop :=
  ∃ c pre, p.rem = c ++ p'.rem ∧ deliver sss h c = (some pre, h') ∧
    items = pre.map (postItem sss h) ∧ p'.hard = false

theorem Delivers.intro {sss : Bool} {h h' : Handle} {p p' : Plain} {items : List Item} (c : List Row)
    (pre : List Item) (e : p.rem = c ++ p'.rem) (hd : deliver sss h c = (some pre, h'))
    (hi : items = pre.map (postItem sss h)) (hp : p'.hard = false) : Delivers sss h p items h' p' :=
  ⟨c, pre, e, hd, hi, hp⟩

theorem Delivers.elim {sss : Bool} {h h' : Handle} {p p' : Plain} {items : List Item}
    (d : Delivers sss h p items h' p') :
    ∃ c pre, p.rem = c ++ p'.rem ∧ deliver sss h c = (some pre, h') ∧ items = pre.map (postItem sss h) := by
  obtain ⟨c, pre, e, hd, hi, _⟩ := d
  exact ⟨c, pre, e, hd, hi⟩

theorem Delivers.shape {sss : Bool} {h h' : Handle} {p p' : Plain} {items : List Item}
    (d : Delivers sss h p items h' p') : h.sameShape h' := by
  obtain ⟨c, pre, _, hd, _⟩ := d.elim
  rw [show h' = (deliver sss h c).2 from (congrArg Prod.snd hd).symm]
  exact deliver_shape

theorem Delivers.open {sss : Bool} {h h' : Handle} {p p' : Plain} {items : List Item}
    (d : Delivers sss h p items h' p') : p'.hard = false := by
  obtain ⟨_, _, _, _, _, hp⟩ := d
  exact hp

theorem Delivers.refl (sss : Bool) (h : Handle) (p : Plain) (hp : p.hard = false) :
    Delivers sss h p [] h p :=
  .intro [] [] rfl (deliver_nil sss h) rfl hp

theorem Delivers.trans {sss : Bool} {h h1 h2 : Handle} {p p1 p2 : Plain} {i1 i2 : List Item}
    (d1 : Delivers sss h p i1 h1 p1) (d2 : Delivers sss h1 p1 i2 h2 p2) :
    Delivers sss h p (i1 ++ i2) h2 p2 := by
  have hsh := d1.shape
  obtain ⟨c1, pre1, e1, hd1, rfl⟩ := d1.elim
  obtain ⟨c2, pre2, e2, hd2, rfl⟩ := d2.elim
  refine .intro (c1 ++ c2) (pre1 ++ pre2) (by rw [e1, e2, List.append_assoc]) (deliver_append hd1 hd2) ?_ d2.open
  rw [List.map_append, List.map_congr_left fun it _ => postItem_shape hsh it]

theorem hashOk_shape {sss : Bool} {h h' : Handle} {rows : List Row} (hs : h.sameShape h')
    (hh : h.hashOk sss rows) : h'.hashOk sss rows := by
  intro u' hu' r hr
  have hst := hs.strat
  rw [hu'] at hst
  cases hu : h.uq with
  | none => rw [hu] at hst; exact nomatch hst
  | some u =>
    rw [hu] at hst
    have e : u'.strat = u.strat := Option.some.inj hst
    rw [mkItem_shape hs r, e]
    exact hh u hu r hr

theorem hashOk_suffix {sss : Bool} {h : Handle} {c rest : List Row}
    (hh : h.hashOk sss (c ++ rest)) : h.hashOk sss rest :=
  fun u hu r hr => hh u hu r (List.mem_append_right c hr)

theorem Delivers.hashOk {sss : Bool} {h h' : Handle} {p p' : Plain} {items : List Item}
    (d : Delivers sss h p items h' p') (hh : h.hashOk sss p.rem) : h'.hashOk sss p'.rem := by
  have hsh := d.shape
  obtain ⟨c, _, e, _⟩ := d.elim
  rw [e] at hh
  exact hashOk_shape hsh (hashOk_suffix hh)

theorem onerow_delivers (raw sss : Bool) (h : Handle) (p : Plain) (hp : p.hard = false)
    (hh : h.hashOk sss p.rem) :
    ∃ o h' p', onerow Plain.ops raw sss h p = (.ok o, h', p') ∧ Delivers sss h p o.toList h' p' := by
  unfold onerow
  cases hu : h.uq with
  | none =>
    dsimp only
    rw [Plain.rawNext_or_fetchone_open raw p hp]
    cases hrem : p.rem with
    | nil => exact ⟨none, _, _, rfl, .intro [] [] hrem (deliver_nil sss h) rfl rfl⟩
    | cons r rest => exact ⟨some _, _, _, rfl, .intro [r] _ hrem (deliver_none sss h [r] hu) rfl hp⟩
  | some u =>
    dsimp only
    obtain ⟨p', e, hr, hhd⟩ :=
      oneLoop_plain raw sss h u.strat (Plain.ops.size p + 1) u.seen p hp (hh u hu) (Nat.lt_succ_self _)
    obtain ⟨c, hc1, hc2⟩ := takeUniq_prefix sss h u.strat p.rem 1 u.seen (hh u hu)
    have hd := (deliver_uq sss h u c hu).trans (by rw [hc2])
    rw [e]
    obtain hT | ⟨it, hT⟩ := takeUniq_one sss h u.strat p.rem u.seen
    · rw [hT] at hd ⊢
      exact ⟨none, _, _, rfl, .intro c [] (hc1.trans (congrArg (c ++ ·) hr.symm)) hd rfl hhd⟩
    · rw [hT] at hd ⊢
      exact ⟨some _, _, _, rfl, .intro c [it] (hc1.trans (congrArg (c ++ ·) hr.symm)) hd rfl hhd⟩

theorem manyLoop_delivers {sss : Bool} {h : Handle} {u : UQ} (hu : h.uq = some u) (n : Nat) {p0 p : Plain}
    {c0 : List Row} {collect : List Item} {seen1 : List Key} (e0 : p0.rem = c0 ++ p.rem)
    (hu0 : uniqFold u.strat (c0.map (mkItem sss h)) u.seen = (some collect, seen1))
    (hp : p.hard = false) (hh : hashableRows sss h u.strat p.rem) :
    ∃ l h' p', manyFin sss h u (manyLoop Plain.ops sss h u.strat n (Plain.ops.size p + 1) collect seen1 p) =
        (.ok l, h', p') ∧ Delivers sss h p0 l h' p' := by
  obtain ⟨p', e, hr, hhd⟩ :=
    manyLoop_plain sss h u.strat n (Plain.ops.size p + 1) collect seen1 p hp hh (Nat.lt_succ_self _)
  obtain ⟨c, hc1, hc2⟩ := takeUniq_prefix sss h u.strat p.rem (n - collect.length) seen1 hh
  rw [e]
  refine ⟨_, _, _, rfl, .intro (c0 ++ c) _ ?_ ?_ rfl hhd⟩
  · rw [hr, List.append_assoc, ← hc1, e0]
  · rw [deliver_uq sss h u _ hu, List.map_append, uniqFold_append u.strat _ _ hu0 hc2]

theorem manyrows_delivers (sss : Bool) (yp : Option Nat) (h : Handle) (num : Option Nat) (p : Plain)
    (hp : p.hard = false) (hh : h.hashOk sss p.rem) :
    ∃ l h' p', manyrows Plain.ops sss yp h num p = (.ok l, h', p') ∧ Delivers sss h p l h' p' := by
  unfold manyrows
  cases hu : h.uq with
  | none =>
    dsimp only
    obtain ⟨k, hk⟩ := Plain.fetchmany_open (effSize num yp) p hp
    rw [hk]
    exact ⟨_, _, _, rfl, .intro (p.rem.take k) _ (List.take_append_drop k p.rem).symm (deliver_none sss h _ hu)
      (List.map_map (g := postItem sss h) (f := mkItem sss h)).symm hp⟩
  | some u =>
    dsimp only
    cases num with
    | some n => exact manyLoop_delivers hu n (List.nil_append _).symm rfl hp (hh u hu)
    | none =>
      dsimp only
      split
      · exact manyLoop_delivers hu _ (List.nil_append _).symm rfl hp (hh u hu)
      · obtain ⟨k, hk⟩ := Plain.fetchmany_open none p hp
        rw [hk]
        dsimp only
        obtain ⟨out, seen1, huf⟩ := uniqFold_hashable sss h u.strat _ u.seen (hashableRows_subset (List.take_subset k _) (hh u hu))
        rw [huf]
        exact manyLoop_delivers hu _ (p := { p with rem := p.rem.drop k, d1 := p.d1 && !(p.rem.take k).isEmpty })
          (List.take_append_drop k p.rem).symm huf hp (hashableRows_subset (List.drop_subset k _) (hh u hu))

theorem allrows_delivers (sss : Bool) (h : Handle) (p : Plain) (hp : p.hard = false)
    (hh : h.hashOk sss p.rem) :
    ∃ l h' p', allrows Plain.ops sss h p = (.items l, h', p') ∧ Delivers sss h p l h' p' := by
  unfold allrows
  rw [Plain.fetchall_open p hp]
  dsimp only
  cases hu : h.uq with
  | none =>
    exact ⟨_, _, _, rfl, .intro p.rem _ (List.append_nil _).symm (deliver_none sss h _ hu) rfl hp⟩
  | some u =>
    dsimp only
    obtain ⟨out, seen1, huf⟩ := uniqFold_hashable sss h u.strat p.rem u.seen (hh u hu)
    rw [huf]
    exact ⟨_, _, _, rfl, .intro p.rem out (List.append_nil _).symm (by rw [deliver_uq sss h u _ hu, huf]) rfl hp⟩

theorem iterLoop_delivers (sss : Bool) :
    ∀ (k : Nat) (h : Handle) (p : Plain), p.hard = false → h.hashOk sss p.rem →
      ∃ l h' p', iterLoop Plain.ops sss k h p = (.ok l, h', p') ∧ Delivers sss h p l h' p'
  | 0, h, p, hp, _ => ⟨[], _, _, rfl, Delivers.refl sss h p hp⟩
  | k + 1, h, p, hp, hh => by
    obtain ⟨o, h1, p1, e, hd⟩ := onerow_delivers true sss h p hp hh
    rw [iterLoop, e]
    cases o with
    | none => exact ⟨[], _, _, rfl, hd⟩
    | some it =>
      obtain ⟨l, h2, p2, e2, hd2⟩ := iterLoop_delivers sss k h1 p1 hd.open (hd.hashOk hh)
      dsimp only
      rw [e2]
      exact ⟨it :: l, _, _, rfl, hd.trans hd2⟩

theorem partLoop_delivers (sss : Bool) (yp num : Option Nat) :
    ∀ (k : Nat) (h : Handle) (p : Plain), p.hard = false → h.hashOk sss p.rem →
      ∃ ps h' p', partLoop Plain.ops sss yp num k h p = (.ok ps, h', p') ∧ Delivers sss h p ps.flatten h' p'
  | 0, h, p, hp, _ => ⟨[], _, _, rfl, Delivers.refl sss h p hp⟩
  | k + 1, h, p, hp, hh => by
    obtain ⟨l, h1, p1, e, hd⟩ := manyrows_delivers sss yp h num p hp hh
    rw [partLoop, e]
    cases l with
    | nil => exact ⟨[], _, _, rfl, hd⟩
    | cons x xs =>
      obtain ⟨ps, h2, p2, e2, hd2⟩ := partLoop_delivers sss yp num k h1 p1 hd.open (hd.hashOk hh)
      dsimp only
      rw [e2]
      exact ⟨(x :: xs) :: ps, _, _, rfl, hd.trans hd2⟩

/-- calls that only hand out rows, on the Result itself -/
def Op.isData : Op → Bool
  | .fetchone .r | .next .r | .fetchmany .r _ | .fetchall .r | .iter .r _ | .partitions .r _ _ => true
  | _ => false

def Out.delivered : Out → List Item
  | .item i => [i]
  | .items l => l
  | .parts ps => ps.flatten
  | _ => []

def runFinal {σ : Type} (O : SrcOps σ) (st : St σ) : List Op → St σ
  | [] => st
  | op :: ops => runFinal O (step O st op).2 ops

theorem getH_noView {σ : Type} {st : St σ} (hv : st.v = none) (t : Tgt) : getH st t = st.r := by
  cases t with
  | r => rfl
  | v => unfold getH; rw [hv]

theorem setH_noView {σ : Type} {st : St σ} (hv : st.v = none) (t : Tgt) (h : Handle) (s : σ) :
    setH st t h s = { st with r := h, src := s } := by
  cases t with
  | r => rfl
  | v => unfold setH; rw [hv]

theorem step_delivers (st : St Plain) (op : Op) (hd : op.isData = true) (hv : st.v = none)
    (hp : st.src.hard = false) (hh : st.r.hashOk st.sss st.src.rem) :
    Delivers st.sss st.r st.src (step Plain.ops st op).1.1.delivered (step Plain.ops st op).2.r
      (step Plain.ops st op).2.src ∧
    (step Plain.ops st op).2.v = none ∧ (step Plain.ops st op).2.sss = st.sss := by
  have fin : ∀ (t : Tgt) {items : List Item} {h1 : Handle} {p1 : Plain},
      Delivers st.sss st.r st.src items h1 p1 →
      Delivers st.sss st.r st.src items (setH st t h1 p1).r (setH st t h1 p1).src ∧
        (setH st t h1 p1).v = none ∧ (setH st t h1 p1).sss = st.sss :=
    fun t _ _ _ hdl => by rw [setH_noView hv]; exact ⟨hdl, hv, rfl⟩
  cases op with
  | fetchone t | next t =>
    obtain ⟨o, h1, p1, e, hdl⟩ := onerow_delivers false st.sss st.r st.src hp hh
    dsimp only [step]
    rw [getH_noView hv, e]
    cases o <;> exact fin t hdl
  | fetchmany t n =>
    obtain ⟨l, h1, p1, e, hdl⟩ := manyrows_delivers st.sss st.yp st.r n st.src hp hh
    dsimp only [step]
    rw [getH_noView hv, e]
    exact fin t hdl
  | fetchall t =>
    obtain ⟨l, h1, p1, e, hdl⟩ := allrows_delivers st.sss st.r st.src hp hh
    dsimp only [step]
    rw [getH_noView hv, e]
    exact fin t hdl
  | iter t k =>
    obtain ⟨l, h1, p1, e, hdl⟩ := iterLoop_delivers st.sss k st.r st.src hp hh
    dsimp only [step]
    rw [getH_noView hv, e]
    exact fin t hdl
  | partitions t n k =>
    obtain ⟨l, h1, p1, e, hdl⟩ := partLoop_delivers st.sss st.yp n k st.r st.src hp hh
    dsimp only [step]
    rw [getH_noView hv, e]
    exact fin t hdl
  | _ => exact nomatch hd

/-- the closed, emptied source every `_only_one_row` call leaves behind -/
def Plain.done : Plain := { rem := [], hard := true, d1 := false }

theorem Plain.softClose_true (q : Plain) : Plain.ops.softClose true q = Plain.done :=
  congrArg (fun b => ({ rem := [], hard := b, d1 := false } : Plain)) (Bool.or_true q.hard)

theorem skipEq_plain (sss : Bool) (h : Handle) (u : UStrat) (k0 : Key) :
    ∀ (fuel : Nat) (p : Plain), p.hard = false → p.rem.length < fuel →
      ∃ p', skipEq Plain.ops sss h u k0 fuel p =
          (.ok (p.rem.any fun r => decide (keyOf u (mkItem sss h r) ≠ k0)), p') ∧
        (p.rem.any (fun r => decide (keyOf u (mkItem sss h r) ≠ k0)) = false → p' = Plain.done)
  | 0, _, _, hf => nomatch hf
  | f + 1, p, hp, hf => by
    rw [skipEq, Plain.fetchone_open true p hp]
    cases hrem : p.rem with
    | nil => exact ⟨_, rfl, fun _ => rfl⟩
    | cons r rest =>
      rw [hrem] at hf
      dsimp only
      by_cases hk : keyOf u (mkItem sss h r) = k0
      · rw [if_pos hk, List.any_cons, decide_eq_false (not_not_intro hk), Bool.false_or]
        exact skipEq_plain sss h u k0 f { p with rem := rest } hp (Nat.lt_of_succ_lt_succ hf)
      · rw [if_neg hk, List.any_cons, decide_eq_true hk, Bool.true_or]
        exact ⟨_, rfl, nofun⟩

theorem rawDrain_spec :
    ∀ (f : Nat) (s : Src), s.good → s.abs.hard = false → s.abs.rem.length < f →
      Src.rawDrain f s = s.abs.rem
  | 0, _, _, _, hf => nomatch hf
  | f + 1, s, hg, ho, hf => by
    obtain ⟨o, s1, e, e', hg1⟩ := Sim2.of_map (src_rawNext_refines hg)
    rw [Plain.rawNext_open s.abs ho] at e'
    rw [Src.rawDrain, e]
    cases hrem : s.abs.rem with
    | nil =>
      rw [hrem] at e'
      obtain ⟨rfl, -⟩ := Prod.mk.inj e'
      rfl
    | cons r rest =>
      rw [hrem] at e' hf
      obtain ⟨rfl, h2⟩ := Prod.mk.inj e'
      dsimp only
      rw [rawDrain_spec f s1 hg1 (h2 ▸ ho) (h2 ▸ Nat.lt_of_succ_lt_succ hf), ← h2]

end SaVerif.Result
