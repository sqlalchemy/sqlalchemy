import SaVerif.Lemmas.TxnInv
/-! For C27.  `Gen N`: every pooled DBAPI connection numbered below `N` was born before the pool's
invalidation time, so the staleness test at checkout never hands it out; every step keeps it (`run_gen`).
`Blocked`: the calls in `Op.uses` raise, stay blocked and leave database and pool alone (`StaysBlocked`).
`PoolSameUnless`: a call that reports neither disconnect nor interrupt leaves the pool as it was (but see `RbBad`). -/
namespace SaVerif.Txn

/-- The clock discipline of the pool.  `held`: the checked-out connection is of the current pool generation.
    `idle` has `born ≠ invalTime` so that a record found not stale (`¬ invalTime > born`) at checkout is of the
    current generation as well (`poolInv_gen`, `reuse`). -/
structure PoolTime (db : DB) (h : Bool) : Prop where
  idle : ∀ r, some r ∈ db.idle → r.born ≤ db.clock ∧ r.born ≠ db.invalTime ∧ r.rid < db.nextRid
  inval : db.invalTime ≤ db.clock
  held : h = true → db.raw.born ≤ db.clock ∧ db.invalTime < db.raw.born ∧ db.raw.rid < db.nextRid

structure StaleBelow (N : Nat) (db : DB) (h : Bool) : Prop where
  next : N ≤ db.nextRid
  idle : ∀ r, some r ∈ db.idle → r.rid < N → r.born < db.invalTime
  held : h = true → N ≤ db.raw.rid

def Gen (N : Nat) (db : DB) (h : Bool) : Prop := PoolTime db h ∧ StaleBelow N db h

theorem Gen.time {N : Nat} {db : DB} {h : Bool} (hg : Gen N db h) : PoolTime db h := hg.1
theorem Gen.stale {N : Nat} {db : DB} {h : Bool} (hg : Gen N db h) : StaleBelow N db h := hg.2

/-- `StaleBelow 0` holds of every pool, so `PoolTime` is carried through histories as `Gen 0` -/
theorem gen_zero {db : DB} {h : Bool} (ht : PoolTime db h) : Gen 0 db h :=
  ⟨ht, Nat.zero_le _, fun _ _ h => absurd h (Nat.not_lt_zero _), fun _ => Nat.zero_le _⟩

theorem Gen.shrink {N : Nat} {db db' : DB} {h : Bool} (hg : Gen N db h)
    (hi : ∀ r, some r ∈ db'.idle → some r ∈ db.idle) (hm : Mono db db') : Gen N db' false := by
  obtain ⟨pt, sb⟩ := hg
  refine ⟨⟨fun r hr => ?_, ?_, nofun⟩, ⟨Nat.le_trans sb.next hm.nextRid, fun r hr => ?_, nofun⟩⟩
  · obtain ⟨hborn, hne, hrid⟩ := pt.idle r (hi r hr)
    rw [hm.invalTime]
    exact ⟨Nat.le_trans hborn hm.clock, hne, Nat.lt_of_lt_of_le hrid hm.nextRid⟩
  · rw [hm.invalTime]; exact Nat.le_trans pt.inval hm.clock
  · rw [hm.invalTime]; exact sb.idle r (hi r hr)

theorem gen_dropIdle {N : Nat} {db : DB} {h : Bool} {x : Option Raw} {rest : List (Option Raw)}
    (hg : Gen N db h) (he : db.idle = x :: rest) : Gen N { db with idle := rest } false :=
  hg.shrink (fun r hr => by rw [he]; exact List.mem_cons_of_mem _ hr) ⟨Nat.le_refl _, rfl, Nat.le_refl _⟩

theorem gen_unheld {N : Nat} {db : DB} {h : Bool} (hg : Gen N db h) : Gen N db false :=
  hg.shrink (fun _ h => h) (Mono.refl db)

theorem kill_gen {N : Nat} {db : DB} {h : Bool} (hg : Gen N db h) : Gen N (db.kill) false :=
  hg.shrink (kill_shrinks db).idle ⟨Nat.le_refl _, rfl, Nat.le_refl _⟩

theorem preSpec_gen {N : Nat} {db db1 : DB} {o : Option Raw} (hp : PreSpec db db1 o)
    (hg : Gen N db false) : Gen N db1 false :=
  hg.shrink hp.idle hp.mono

/-- the facts `Gen` records about a held connection, for an arbitrary raw connection -/
structure HeldFacts (N : Nat) (db : DB) (r : Raw) : Prop where
  born : r.born ≤ db.clock
  current : db.invalTime < r.born
  rid : r.rid < db.nextRid
  notBelow : N ≤ r.rid

theorem gen_heldFacts {N : Nat} {db : DB} (hg : Gen N db true) : HeldFacts N db db.raw := by
  obtain ⟨hborn, hcur, hrid⟩ := hg.time.held rfl
  exact ⟨hborn, hcur, hrid, hg.stale.held rfl⟩

theorem gen_of_heldFacts {N : Nat} {db : DB} {h : Bool} (hg : Gen N db h) (r : Raw)
    (hf : HeldFacts N db r) : Gen N { db with raw := r } true :=
  ⟨{ hg.time with held := fun _ => ⟨hf.born, hf.current, hf.rid⟩ },
   { hg.stale with held := fun _ => hf.notBelow }⟩

theorem tick_gen {N : Nat} {db : DB} {h : Bool} (hg : Gen N db h) : Gen N db.tick.1 h := by
  obtain ⟨pt, sb⟩ := hg
  refine ⟨⟨fun r hr => ?_, Nat.le_succ_of_le pt.inval, fun e => ?_⟩, { sb with }⟩
  · obtain ⟨hborn, rest⟩ := pt.idle r hr
    exact ⟨Nat.le_succ_of_le hborn, rest⟩
  · obtain ⟨hborn, rest⟩ := pt.held e
    exact ⟨Nat.le_succ_of_le hborn, rest⟩

theorem newRaw_gen {N : Nat} {db : DB} {h : Bool} (hg : Gen N db h) : Gen N (db.newRaw) true := by
  obtain ⟨pt, sb⟩ := tick_gen hg
  refine ⟨⟨fun r hr => ?_, pt.inval, fun _ => ?_⟩, ⟨Nat.le_succ_of_le sb.next, sb.idle, fun _ => sb.next⟩⟩
  · obtain ⟨hborn, hne, hrid⟩ := pt.idle r hr
    exact ⟨hborn, hne, Nat.lt_succ_of_lt hrid⟩
  · exact ⟨Nat.le_refl _, Nat.lt_succ_of_le hg.time.inval, Nat.lt_succ_self _⟩

theorem poolInvalidate_gen {N : Nat} {db : DB} {h : Bool} (hg : Gen N db h) :
    Gen N (db.poolInvalidate) false := by
  unfold DB.poolInvalidate
  split
  · obtain ⟨pt, sb⟩ := hg
    refine ⟨⟨fun r hr => ?_, Nat.le_refl _, nofun⟩, ⟨sb.next, fun r hr hlt => ?_, nofun⟩⟩
    · obtain ⟨hborn, _, hrid⟩ := pt.idle r hr
      exact ⟨Nat.le_succ_of_le hborn, Nat.ne_of_lt (Nat.lt_succ_of_le hborn), hrid⟩
    · exact Nat.lt_succ_of_lt (Nat.lt_of_lt_of_le (sb.idle r hr hlt) pt.inval)
  · exact gen_unheld hg

theorem poolInvalidate_nextRid (db : DB) : db.poolInvalidate.nextRid = db.nextRid := by
  unfold DB.poolInvalidate
  split <;> rfl

theorem data_gen {N : Nat} {db db' : DB} {h : Bool} (hd : DataOnly db db') (hg : Gen N db h) :
    Gen N db' h := by
  obtain ⟨pt, sb⟩ := hg
  refine ⟨⟨?_, ?_, ?_⟩, ⟨?_, ?_, ?_⟩⟩
  · rw [hd.idle, hd.clock, hd.invalTime, hd.nextRid]; exact pt.idle
  · rw [hd.clock, hd.invalTime]; exact pt.inval
  · rw [hd.clock, hd.invalTime, hd.nextRid, hd.born, hd.rid]; exact pt.held
  · rw [hd.nextRid]; exact sb.next
  · rw [hd.idle, hd.invalTime]; exact sb.idle
  · rw [hd.rid]; exact sb.held

def GenC (N : Nat) (c : Conn) : Prop := Gen N c.db c.hasDbapi

theorem return_gen {N : Nat} {db : DB} (hg : Gen N db true) (r : Raw)
    (erid : r.rid = db.raw.rid) (eborn : r.born = db.raw.born) :
    Gen N { db with raw := r, idle := db.idle ++ [some r] } false := by
  obtain ⟨pt, sb⟩ := hg
  obtain ⟨hborn, hcur, hrid⟩ := pt.held rfl
  have hN := sb.held rfl
  refine ⟨⟨fun x hx => ?_, pt.inval, nofun⟩, ⟨sb.next, fun x hx hlt => ?_, nofun⟩⟩
  all_goals rcases List.mem_append.1 (show some x ∈ db.idle ++ [some r] from hx) with hx' | hx'
  · exact pt.idle x hx'
  · cases List.mem_singleton.1 hx'
    show r.born ≤ db.clock ∧ r.born ≠ db.invalTime ∧ r.rid < db.nextRid
    rw [erid, eborn]
    exact ⟨hborn, Nat.ne_of_gt hcur, hrid⟩
  · exact sb.idle x hx' hlt
  · cases List.mem_singleton.1 hx'
    rw [erid] at hlt
    omega

theorem checkin_gen {N : Nat} {db : DB} (b : Bool) (hg : Gen N db true) : Gen N (db.checkin b) false := by
  obtain ⟨db1, hd, ⟨_, e⟩ | ⟨e, _⟩⟩ := checkin_spec db b <;> rw [e]
  · exact kill_gen (data_gen hd hg)
  · exact return_gen (data_gen hd hg) _ rfl rfl

theorem checkin_gen_held {N : Nat} {db : DB} (b : Bool) (hg : Gen N db true) : Gen N (db.checkin b) true := by
  have h0 := checkin_gen b hg
  obtain ⟨erid, eborn, eclock, einval, enext⟩ := checkin_ids db b
  refine ⟨{ h0.time with held := fun _ => ?_ }, { h0.stale with held := fun _ => ?_ }⟩
  · rw [erid, eborn, eclock, einval, enext]; exact hg.time.held rfl
  · rw [erid]; exact hg.stale.held rfl

theorem HeldFacts.mono {N : Nat} {db db' : DB} {r : Raw} (h : HeldFacts N db r) (hm : Mono db db') :
    HeldFacts N db' r :=
  ⟨Nat.le_trans h.born hm.clock, hm.invalTime ▸ h.current, Nat.lt_of_lt_of_le h.rid hm.nextRid, h.notBelow⟩

theorem poolInv_gen (N : Nat) : PoolInv False (Gen N) where
  data := data_gen
  tick := tick_gen
  newRaw := newRaw_gen
  unheld := gen_unheld
  snocNone hg := hg.shrink (fun _ h => mem_snoc_none h) ⟨Nat.le_refl _, rfl, Nat.le_refl _⟩
  kill := kill_gen
  invalidate := poolInvalidate_gen
  pop := preSpec_gen
  reuse := by
    intro db db1 r hp hg
    obtain ⟨hin, hns⟩ := hp.out r rfl
    obtain ⟨hb, hne, hrid⟩ := hg.time.idle r hin
    obtain ⟨erid, eborn, _⟩ := handOut_raw db1 r
    -- not stale and not born at the invalidation time: born after it, so not numbered below `N`
    have hgt : db.invalTime < r.born := by omega
    have hN : N ≤ r.rid := Nat.le_of_not_lt fun hlt => by have := hg.stale.idle r hin hlt; omega
    rw [handOut_eq]
    refine gen_of_heldFacts (preSpec_gen hp hg) _ ?_
    refine ⟨?_, ?_, ?_, ?_⟩
    · rw [eborn]; exact Nat.le_trans hb hp.clock
    · rw [eborn, hp.invalTime]; exact hgt
    · rw [erid, hp.nextRid]; exact hrid
    · rw [erid]; exact hN
  checkin b h' _ hg := by
    cases h' with
    | false => exact checkin_gen b hg
    | true => exact checkin_gen_held b hg
  skipAc := False.elim
  frame {db db' r h} hm hr hg := by
    cases h with
    | false => exact hg.shrink (fun _ h => h) ⟨Nat.le_refl _, rfl, Nat.le_refl _⟩
    -- `hm` again, as a `Mono { db with raw := r } db'`
    | true => exact gen_of_heldFacts hg r ((gen_heldFacts hr).mono { hm with })

theorem run_gen {N : Nat} (ops : List Op) (c : Conn) : GenC N c → GenC N (c.run ops) :=
  (poolInv_gen N).run ops c False.elim

theorem discError_spec (c : Conn) (hd : c.hasDbapi = true) :
    c.discError =
      ({ c with hasDbapi := false,
                db := if c.db.listener == .noPoolInval then c.db.kill else c.db.poolInvalidate.kill },
       .disconnect) := by
  have hni : c.invalidated = false := by simp [Conn.invalidated, hd]
  unfold Conn.discError
  split
  · simp [hni]
  · simp [Conn.onDisconnect, hni]

theorem dbapiError_disc (c : Conn) (k : FKind)
    (hk : k = .disc ∨ (c.db.listener = .forceDisc ∧ k = .err)) :
    c.dbapiError k = c.discError := by
  unfold Conn.dbapiError
  rcases hk with rfl | ⟨hl, rfl⟩
  · simp
  · simp [hl]

theorem dbapiError_err (c : Conn) (hl : c.db.listener ≠ .forceDisc) :
    c.dbapiError .err = c.plainError := by
  have hl' : (c.db.listener == .forceDisc) = false := by simpa using hl
  simp [Conn.dbapiError, hl']

/-- invalidated with a transaction still attached: `connProp` raises PendingRollbackError -/
def Blocked (c : Conn) : Prop :=
  c.hasDbapi = false ∧ c.canReconnect = true ∧ c.transaction.isSome = true

structure Keep (c c' : Conn) : Prop where
  db : c'.db = c.db
  hasDbapi : c'.hasDbapi = c.hasDbapi
  canReconnect : c'.canReconnect = c.canReconnect
  transaction : c'.transaction = c.transaction

theorem Keep.blocked {c c' : Conn} (h : Keep c c') (hb : Blocked c) : Blocked c' := by
  unfold Blocked; rw [h.hasDbapi, h.canReconnect, h.transaction]; exact hb

theorem Frame.keep {c c' : Conn} (h : Frame c c') : Keep c c' :=
  ⟨h.db, h.hasDbapi, h.canReconnect, h.transaction⟩

theorem blocked_connProp {c : Conn} (hb : Blocked c) : c.connProp = (c, .pendingRollback) := by
  obtain ⟨hgone, hrc, htr⟩ := hb
  simp [Conn.connProp, Conn.revalidate, hgone, hrc, htr]

theorem blocked_execute {c : Conn} (hb : Blocked c) (q : Sql) : c.execute q = (c, .pendingRollback) := by
  simp [Conn.execute, blocked_connProp hb, andThen]

theorem blocked_commitImpl {c : Conn} (hb : Blocked c) : c.commitImpl = (c, .pendingRollback) := by
  simp [Conn.commitImpl, blocked_connProp hb, andThen]

def StaysBlocked (c : Conn) (x : Conn × Res) : Prop :=
  x.2 ≠ .ok ∧ Blocked x.1 ∧ x.1.db = c.db

theorem blocked_tCommit {c : Conn} (hb : Blocked c) (h : Nat) : StaysBlocked c (c.tCommit h) := by
  unfold Conn.tCommit
  split
  · unfold Conn.rootCommit
    split
    · rw [blocked_commitImpl hb]
      simp only [andFinally_mk]
      have hk := ((frame_cancelNested c).trans (frame_rootDeactivate _ h)).keep
      rw [andThen_not_ok (by simp)]
      exact ⟨by simp, hk.blocked hb, hk.db⟩
    · split
      · exact ⟨by simp, hb, rfl⟩
      · exact ⟨by simp, hb, rfl⟩
  · unfold Conn.nestedCommit
    split
    · rw [blocked_execute hb]
      simp only [andFinally_mk]
      rw [andThen_not_ok (by simp)]
      exact ⟨by simp, (frame_deactivate c h).keep.blocked hb, rfl⟩
    · split
      · exact ⟨by simp, hb, rfl⟩
      · exact ⟨by simp, hb, rfl⟩

/-- the calls that "go on using" the connection -/
def Op.uses : Op → Bool
  | .exec _ | .begin | .beginNested | .commit | .tCommit _ => true
  | _ => false

theorem blocked_step {c : Conn} (hb : Blocked c) (op : Op) (hu : op.uses = true) :
    StaysBlocked c (c.step op) := by
  obtain ⟨t, ht⟩ : ∃ t, c.transaction = some t := Option.isSome_iff_exists.1 hb.2.2
  cases op with
  | exec s =>
    show StaysBlocked c (c.execute _)
    rw [blocked_execute hb]
    exact ⟨by simp, hb, rfl⟩
  | begin =>
    show StaysBlocked c c.begin
    rw [show c.begin = (c, .invalidRequest) by simp [Conn.begin, ht]]
    exact ⟨by simp, hb, rfl⟩
  | beginNested =>
    show StaysBlocked c c.beginNested
    rw [Conn.beginNested, autobegin_some ht, andThen_ok]
    split
    · exact ⟨by simp, hb, rfl⟩
    · have hb2 : Blocked ({ c with spSeq := c.spSeq + 1 } : Conn) := hb
      dsimp only
      rw [blocked_execute hb2, andThen_not_ok (by simp)]
      exact ⟨by simp, hb2, rfl⟩
  | commit =>
    show StaysBlocked c c.commit
    rw [Conn.commit, ht]
    exact blocked_tCommit hb t
  | tCommit h => exact blocked_tCommit hb h
  | _ => cases hu

theorem rootDeactivate_nested (c : Conn) (h : Nat) : (c.rootDeactivate h).nested = c.nested := by
  unfold Conn.rootDeactivate
  split
  · rfl
  · split <;> rfl

theorem blocked_rollback {c : Conn} (hb : Blocked c) (hroot : RootPtr c) (hwf : PrevWF c) :
    c.rollback.2 = .ok ∧ c.rollback.1.db = c.db ∧ c.rollback.1.transaction = none ∧
    c.rollback.1.nested = none ∧ c.rollback.1.hasDbapi = false ∧ c.rollback.1.canReconnect = true ∧
    c.rollback.1.ctxMgr = c.ctxMgr ∧ c.rollback.1.invalidated = true ∧
    c.rollback.1.inTransaction = false ∧ c.rollback.1.inNested = false := by
  obtain ⟨hgone, hrc, hsome⟩ := hb
  cases ht : c.transaction with
  | none => rw [ht] at hsome; cases hsome
  | some t =>
    have hri : c.rollbackImpl = (c, .ok) := by simp [Conn.rollbackImpl, hgone]
    have hx : (andThen (if c.act t = true then c.rollbackImpl else (c, Res.ok))
        fun c => (c.cancelNested, Res.ok)) = (c.cancelNested, .ok) := by
      split <;> simp [hri]
    have hk := (frame_cancelNested c).trans (frame_rootDeactivate c.cancelNested t)
    have htr : (c.cancelNested.rootDeactivate t).transaction = some t := hk.transaction.trans ht
    -- the `simp only` computes `c.rollback` to
    -- `({ c.cancelNested.rootDeactivate t with transaction := none }, .ok)`: conjuncts one and three become `True`
    simp only [Conn.rollback, ht, Conn.tRollback, hroot t ht, if_true, Conn.rootCloseImpl, hx,
      andFinally_mk, Conn.rootCloseFinally, Bool.or_true, htr, beq_self_eq_true]
    exact ⟨trivial, hk.db, trivial, (rootDeactivate_nested _ t).trans (cancelNested_none hwf),
      hk.hasDbapi.trans hgone, hk.canReconnect.trans hrc, hk.ctxMgr,
      by simp [Conn.invalidated, hk.hasDbapi.trans hgone, hk.canReconnect.trans hrc],
      by simp [Conn.inTransaction],
      by simp [Conn.inNested, rootDeactivate_nested, cancelNested_none hwf]⟩

theorem reconnect_execute {c : Conn} (hgone : c.hasDbapi = false) (hrc : c.canReconnect = true)
    (htr : c.transaction = none) (hne : c.nested = none) (hcm : c.ctxMgr = none)
    (hf : c.db.faults = []) (hl : c.db.listener ≠ .forceDisc) (s : Stmt) :
    ((c.execute (.stmt s)).2 = .ok ∨ (c.execute (.stmt s)).2 = .integrity) ∧
    (c.execute (.stmt s)).1.hasDbapi = true ∧ (c.execute (.stmt s)).1.inTransaction = true ∧
    (c.execute (.stmt s)).1.db.raw.rid = c.db.checkout.raw.rid := by
  -- the first thing `execute` does is the checkout; from there it is the undisturbed case
  let c1 : Conn := { c with hasDbapi := true, db := c.db.checkout }
  have hcp : c.connProp = (c1, .ok) := by
    simp [Conn.connProp, Conn.revalidate, hgone, hrc, htr, c1, checkoutF_nofault hf]
  have hex : c.execute (.stmt s) = c1.execute (.stmt s) := by
    rw [Conn.execute, Conn.execute, hcp]
    rfl
  have hctx : c1.ctxRaises = false := by simp [Conn.ctxRaises, c1, hcm]
  have hstale : c1.stale = false := by simp [Conn.stale, c1, htr, hne]
  obtain ⟨_, hdb, hd, hin⟩ := autobegin_quiet (c := c1) rfl hctx hstale
  rw [hex, execute_quiet (c := c1) rfl ((checkout_quiet c.db).1.trans hf)
    (by rw [show c1.db.listener = _ from (checkout_quiet c.db).2]; exact hl) hctx hstale]
  have hr := apply_spec c1.autobegin.1.db (.stmt s)
  cases hq : c1.autobegin.1.db.apply (.stmt s) with
  | mk o r =>
    rw [hq] at hr
    cases o with
    | some db2 => exact ⟨.inl rfl, hd, hin, hr.1.rid.trans (congrArg (·.raw.rid) hdb)⟩
    | none => exact ⟨.inr (hr s rfl), hd, hin, congrArg (·.raw.rid) hdb⟩

structure PoolSame (c c' : Conn) : Prop where
  idle : c'.db.idle = c.db.idle
  invalTime : c'.db.invalTime = c.db.invalTime
  hasDbapi : c'.hasDbapi = c.hasDbapi
  rid : c'.db.raw.rid = c.db.raw.rid
  listener : c'.db.listener = c.db.listener
  faults : ∀ f, f ∈ c'.db.faults → f ∈ c.db.faults

theorem PoolSame.refl (c : Conn) : PoolSame c c := ⟨rfl, rfl, rfl, rfl, rfl, fun _ h => h⟩
theorem PoolSame.trans {a b c : Conn} (h1 : PoolSame a b) (h2 : PoolSame b c) : PoolSame a c :=
  ⟨h2.idle.trans h1.idle, h2.invalTime.trans h1.invalTime, h2.hasDbapi.trans h1.hasDbapi,
   h2.rid.trans h1.rid, h2.listener.trans h1.listener, fun f h => h1.faults f (h2.faults f h)⟩

theorem poolSame_data (c : Conn) (db' : DB) (h : DataOnly c.db db')
    (hf : ∀ f, f ∈ db'.faults → f ∈ c.db.faults) :
    PoolSame c { c with db := db' } := ⟨h.idle, h.invalTime, rfl, h.rid, h.listener, hf⟩

theorem takeFault_some_mem {db db1 : DB} {p : FPoint} {k : FKind} (h : db.takeFault p = (some k, db1)) :
    (p, k) ∈ db.faults := by
  unfold DB.takeFault at h
  split at h
  · cases h
  · rename_i f hf
    cases h
    have hp := List.find?_some hf
    simp only [beq_iff_eq] at hp
    rw [← hp]
    exact List.mem_of_find?_eq_some hf

/-- an armed ROLLBACK failure that is a disconnect / an interrupt: met by the error handler's
    own autorollback it invalidates connection and pool although the error raised is the
    ordinary one -/
def RbBad (c : Conn) : Prop := ∃ f, f ∈ c.db.faults ∧ f.1 = .rollback ∧ f.2 ≠ .err

theorem plainError_poolSame (c : Conn) : PoolSame c c.plainError.1 ∨ RbBad c :=
  plainError_cases (P := fun x => PoolSame c x.1 ∨ RbBad c) c (.inl (PoolSame.refl c))
    (fun db1 hf => .inl (poolSame_data c db1 (takeFault_dataOnly hf) (takeFault_faults hf)))
    (fun _ _ _ hk hf _ => .inr ⟨_, takeFault_some_mem hf, rfl, hk⟩)
    (fun db1 hf => .inl (poolSame_data c db1.rollback
      ((takeFault_dataOnly hf).trans (rollback_dataOnly db1)) (fun f h => takeFault_faults hf f h)))

def PoolSameUnless (c : Conn) (x : Conn × Res) : Prop :=
  PoolSame c x.1 ∨ x.2 = .disconnect ∨ x.2 = .interrupted ∨ RbBad c

theorem PoolSameUnless.of_poolSame {c c1 : Conn} {x : Conn × Res} (h0 : PoolSame c c1)
    (h : PoolSameUnless c1 x) : PoolSameUnless c x := by
  rcases h with h | h | h | ⟨f, hm, h1, h2⟩
  · exact .inl (h0.trans h)
  · exact .inr (.inl h)
  · exact .inr (.inr (.inl h))
  · exact .inr (.inr (.inr ⟨f, h0.faults f hm, h1, h2⟩))

theorem dbapiError_poolSameUnless (c : Conn) (k : FKind) (hl : c.db.listener ≠ .forceDisc) :
    PoolSameUnless c (c.dbapiError k) := by
  cases k with
  | disc =>
    rw [dbapiError_disc c .disc (.inl rfl)]
    right; left
    unfold Conn.discError; split <;> rfl
  | err =>
    rw [dbapiError_err c hl]
    exact (plainError_poolSame c).imp_right fun h => .inr (.inr h)
  | kbi => exact .inr (.inr (.inl rfl))

theorem andThen_poolSameUnless {c : Conn} {x : Conn × Res} {f : Conn → Conn × Res}
    (h1 : PoolSameUnless c x) (h2 : ∀ c1, PoolSame c c1 → PoolSameUnless c1 (f c1)) :
    PoolSameUnless c (andThen x f) := by
  refine andThen_cases (fun _ => h1) (fun hok => ?_)
  rcases h1 with h1 | h1 | h1 | h1
  · exact (h2 _ h1).of_poolSame h1
  · rw [hok] at h1; cases h1
  · rw [hok] at h1; cases h1
  · exact .inr (.inr (.inr h1))

theorem fault_poolSameUnless {c : Conn} {p : FPoint} {k : FKind} {db1 : DB} (hf : c.db.takeFault p = (some k, db1))
    (hl : c.db.listener ≠ .forceDisc) : PoolSameUnless c (({ c with db := db1 } : Conn).dbapiError k) :=
  have hd := takeFault_dataOnly hf
  (dbapiError_poolSameUnless _ k (by rw [show db1.listener = _ from hd.listener]; exact hl)).of_poolSame
    (poolSame_data c db1 hd (takeFault_faults hf))

theorem runSql_poolSameUnless (c : Conn) (q : Sql) (hl : c.db.listener ≠ .forceDisc) :
    PoolSameUnless c (c.runSql q) := by
  unfold Conn.runSql
  split
  · exact fault_poolSameUnless ‹_› hl
  · split
    · rename_i ha
      obtain ⟨hd, hfs, _⟩ := apply_some ha
      exact .inl (poolSame_data c _ hd (fun x hx => hfs ▸ hx))
    · simp only [dbapiError_err c hl]
      exact (plainError_poolSame c).imp_right fun h => .inr (.inr h)

theorem execute_poolSameUnless (c : Conn) (q : Sql) (hd : c.hasDbapi = true) (hl : c.db.listener ≠ .forceDisc) :
    PoolSameUnless c (c.execute q) := by
  have hcur : PoolSameUnless c (c.dbapiCall .cursor id) := by
    unfold Conn.dbapiCall
    split
    · exact fault_poolSameUnless ‹_› hl
    · exact .inl (poolSame_data c _ (takeFault_dataOnly ‹_›) (takeFault_faults ‹_›))
  unfold Conn.execute
  rw [connProp_held hd, andThen_ok]
  refine andThen_poolSameUnless hcur fun c1 h1 => ?_
  have hl1 : c1.db.listener ≠ .forceDisc := by rw [h1.listener]; exact hl
  unfold Conn.execChecked
  split
  · exact .inl (PoolSame.refl _)
  · split
    · exact .inl (PoolSame.refl _)
    · rename_i hctx
      refine andThen_poolSameUnless ?_ fun c2 h2 => runSql_poolSameUnless c2 q (by rw [h2.listener]; exact hl1)
      cases ht : c1.transaction with
      | none =>
        rw [autobegin_none ht (h1.hasDbapi.trans hd) (Bool.eq_false_iff.2 hctx)]
        exact .inl ⟨rfl, rfl, rfl, rfl, rfl, fun _ h => h⟩
      | some t =>
        rw [autobegin_some ht]
        exact .inl (PoolSame.refl _)

end SaVerif.Txn
