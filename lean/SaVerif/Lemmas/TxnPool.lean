import SaVerif.Lemmas.Txn
/-!
What a pool function can do to the database state, and the moves of a Connection call: every Connection API
call is a composition of a few basic moves (`Evo`), and an invariant that survives the basic moves survives
every call.  The call graph is walked once, for `Evo`.
-/
namespace SaVerif.Txn

/-- every DBAPI connection idle in the pool has no transaction in progress (so it will see
    exactly the committed rows when handed out), no savepoints, default isolation level -/
def PoolClean (db : DB) : Prop :=
  ∀ r, some r ∈ db.idle → r.follows = true ∧ r.saves = [] ∧ r.autocommit = false ∧
    r.readUnc = false ∧ r.finalize = []

/-- a non-default isolation level on the held DBAPI connection is always accompanied by a
    queued reset callback that covers the isolation level -/
def IsoOk (r : Raw) : Prop :=
  (r.autocommit = true ∨ r.readUnc = true) → r.finalize.any id = true

def HeldIso (db : DB) : Prop := IsoOk db.raw

/-- the connection's `_transaction` is a RootTransaction object -/
def RootPtr (c : Conn) : Prop := ∀ t, c.transaction = some t → (c.txn t).isRoot = true

/-- what keeps `PoolClean` and `HeldIso`.  `held` may assume `PoolClean db` because the held connection of
    `db'` can be one that was idle in `db` (`handOut`). -/
structure Shrinks (db db' : DB) : Prop where
  cfg : db'.cfg = db.cfg       -- reset_on_return style and skip_autocommit_rollback
  idle : ∀ r, some r ∈ db'.idle → some r ∈ db.idle
  held : PoolClean db → HeldIso db → HeldIso db'

theorem Shrinks.clean {db db' : DB} (h : Shrinks db db') (hc : PoolClean db) : PoolClean db' :=
  fun r hr => hc r (h.idle r hr)

theorem Shrinks.trans {a b c : DB} (h1 : Shrinks a b) (h2 : Shrinks b c) : Shrinks a c :=
  ⟨h2.cfg.trans h1.cfg, fun r h => h1.idle r (h2.idle r h),
   fun hc hi => h2.held (h1.clean hc) (h1.held hc hi)⟩

theorem heldIso_clean {db : DB} (h1 : db.raw.autocommit = false) (h2 : db.raw.readUnc = false) :
    HeldIso db := by
  intro h; rcases h with h | h
  · rw [h1] at h; cases h
  · rw [h2] at h; cases h

theorem mem_snoc_none {idle : List (Option Raw)} {r : Raw} (h : some r ∈ idle ++ [none]) :
    some r ∈ idle := by
  rcases List.mem_append.1 h with h | h
  · exact h
  · cases List.mem_singleton.1 h

/-- a move on the rows, savepoints, armed faults or isolation state of the held connection: what the pool
    invariants read stays.  `committed`, `recycle` and `engineOpts` are left free.  `iso` is `id` for a move
    that keeps `autocommit`, `readUnc` and `finalize`, all that `IsoOk` reads (`dataOnly_rows`). -/
structure DataOnly (db db' : DB) : Prop where
  cfg : db'.cfg = db.cfg
  idle : db'.idle = db.idle
  clock : db'.clock = db.clock
  invalTime : db'.invalTime = db.invalTime
  nextRid : db'.nextRid = db.nextRid
  rid : db'.raw.rid = db.raw.rid
  born : db'.raw.born = db.raw.born
  listener : db'.listener = db.listener
  iso : HeldIso db → HeldIso db'

theorem DataOnly.refl (db : DB) : DataOnly db db := ⟨rfl, rfl, rfl, rfl, rfl, rfl, rfl, rfl, id⟩
theorem DataOnly.trans {a b c : DB} (h1 : DataOnly a b) (h2 : DataOnly b c) : DataOnly a c :=
  ⟨h2.cfg.trans h1.cfg, h2.idle.trans h1.idle, h2.clock.trans h1.clock,
   h2.invalTime.trans h1.invalTime, h2.nextRid.trans h1.nextRid, h2.rid.trans h1.rid,
   h2.born.trans h1.born, h2.listener.trans h1.listener, fun h => h2.iso (h1.iso h)⟩

theorem DataOnly.shrinks {db db' : DB} (h : DataOnly db db') : Shrinks db db' :=
  ⟨h.cfg, fun _ hr => h.idle ▸ hr, fun _ => h.iso⟩

theorem dataOnly_rows (db : DB) (cm w : Data) (sv : List (Nat × Data)) (fs : List (FPoint × FKind)) :
    DataOnly db { db with committed := cm, faults := fs, raw := { db.raw with working := w, saves := sv } } :=
  ⟨rfl, rfl, rfl, rfl, rfl, rfl, rfl, rfl, id⟩

theorem takeFault_only_faults {db db1 : DB} {p : FPoint} {o : Option FKind} (h : db.takeFault p = (o, db1)) :
    ∃ fs, db1 = { db with faults := fs } ∧ ∀ f, f ∈ fs → f ∈ db.faults := by
  unfold DB.takeFault at h
  split at h
  · cases h
    exact ⟨db.faults, rfl, fun _ h => h⟩
  · cases h
    exact ⟨_, rfl, fun _ h => List.mem_of_mem_erase h⟩

theorem takeFault_dataOnly {db db1 : DB} {p : FPoint} {o : Option FKind}
    (h : db.takeFault p = (o, db1)) : DataOnly db db1 := by
  obtain ⟨fs, rfl, _⟩ := takeFault_only_faults h
  exact dataOnly_rows db _ _ _ _

theorem takeFault_faults {db db1 : DB} {p : FPoint} {o : Option FKind}
    (h : db.takeFault p = (o, db1)) : ∀ f, f ∈ db1.faults → f ∈ db.faults := by
  obtain ⟨fs, rfl, hfs⟩ := takeFault_only_faults h
  exact hfs

theorem takeFault_none {db db1 : DB} {p : FPoint} (h : db.takeFault p = (none, db1)) : db1 = db := by
  unfold DB.takeFault at h
  split at h
  · cases h; rfl
  · cases h

theorem commit_dataOnly (db : DB) : DataOnly db db.commit := dataOnly_rows db _ _ _ _
theorem rollback_dataOnly (db : DB) : DataOnly db db.rollback := dataOnly_rows db _ _ _ _

theorem apply_spec (db : DB) (q : Sql) :
    match db.apply q with
    | (some db', r) => DataOnly db db' ∧ db'.faults = db.faults ∧ r = .ok
    | (none, r) => ∀ s, q = .stmt s → r = .integrity := by
  have hw : ∀ d, DataOnly db (db.write d) ∧ (db.write d).faults = db.faults ∧ Res.ok = .ok := fun d => by
    unfold DB.write; split <;> exact ⟨dataOnly_rows db _ _ _ _, rfl, rfl⟩
  cases q with
  | stmt s =>
    cases s with
    | ins k =>
      dsimp only [DB.apply]
      cases db.raw.working.insert k with
      | none => exact fun _ _ => rfl
      | some d => exact hw d
    | del k => exact hw _
    | sel => exact ⟨DataOnly.refl _, rfl, rfl⟩
  | savepoint n => exact ⟨dataOnly_rows db _ _ _ _, rfl, rfl⟩
  | rollbackTo n =>
    dsimp only [DB.apply, Raw.rollbackTo]
    cases dropTo n db.raw.saves with
    | none => exact nofun
    | some l =>
      cases l with
      | nil => exact nofun
      | cons x rest => exact ⟨dataOnly_rows db _ _ _ _, rfl, rfl⟩
  | release n =>
    dsimp only [DB.apply, Raw.release]
    cases dropTo n db.raw.saves with
    | none => exact nofun
    | some l =>
      cases l with
      | nil => exact nofun
      | cons x rest =>
        dsimp only
        split <;> exact ⟨dataOnly_rows db _ _ _ _, rfl, rfl⟩

theorem apply_some {db db' : DB} {q : Sql} {r : Res} (h : db.apply q = (some db', r)) :
    DataOnly db db' ∧ db'.faults = db.faults ∧ r = .ok := by
  have := apply_spec db q
  rw [h] at this
  exact this

theorem applyChar_dataOnly (db : DB) (b : Bool) : DataOnly db (db.applyChar b) := by
  unfold DB.applyChar
  cases b with
  | true => exact { DataOnly.refl db with iso := fun _ _ => by simp }
  | false =>
    refine { DataOnly.refl db with iso := fun hi h => ?_ }
    have := hi h
    simp only [Bool.false_eq_true, if_false] at this ⊢
    simp [this]

theorem tick_shrinks (db : DB) : Shrinks db db.tick.1 := ⟨rfl, fun _ h => h, fun _ h => h⟩

theorem kill_shrinks (db : DB) : Shrinks db db.kill :=
  ⟨rfl, fun _ h => mem_snoc_none h, fun _ _ => heldIso_clean rfl rfl⟩

theorem newRaw_shrinks (db : DB) : Shrinks db db.newRaw :=
  ⟨rfl, fun _ h => h, fun _ _ => heldIso_clean rfl rfl⟩

theorem poolInvalidate_shrinks (db : DB) : Shrinks db db.poolInvalidate := by
  unfold DB.poolInvalidate
  split <;> exact ⟨rfl, fun _ h => h, fun _ h => h⟩

/-- everything `checkoutPre` can do: pop the head of the queue and maybe read the clock -/
structure PreSpec (db db1 : DB) (o : Option Raw) : Prop where
  cfg : db1.cfg = db.cfg
  committed : db1.committed = db.committed
  raw : db1.raw = db.raw
  faults : db1.faults = db.faults
  listener : db1.listener = db.listener
  engineOpts : db1.engineOpts = db.engineOpts
  recycle : db1.recycle = db.recycle
  nextRid : db1.nextRid = db.nextRid
  invalTime : db1.invalTime = db.invalTime
  clock : db.clock ≤ db1.clock
  idle : ∀ x, some x ∈ db1.idle → some x ∈ db.idle
  out : ∀ r, o = some r → some r ∈ db.idle ∧ ¬ (db.invalTime > r.born)

theorem staleCheck_state (db : DB) (r : Raw) :
    (db.staleCheck r).1 = db ∨ (db.staleCheck r).1 = db.tick.1 := by
  unfold DB.staleCheck
  cases db.recycle with
  | none => exact Or.inl rfl
  | some rc => exact Or.inr rfl

theorem staleCheck_fresh {db : DB} {r : Raw} (h : (db.staleCheck r).2 = false) :
    ¬ (db.invalTime > r.born) := by
  unfold DB.staleCheck at h
  cases hr : db.recycle with
  | none => rw [hr] at h; exact of_decide_eq_false h
  | some rc => rw [hr] at h; exact of_decide_eq_false (Bool.or_eq_false_iff.1 h).2

theorem PreSpec.refl (db : DB) : PreSpec db db none :=
  ⟨rfl, rfl, rfl, rfl, rfl, rfl, rfl, rfl, rfl, Nat.le_refl _, fun _ h => h, nofun⟩

theorem checkoutPre_spec (db : DB) : PreSpec db db.checkoutPre.1 db.checkoutPre.2.1 := by
  unfold DB.checkoutPre
  cases hi : db.idle with
  | nil => exact PreSpec.refl db
  | cons x rest =>
    have hmem : ∀ y, some y ∈ rest → some y ∈ db.idle := fun y h => by
      rw [hi]; exact List.mem_cons_of_mem _ h
    cases x with
    | none => exact { PreSpec.refl db with idle := hmem }
    | some r =>
      -- the state after the age test differs from `db` in `idle` and possibly `clock`
      have base : ∀ o, (∀ r', o = some r' → some r' ∈ db.idle ∧ ¬ (db.invalTime > r'.born)) →
          PreSpec db (({ db with idle := rest } : DB).staleCheck r).1 o := fun o ho => by
        rcases staleCheck_state ({ db with idle := rest } : DB) r with e | e <;> rw [e]
        · exact { PreSpec.refl db with idle := hmem, out := ho }
        · exact { PreSpec.refl db with clock := Nat.le_succ _, idle := hmem, out := ho }
      simp only []
      split
      · exact base none nofun
      · rename_i hst
        refine base (some r) (fun r' h => ?_)
        cases h
        exact ⟨by rw [hi]; exact List.mem_cons_self,
          staleCheck_fresh (db := { db with idle := rest }) (Bool.eq_false_iff.2 hst)⟩

theorem preSpec_shrinks {db db1 : DB} {o : Option Raw} (h : PreSpec db db1 o) : Shrinks db db1 :=
  ⟨h.cfg, h.idle, fun _ hi => by unfold HeldIso; rw [h.raw]; exact hi⟩

theorem freshRaw_cases (db : DB) (P : DB → Prop) (h1 : P db.newRaw)
    (ht : ∀ d, P d → P d.tick.1) (hn : ∀ d, P d → P d.newRaw) : P db.freshRaw := by
  unfold DB.freshRaw
  simp only []
  have h2 : P (db.newRaw.staleCheck db.newRaw.raw).1 := by
    rcases staleCheck_state db.newRaw db.newRaw.raw with h | h <;> rw [h]
    · exact h1
    · exact ht _ h1
  split
  · exact hn _ h2
  · exact h2

theorem checkout_cases (db : DB) (P : DB → Prop)
    (h1 : ∀ db1 r, PreSpec db db1 (some r) → P (db1.handOut r))
    (h2 : ∀ db1, PreSpec db db1 none → P db1.newRaw)
    (ht : ∀ d, P d → P d.tick.1) (hn : ∀ d, P d → P d.newRaw) : P db.checkout := by
  have hp := checkoutPre_spec db
  unfold DB.checkout
  split
  · rename_i db1 r _ hx; rw [hx] at hp; exact h1 db1 r hp
  · rename_i db1 hx; rw [hx] at hp; exact h2 db1 hp
  · rename_i db1 hx; rw [hx] at hp; exact freshRaw_cases db1 P (h2 db1 hp) ht hn

theorem handOut_eq (db : DB) (r : Raw) : db.handOut r = { db with raw := (db.handOut r).raw } := by
  unfold DB.handOut
  split <;> rfl

theorem handOut_raw (db : DB) (r : Raw) :
    (db.handOut r).raw.rid = r.rid ∧ (db.handOut r).raw.born = r.born ∧
    (db.handOut r).raw.autocommit = r.autocommit ∧ (db.handOut r).raw.readUnc = r.readUnc := by
  unfold DB.handOut
  split <;> exact ⟨rfl, rfl, rfl, rfl⟩

def HeldClean (db : DB) : Prop := db.raw.working = db.committed ∧ db.raw.saves = []

/-- `_ConnectionRecord.checkin` once the reset went through: the callbacks run, the record
    joins the queue -/
def DB.putBack (db : DB) : DB :=
  let iso := db.raw.finalize.any id
  let r := { db.raw with autocommit := db.raw.autocommit && !iso,
                         readUnc := db.raw.readUnc && !iso,
                         finalize := [],
                         follows := decide (db.raw.working = db.committed) && db.raw.saves.isEmpty }
  { db with raw := r, idle := db.idle ++ [some r] }

/-- `db1` is `db` after the reset attempt.  The first `HeldClean` clause serves C24, the second C23's
    `close_rolls_back_all`. -/
theorem checkin_spec (db : DB) (b : Bool) :
    ∃ db1, DataOnly db db1 ∧ (db.faults ≠ [] ∧ db.checkin b = db1.kill ∨
      db.checkin b = db1.putBack ∧
        (db.reset ≠ .none → (b = true ∨ db.skipsRollback = true → HeldClean db) → HeldClean db1) ∧
        (HeldClean db → HeldClean db1 ∧ db1.committed = db.committed)) := by
  have hne : ∀ {p k db1}, db.takeFault p = (some k, db1) → db.faults ≠ [] := fun hf hnil => by
    rw [takeFault_nil _ _ hnil] at hf; cases hf
  unfold DB.checkin
  cases hr : db.reset with
  | none => exact ⟨db, DataOnly.refl db, .inr ⟨rfl, fun h => absurd rfl h, fun h => ⟨h, rfl⟩⟩⟩
  | rollback =>
    dsimp only
    cases hbb : (b || db.skipsRollback) with
    | true =>
      exact ⟨db, DataOnly.refl db, .inr ⟨rfl, fun _ h => h (by simpa using hbb), fun h => ⟨h, rfl⟩⟩⟩
    | false =>
      cases hf : db.takeFault .rollback with
      | mk o db1 =>
        have hs := takeFault_dataOnly hf
        cases o with
        | some k => exact ⟨db1, hs, .inl ⟨hne hf, rfl⟩⟩
        | none =>
          cases (takeFault_none hf)
          exact ⟨db.rollback, rollback_dataOnly db, .inr ⟨rfl, fun _ _ => ⟨rfl, rfl⟩, fun _ => ⟨⟨rfl, rfl⟩, rfl⟩⟩⟩
  | commit =>
    dsimp only
    cases hf : db.takeFault .commit with
    | mk o db1 =>
      have hs := takeFault_dataOnly hf
      cases o with
      | some k => exact ⟨db1, hs, .inl ⟨hne hf, rfl⟩⟩
      | none =>
        cases (takeFault_none hf)
        exact ⟨db.commit, commit_dataOnly db, .inr ⟨rfl, fun _ _ => ⟨rfl, rfl⟩, fun h => ⟨⟨rfl, rfl⟩, h.1⟩⟩⟩

theorem putBack_clean {db : DB} (hcl : HeldClean db) (hc : PoolClean db) (hi : HeldIso db) :
    PoolClean db.putBack ∧ HeldIso db.putBack := by
  have ha : (db.raw.autocommit && !db.raw.finalize.any id) = false := by
    cases ha : db.raw.autocommit with
    | false => rfl
    | true => simp [hi (Or.inl ha)]
  have hu : (db.raw.readUnc && !db.raw.finalize.any id) = false := by
    cases hu : db.raw.readUnc with
    | false => rfl
    | true => simp [hi (Or.inr hu)]
  refine ⟨fun x hx => ?_, heldIso_clean ha hu⟩
  rcases List.mem_append.1 (show some x ∈ db.idle ++ [_] from hx) with hx | hx
  · exact hc x hx
  · cases List.mem_singleton.1 hx
    exact ⟨by simp [hcl.1, hcl.2], hcl.2, ha, hu, rfl⟩

theorem checkin_keeps_clean (db : DB) (b : Bool) (hrs : db.reset ≠ .none)
    (hauto : db.skipsRollback = true → HeldClean db)
    (hb : b = true → HeldClean db) (hc : PoolClean db) (hi : HeldIso db) :
    PoolClean (db.checkin b) ∧ (db.checkin b).cfg = db.cfg ∧ HeldIso (db.checkin b) := by
  obtain ⟨db1, hd, ⟨_, e⟩ | ⟨e, hcl, _⟩⟩ := checkin_spec db b <;> rw [e]
  · have hs := hd.shrinks.trans (kill_shrinks db1)
    exact ⟨hs.clean hc, hs.cfg, hs.held hc hi⟩
  · obtain ⟨hclean, hiso⟩ := putBack_clean (hcl hrs (fun h => h.elim hb hauto)) (hd.shrinks.clean hc) (hd.iso hi)
    exact ⟨hclean, hd.cfg, hiso⟩

theorem resets_of_cfg {db db' : DB} (h : db'.cfg = db.cfg) (hres : db.reset ≠ .none ∧ db.skipAc = false) :
    db'.reset ≠ .none ∧ db'.skipAc = false := by
  rw [show db'.reset = db.reset from congrArg Prod.fst h,
    show db'.skipAc = db.skipAc from congrArg Prod.snd h]
  exact hres

theorem checkout_held_clean (db : DB) (hc : PoolClean db) :
    db.checkout.raw.working = db.checkout.committed ∧ db.checkout.raw.saves = [] ∧
    db.checkout.raw.autocommit = false ∧ db.checkout.raw.readUnc = false ∧
    db.checkout.raw.finalize = [] := by
  apply checkout_cases db (fun d => d.raw.working = d.committed ∧ d.raw.saves = [] ∧
    d.raw.autocommit = false ∧ d.raw.readUnc = false ∧ d.raw.finalize = [])
  · intro db1 r hp
    obtain ⟨hfol, hsaves, hauto, hunc, hfin⟩ := hc r (hp.out r rfl).1
    simp only [DB.handOut, hfol, if_true]
    exact ⟨trivial, hsaves, hauto, hunc, hfin⟩
  · intro db1 _
    exact ⟨rfl, rfl, rfl, rfl, rfl⟩
  · intro d h
    exact h
  · intro d _
    exact ⟨rfl, rfl, rfl, rfl, rfl⟩

theorem checkoutF_some {db db' : DB} {k : FKind} (h : db.checkoutF = (db', some k)) :
    ∃ (db1 : DB) (hasRec : Bool) (db2 : DB), PreSpec db db1 none ∧ db1.takeFault .connect = (some k, db2) ∧
      db' = (if hasRec then { db2.tick.1 with idle := db2.tick.1.idle ++ [none] } else db2.tick.1) := by
  have hp := checkoutPre_spec db
  unfold DB.checkoutF at h
  split at h
  · rename_i db1 hasRec hx
    rw [hx] at hp
    split at h
    · rename_i k' db2 hf
      cases h
      exact ⟨db1, hasRec, db2, hp, hf, rfl⟩
    · cases h
  · cases h

theorem checkoutF_none {db db' : DB} (h : db.checkoutF = (db', none)) : db' = db.checkout := by
  unfold DB.checkoutF at h
  split at h
  · split at h
    · cases h
    · cases h; rfl
  · cases h; rfl

theorem checkout_quiet (db : DB) :
    db.checkout.faults = db.faults ∧ db.checkout.listener = db.listener := by
  apply checkout_cases db (fun d => d.faults = db.faults ∧ d.listener = db.listener)
  · intro db1 r hp
    rw [handOut_eq]; exact ⟨hp.faults, hp.listener⟩
  · intro db1 hp; exact ⟨hp.faults, hp.listener⟩
  · intro d h; exact h
  · intro d h; exact h

theorem checkoutF_nofault {db : DB} (hf : db.faults = []) : db.checkoutF = (db.checkout, none) := by
  cases hx : db.checkoutF with
  | mk db' o =>
    cases o with
    | none => rw [checkoutF_none hx]
    | some k =>
      obtain ⟨db1, _, db2, hp, hf', _⟩ := checkoutF_some hx
      rw [takeFault_nil _ _ (hp.faults.trans hf)] at hf'
      cases hf'

theorem foldl_applyChar {R : DB → DB → Prop} (hr : ∀ d, R d d) (ht : ∀ {a b c}, R a b → R b c → R a c)
    (hs : ∀ d b, R d (d.applyChar b)) : ∀ (l : List Bool) (d : DB), R d (l.foldl DB.applyChar d) := by
  intro l
  induction l with
  | nil => exact hr
  | cons b bs ih => exact fun d => ht (hs d b) (ih _)

/-- what checkouts and check-ins of other connections do -/
structure Mono (db db' : DB) : Prop where
  clock : db.clock ≤ db'.clock
  invalTime : db'.invalTime = db.invalTime
  nextRid : db.nextRid ≤ db'.nextRid

theorem Mono.refl (db : DB) : Mono db db := ⟨Nat.le_refl _, rfl, Nat.le_refl _⟩

theorem Mono.trans {a b c : DB} (h1 : Mono a b) (h2 : Mono b c) : Mono a c :=
  ⟨Nat.le_trans h1.clock h2.clock, h2.invalTime.trans h1.invalTime, Nat.le_trans h1.nextRid h2.nextRid⟩

theorem PreSpec.mono {db db1 : DB} {o : Option Raw} (h : PreSpec db db1 o) : Mono db db1 :=
  ⟨h.clock, h.invalTime, Nat.le_of_eq h.nextRid.symm⟩

theorem newRaw_mono (db : DB) : Mono db db.newRaw := ⟨Nat.le_succ _, rfl, Nat.le_succ _⟩

theorem checkout_mono (db : DB) : Mono db db.checkout := by
  apply checkout_cases db (fun d => Mono db d)
  · intro db1 r hp
    rw [handOut_eq]
    exact ⟨hp.clock, hp.invalTime, Nat.le_of_eq hp.nextRid.symm⟩
  · intro db1 hp
    exact hp.mono.trans (newRaw_mono db1)
  · intro d h
    exact h.trans ⟨Nat.le_succ _, rfl, Nat.le_refl _⟩
  · intro d h
    exact h.trans (newRaw_mono d)

theorem connectRaw_mono (db : DB) : Mono db db.connectRaw :=
  (checkout_mono db).trans (foldl_applyChar Mono.refl Mono.trans
    (fun d b => have h := applyChar_dataOnly d b
      ⟨Nat.le_of_eq h.clock.symm, h.invalTime, Nat.le_of_eq h.nextRid.symm⟩) _ _)

theorem checkin_ids (db : DB) (b : Bool) :
    (db.checkin b).raw.rid = db.raw.rid ∧ (db.checkin b).raw.born = db.raw.born ∧
    (db.checkin b).clock = db.clock ∧ (db.checkin b).invalTime = db.invalTime ∧
    (db.checkin b).nextRid = db.nextRid := by
  obtain ⟨db1, hd, ⟨_, e⟩ | ⟨e, _⟩⟩ := checkin_spec db b <;> rw [e] <;>
    exact ⟨hd.rid, hd.born, hd.clock, hd.invalTime, hd.nextRid⟩

/-- The moves every Connection API call is composed of.  With `ctx` the moves of `__enter__` /
    `__exit__` on the context-manager slots are allowed as well.  The side condition of `setTxn` is what
    `Evo.wfc` (`isRoot`, `prev`) and `Evo.ctxSame` (the two slots) need of `f`. -/
inductive Evo (ctx : Bool) : Conn → Conn → Prop
  | refl (c : Conn) : Evo ctx c c
  | trans {a b c : Conn} : Evo ctx a b → Evo ctx b c → Evo ctx a c
  | data {c : Conn} {db' : DB} : DataOnly c.db db' → Evo ctx c { c with db := db' }
  | checkout {c : Conn} : c.hasDbapi = false →
      Evo ctx c { c with hasDbapi := true, db := c.db.checkout }
  | checkoutFail {c : Conn} {db' : DB} {k : FKind} : c.hasDbapi = false →
      c.db.checkoutF = (db', some k) → Evo ctx c { c with db := db' }
  | disc {c : Conn} : Evo ctx c { c with hasDbapi := false, db := c.db.poolInvalidate.kill }
  | kill {c : Conn} : Evo ctx c { c with hasDbapi := false, db := c.db.kill }
  | pushRoot {c : Conn} : Evo ctx c c.pushRoot
  | pushNested {c : Conn} : Evo ctx c c.pushNested
  | bumpSeq {c : Conn} : Evo ctx c { c with spSeq := c.spSeq + 1 }
  | setTxn {c : Conn} (h : Nat) (f : Txn → Txn) :
      (∀ t, (f t).isRoot = t.isRoot ∧ (f t).prev = t.prev ∧
        (ctx = false → (f t).outerCtx = t.outerCtx ∧ (f t).subject = t.subject)) →
      Evo ctx c (c.setTxn h f)
  | popNested {c : Conn} {h : Nat} : c.nested = some h → Evo ctx c { c with nested := (c.txn h).prev }
  | warn {c : Conn} : Evo ctx c c.warn
  | detach {c : Conn} : Evo ctx c { c with transaction := none }
  | setCtx {c : Conn} (o : Option Nat) : ctx = true → Evo ctx c { c with ctxMgr := o }

variable {ctx : Bool}

theorem Evo.andThen {c : Conn} {x : Conn × Res} {f : Conn → Conn × Res}
    (h1 : Evo ctx c x.1) (h2 : ∀ c1, Evo ctx c1 (f c1).1) : Evo ctx c (andThen x f).1 :=
  andThen_cases (P := fun y => Evo ctx c y.1) (fun _ => h1) (fun _ => h1.trans (h2 _))

theorem Evo.ite {p : Prop} [Decidable p] {c : Conn} {a b : Conn × Res}
    (ha : Evo ctx c a.1) (hb : Evo ctx c b.1) : Evo ctx c (if p then a else b).1 := by
  split <;> assumption

theorem Evo.iteConn {p : Prop} [Decidable p] {c a b : Conn}
    (ha : Evo ctx c a) (hb : Evo ctx c b) : Evo ctx c (if p then a else b) := by
  split <;> assumption

theorem deactivate_evo (c : Conn) (h : Nat) : Evo ctx c (c.deactivate h) :=
  .setTxn h _ fun _ => ⟨rfl, rfl, fun _ => ⟨rfl, rfl⟩⟩

theorem revalidate_cases {P : Conn × Res → Prop} (c : Conn)
    (h0 : ¬ (c.invalidated = true ∧ c.transaction = none) → ∀ r, r ≠ .ok → P (c, r))
    (h1 : c.invalidated = true → c.transaction = none → c.db.checkoutF = (c.db.checkout, none) →
      P ({ c with hasDbapi := true, db := c.db.checkout }, .ok))
    (h2 : c.invalidated = true → c.transaction = none → ∀ db k r, c.db.checkoutF = (db, some k) →
      r ≠ .ok → P ({ c with db := db }, r)) : P c.revalidate := by
  unfold Conn.revalidate
  cases hc : (c.canReconnect && !c.hasDbapi) with
  | false =>
    exact h0 (fun h => by rw [Conn.invalidated, Bool.and_comm, hc] at h; cases h.1) _ nofun
  | true =>
    have hinv : c.invalidated = true := by rw [Conn.invalidated, Bool.and_comm]; exact hc
    cases hs : c.transaction.isSome with
    | true => exact h0 (fun h => by rw [h.2] at hs; cases hs) _ nofun
    | false =>
      have ht : c.transaction = none := by simpa using hs
      cases hx : c.db.checkoutF with
      | mk db o =>
        cases o with
        | none =>
          cases checkoutF_none hx
          exact h1 hinv ht hx
        | some k =>
          refine h2 hinv ht db k _ hx ?_
          cases k
          · cases (FKind.err == FKind.disc || c.db.listener == Listener.forceDisc) <;> nofun
          · nofun
          · nofun

theorem invalidated_hasDbapi {c : Conn} (h : c.invalidated = true) : c.hasDbapi = false := by
  simp only [Conn.invalidated, Bool.and_eq_true, Bool.not_eq_true'] at h
  exact h.1

theorem revalidate_evo (c : Conn) : Evo ctx c c.revalidate.1 :=
  revalidate_cases (P := fun x => Evo ctx c x.1) c (fun _ _ _ => .refl c)
    (fun hi _ _ => .checkout (invalidated_hasDbapi hi))
    (fun hi _ _ _ _ hx _ => .checkoutFail (invalidated_hasDbapi hi) hx)

theorem connProp_evo (c : Conn) : Evo ctx c c.connProp.1 :=
  .ite (.refl c) (revalidate_evo c)

theorem onDisconnect_evo (c : Conn) : Evo ctx c c.onDisconnect :=
  .iteConn (.refl c) .disc

theorem invalidate_evo (c : Conn) : Evo ctx c c.invalidate.1 :=
  .ite (.refl c) (.ite (.refl c) .kill)

theorem beginRoot_evo (c : Conn) : Evo ctx c c.beginRoot.1 :=
  .ite (.refl c) ((connProp_evo c).andThen fun _ => .pushRoot)

theorem begin_evo (c : Conn) : Evo ctx c c.begin.1 :=
  .ite (beginRoot_evo c) (.refl c)

theorem autobegin_evo (c : Conn) : Evo ctx c c.autobegin.1 :=
  .ite (begin_evo c) (.refl c)

theorem discError_evo (c : Conn) : Evo ctx c c.discError.1 :=
  .ite (Evo.iteConn (.refl c) .kill) (onDisconnect_evo c)

theorem plainError_cases {P : Conn × Res → Prop} (c : Conn) (h0 : P (c, .operational))
    (herr : ∀ db1, c.db.takeFault .rollback = (some .err, db1) → P ({ c with db := db1 }, .operational))
    (hbad : ∀ k db1 r, k ≠ .err → c.db.takeFault .rollback = (some k, db1) → r ≠ .ok →
      P (({ c with db := db1 } : Conn).discError.1, r))
    (hnone : ∀ db1, c.db.takeFault .rollback = (none, db1) →
      P ({ c with db := db1.rollback }, .operational)) : P c.plainError := by
  unfold Conn.plainError
  by_cases ht : c.inTransaction = true
  · rw [if_pos ht]; exact h0
  by_cases hd : c.hasDbapi = true
  · by_cases hs : c.db.skipsRollback = true
    · rw [if_neg ht, if_pos hd, if_pos hs]; exact h0
    · rw [if_neg ht, if_pos hd, if_neg hs]
      cases hf : c.db.takeFault .rollback with
      | mk o db1 =>
        cases o with
        | none => exact hnone db1 hf
        | some k =>
          cases k with
          | err => exact herr db1 hf
          | disc => exact hbad .disc db1 .operational nofun hf nofun
          | kbi => exact hbad .kbi db1 .interrupted nofun hf nofun
  · rw [if_neg ht, if_neg hd]; exact h0

theorem plainError_evo (c : Conn) : Evo ctx c c.plainError.1 :=
  plainError_cases (P := fun x => Evo ctx c x.1) c (.refl c)
    (fun _ hf => .data (takeFault_dataOnly hf))
    (fun _ _ _ _ hf _ => (Evo.data (takeFault_dataOnly hf)).trans (discError_evo _))
    (fun db hf => .data ((takeFault_dataOnly hf).trans (rollback_dataOnly db)))

theorem kbiError_evo (c : Conn) : Evo ctx c c.kbiError.1 :=
  Evo.iteConn (.refl c) .kill

theorem dbapiError_evo (c : Conn) (k : FKind) : Evo ctx c (c.dbapiError k).1 := by
  unfold Conn.dbapiError
  split
  · exact kbiError_evo c
  · split
    · exact discError_evo c
    · split
      · exact discError_evo c
      · exact plainError_evo c

theorem dbapiCall_evo (c : Conn) (p : FPoint) (f : DB → DB) (hf : ∀ db, DataOnly db (f db)) :
    Evo ctx c (c.dbapiCall p f).1 := by
  unfold Conn.dbapiCall
  split
  · rename_i k db h; exact (Evo.data (takeFault_dataOnly h)).trans (dbapiError_evo _ k)
  · rename_i db h; exact .data ((takeFault_dataOnly h).trans (hf db))

theorem runSql_evo (c : Conn) (q : Sql) : Evo ctx c (c.runSql q).1 := by
  unfold Conn.runSql
  split
  · rename_i k db h; exact (Evo.data (takeFault_dataOnly h)).trans (dbapiError_evo _ k)
  · split
    · rename_i ha; exact .data (apply_some ha).1
    · exact dbapiError_evo c .err

theorem execChecked_evo (c : Conn) (q : Sql) : Evo ctx c (c.execChecked q).1 :=
  .ite (.refl c) (.ite (.refl c) ((autobegin_evo c).andThen fun c1 => runSql_evo c1 q))

theorem execute_evo (c : Conn) (q : Sql) : Evo ctx c (c.execute q).1 := by
  unfold Conn.execute
  exact (connProp_evo c).andThen fun c1 =>
    (dbapiCall_evo c1 .cursor id DataOnly.refl).andThen fun c2 => execChecked_evo c2 q

theorem nestedDeactivate_evo (c : Conn) (h : Nat) (w : Bool) : Evo ctx c (c.nestedDeactivate h w) := by
  unfold Conn.nestedDeactivate
  split
  · rename_i hn; exact .popNested (by simpa using hn)
  · split
    · exact .warn
    · exact .refl c

theorem cancelNested_evo (c : Conn) : Evo ctx c c.cancelNested :=
  cancelNested_ind Evo.refl Evo.trans
    (fun c h => (deactivate_evo c h).trans (nestedDeactivate_evo _ h true)) c

theorem rootDeactivate_evo (c : Conn) (h : Nat) : Evo ctx c (c.rootDeactivate h) :=
  .iteConn (deactivate_evo c h) (.iteConn .warn (.refl c))

theorem rollbackImpl_evo (c : Conn) : Evo ctx c c.rollbackImpl.1 :=
  .ite (.ite (.refl c) (dbapiCall_evo c .rollback DB.rollback rollback_dataOnly)) (.refl c)

theorem rootCloseFinally_evo (c : Conn) (h : Nat) (b : Bool) : Evo ctx c (c.rootCloseFinally h b) :=
  (Evo.iteConn (rootDeactivate_evo c h) (.refl c)).trans (.iteConn .detach (.refl _))

theorem rootCloseImpl_evo (c : Conn) (h : Nat) (b : Bool) : Evo ctx c (c.rootCloseImpl h b).1 := by
  unfold Conn.rootCloseImpl
  refine Evo.trans (Evo.andThen ?_ fun c1 => cancelNested_evo c1) (rootCloseFinally_evo _ h b)
  split
  · exact rollbackImpl_evo c
  · exact .refl c

theorem commitImpl_evo (c : Conn) : Evo ctx c c.commitImpl.1 := by
  unfold Conn.commitImpl
  exact (connProp_evo c).andThen fun c1 => dbapiCall_evo c1 .commit DB.commit commit_dataOnly

theorem rootCommit_evo (c : Conn) (h : Nat) : Evo ctx c (c.rootCommit h).1 := by
  unfold Conn.rootCommit
  split
  · exact Evo.andThen
      ((commitImpl_evo c).trans ((cancelNested_evo _).trans (rootDeactivate_evo _ h)))
      fun _ => .detach
  · split <;> exact .refl c

theorem nestedCloseImpl_evo (c : Conn) (h : Nat) (w : Bool) : Evo ctx c (c.nestedCloseImpl h w).1 := by
  unfold Conn.nestedCloseImpl
  refine Evo.trans ?_ ((deactivate_evo _ h).trans (nestedDeactivate_evo _ h w))
  split
  · exact execute_evo c _
  · exact .refl c

theorem nestedCommit_evo (c : Conn) (h : Nat) : Evo ctx c (c.nestedCommit h).1 := by
  unfold Conn.nestedCommit
  split
  · exact Evo.andThen ((execute_evo c _).trans (deactivate_evo _ h))
      fun c1 => nestedDeactivate_evo c1 h true
  · split <;> exact .refl c

theorem beginNested_evo (c : Conn) : Evo ctx c c.beginNested.1 := by
  unfold Conn.beginNested
  refine (autobegin_evo c).andThen fun c1 => ?_
  split
  · exact .refl c1
  · exact Evo.bumpSeq.trans ((execute_evo _ _).andThen fun _ => .pushNested)

theorem tCommit_evo (c : Conn) (h : Nat) : Evo ctx c (c.tCommit h).1 :=
  .ite (rootCommit_evo c h) (nestedCommit_evo c h)

theorem tRollback_evo (c : Conn) (h : Nat) : Evo ctx c (c.tRollback h).1 :=
  .ite (rootCloseImpl_evo c h true) (nestedCloseImpl_evo c h true)

theorem tClose_evo (c : Conn) (h : Nat) : Evo ctx c (c.tClose h).1 :=
  .ite (rootCloseImpl_evo c h false) (nestedCloseImpl_evo c h false)

theorem commit_evo (c : Conn) : Evo ctx c c.commit.1 := by
  unfold Conn.commit
  split
  · exact tCommit_evo c _
  · exact .refl c

theorem rollback_evo (c : Conn) : Evo ctx c c.rollback.1 := by
  unfold Conn.rollback
  split
  · exact tRollback_evo c _
  · exact .refl c

theorem commitOrRollback_state (c : Conn) (h : Nat) :
    (c.commitOrRollback h).1 = (c.tCommit h).1 ∨
    (c.commitOrRollback h).1 = ((c.tCommit h).1.tRollback h).1 := by
  unfold Conn.commitOrRollback
  simp only []
  split
  · exact Or.inl rfl
  · split <;> exact Or.inr rfl

theorem commitOrRollback_evo (c : Conn) (h : Nat) : Evo ctx c (c.commitOrRollback h).1 := by
  rcases commitOrRollback_state c h with e | e <;> rw [e]
  · exact tCommit_evo c h
  · exact (tCommit_evo c h).trans (tRollback_evo _ h)

/-- the transaction part of `__exit__` (before its `finally:`) -/
def Conn.exitBody (c : Conn) (h : Nat) (exc : Bool) : Conn × Res :=
  if !exc && c.act h then c.commitOrRollback h
  else if !c.act h then (if !c.attached h then c.tClose h else (c, .ok))
  else c.tRollback h

theorem exit_eq (c : Conn) (h : Nat) (e : Bool) :
    c.exit h e = andFinally (c.exitBody h e)
      (fun c1 => c1.exitFinally h (!(c.txn h).subject || c.ctxMgr != some h)) := rfl

theorem exitBody_evo (c : Conn) (h : Nat) (e : Bool) : Evo ctx c (c.exitBody h e).1 :=
  .ite (commitOrRollback_evo c h) (.ite (.ite (tClose_evo c h) (.refl c)) (tRollback_evo c h))

theorem enter_evo (c : Conn) (h : Nat) : Evo true c (c.enter h).1 :=
  (Evo.setTxn (ctx := true) h (fun t => { t with outerCtx := c.ctxMgr, subject := true })
    fun _ => ⟨rfl, rfl, nofun⟩).trans (.setCtx _ rfl)

theorem exit_evo (c : Conn) (h : Nat) (e : Bool) : Evo true c (c.exit h e).1 := by
  rw [exit_eq]
  refine (exitBody_evo c h e).trans ?_
  unfold Conn.exitFinally
  refine Evo.trans ?_ (.setTxn (ctx := true) h _ fun _ => ⟨rfl, rfl, nofun⟩)
  split
  · exact .setCtx _ rfl
  · exact .refl _

theorem setAutocommit_evo (c : Conn) : Evo ctx c c.setAutocommit.1 :=
  .ite (.refl c) ((connProp_evo c).andThen fun _ => .data (applyChar_dataOnly _ _))

theorem setLogToken_evo (c : Conn) : Evo ctx c c.setLogToken.1 := by
  unfold Conn.setLogToken
  exact (connProp_evo c).andThen fun c1 => .data (applyChar_dataOnly _ _)

theorem setReadUnc_evo (c : Conn) : Evo ctx c c.setReadUnc.1 := by
  unfold Conn.setReadUnc
  split
  · exact .refl c
  · exact (connProp_evo c).andThen fun c1 =>
      .data { DataOnly.refl c1.db with iso := fun _ _ => by simp }

structure PrevWF (c : Conn) : Prop where
  prev : ∀ h p, (c.txn h).prev = some p → p < h
  nested : ∀ n, c.nested = some n → n < c.txns.length

def WFc (c : Conn) : Prop := RootPtr c ∧ PrevWF c

theorem WFc.rootPtr {c : Conn} (h : WFc c) : RootPtr c := h.1
theorem WFc.prevWF {c : Conn} (h : WFc c) : PrevWF c := h.2

theorem cancel_reaches_none : ∀ (fuel : Nat) (c : Conn) (n : Nat),
    c.nested = some n → n < fuel → (∀ h p, (c.txn h).prev = some p → p < h) →
    (Conn.cancel fuel c n).nested = none := by
  intro fuel
  induction fuel with
  | zero => intro c n _ h; cases h
  | succ f ih =>
    intro c n hn hlt hwf
    rw [cancel_succ c n f hn]
    cases hp : (c.txn n).prev with
    | none => exact hp
    | some p =>
      exact ih _ p hp (Nat.lt_of_lt_of_le (hwf n p hp) (Nat.le_of_lt_succ hlt))
        (fun h q hq => hwf h q ((deactivate_prev c n h).symm.trans hq))

theorem cancelNested_none {c : Conn} (hwf : PrevWF c) : c.cancelNested.nested = none := by
  unfold Conn.cancelNested
  cases hn : c.nested with
  | none => exact hn
  | some n => exact cancel_reaches_none _ c n hn (hwf.nested n hn) hwf.prev

theorem wfc_congr {c c' : Conn} (htxns : c'.txns = c.txns) (htr : c'.transaction = c.transaction)
    (hne : c'.nested = c.nested) (hw : WFc c) : WFc c' := by
  refine ⟨fun t ht => ?_, ⟨fun h p hx => ?_, fun n hn => ?_⟩⟩
  · rw [txn_congr htxns]; exact hw.rootPtr t (by rw [← htr]; exact ht)
  · rw [txn_congr htxns] at hx; exact hw.prevWF.prev h p hx
  · rw [htxns]; exact hw.prevWF.nested n (by rw [← hne]; exact hn)

theorem txn_ge_default (c : Conn) (x : Nat) (hx : c.txns.length ≤ x) : c.txn x = default := by
  simp [Conn.txn, List.getD_eq_getElem?_getD, List.getElem?_eq_none hx]

theorem wfc_empty {c : Conn} (htxns : c.txns = []) (htr : c.transaction = none) (hne : c.nested = none) :
    WFc c := by
  refine ⟨fun t ht => ?_, ⟨fun h p hx => ?_, fun n hn => ?_⟩⟩
  · rw [htr] at ht; cases ht
  · rw [txn_ge_default c h (by rw [htxns]; exact Nat.zero_le _)] at hx; cases hx
  · rw [hne] at hn; cases hn

theorem txn_isRoot_lt {c : Conn} {t : Nat} (h : (c.txn t).isRoot = true) : t < c.txns.length := by
  refine Nat.lt_of_not_le fun h' => ?_
  rw [txn_ge_default c t h'] at h
  cases h

theorem append_prev {c : Conn} (t : Txn) (hw : PrevWF c) (ht : ∀ p, t.prev = some p → p < c.txns.length) :
    ∀ h p, (({ c with txns := c.txns ++ [t] } : Conn).txn h).prev = some p → p < h := by
  intro h p hx
  rcases Nat.lt_trichotomy h c.txns.length with hl | hl | hl
  · rw [txn_append_lt rfl hl] at hx; exact hw.prev h p hx
  · subst hl; rw [txn_append_new rfl] at hx; exact ht p hx
  · have hge : (c.txns ++ [t]).length ≤ h := by rw [List.length_append]; exact hl
    rw [txn_ge_default _ h hge] at hx
    cases hx

theorem Evo.wfc {c c' : Conn} (he : Evo ctx c c') : WFc c → WFc c' := by
  induction he with
  | refl => exact id
  | trans _ _ ih1 ih2 => exact fun h => ih2 (ih1 h)
  | data | checkout | checkoutFail | disc | kill | bumpSeq | warn | setCtx =>
    exact wfc_congr rfl rfl rfl
  | @pushRoot c =>
    refine fun hw => ⟨fun t ht => ?_, append_prev _ hw.prevWF nofun, fun n hn => ?_⟩
    · cases ht
      rw [txn_append_new (c' := c.pushRoot) rfl]
    · exact Nat.lt_trans (hw.prevWF.nested n hn) (by simp [Conn.pushRoot])
  | @pushNested c =>
    refine fun hw => ⟨fun t ht => ?_, append_prev _ hw.prevWF hw.prevWF.nested, fun n hn => ?_⟩
    · have := hw.rootPtr t ht
      rw [txn_append_lt (c' := c.pushNested) rfl (txn_isRoot_lt this)]
      exact this
    · cases hn
      simp [Conn.pushNested]
  | @setTxn c h f hf =>
    refine fun hw => ⟨fun t ht => ?_, fun x p hx => ?_, fun n hn => ?_⟩
    · rw [setTxn_proj (·.isRoot) c h f (hf _).1]; exact hw.rootPtr t ht
    · rw [setTxn_proj (·.prev) c h f (hf _).2.1] at hx; exact hw.prevWF.prev x p hx
    · rw [setTxn_length]; exact hw.prevWF.nested n hn
  | @popNested c h hn =>
    exact fun hw => ⟨hw.rootPtr, hw.prevWF.prev, fun n hx =>
      Nat.lt_trans (hw.prevWF.prev h n hx) (hw.prevWF.nested h hn)⟩
  | detach => exact fun hw => ⟨nofun, hw.prevWF.prev, hw.prevWF.nested⟩

structure SameDb (c c' : Conn) : Prop where
  db : c'.db = c.db
  hasDbapi : c'.hasDbapi = c.hasDbapi

theorem Frame.sameDb {c c' : Conn} (h : Frame c c') : SameDb c c' := ⟨h.db, h.hasDbapi⟩

theorem sameDb_rootCloseFinally (c : Conn) (h : Nat) (b : Bool) : SameDb c (c.rootCloseFinally h b) := by
  unfold Conn.rootCloseFinally
  have h1 : SameDb c (if c.act h || b then c.rootDeactivate h else c) := by
    split
    · exact (frame_rootDeactivate c h).sameDb
    · exact ⟨rfl, rfl⟩
  have hdetach : ∀ c1 : Conn,
      SameDb c1 (if c1.transaction == some h then { c1 with transaction := none } else c1) := by
    intro c1
    split <;> exact ⟨rfl, rfl⟩
  exact ⟨(hdetach _).db.trans h1.db, (hdetach _).hasDbapi.trans h1.hasDbapi⟩

theorem discError_ne_ok (c : Conn) : c.discError.2 ≠ .ok := by
  unfold Conn.discError
  split <;> nofun

theorem plainError_ne_ok (c : Conn) : c.plainError.2 ≠ .ok :=
  plainError_cases (P := fun x => x.2 ≠ .ok) c nofun (fun _ _ => nofun) (fun _ _ _ _ _ h => h)
    (fun _ _ => nofun)

theorem dbapiError_ne_ok (c : Conn) (k : FKind) : (c.dbapiError k).2 ≠ .ok := by
  unfold Conn.dbapiError
  split
  · nofun
  · split
    · exact discError_ne_ok c
    · split
      · exact discError_ne_ok c
      · exact plainError_ne_ok c

theorem rollbackImpl_cases {P : Conn × Res → Prop} (c : Conn)
    (hskip : c.hasDbapi = false ∨ c.db.skipsRollback = true → P (c, .ok))
    (hfault : ∀ k db1, c.db.takeFault .rollback = (some k, db1) →
      P (({ c with db := db1 } : Conn).dbapiError k))
    (hdone : ∀ db1, c.db.takeFault .rollback = (none, db1) → P ({ c with db := db1.rollback }, .ok)) :
    P c.rollbackImpl := by
  unfold Conn.rollbackImpl
  by_cases hd : c.hasDbapi = true
  · by_cases hs : c.db.skipsRollback = true
    · rw [if_pos hd, if_pos hs]; exact hskip (.inr hs)
    · rw [if_pos hd, if_neg hs]
      unfold Conn.dbapiCall
      cases hf : c.db.takeFault .rollback with
      | mk o db1 =>
        cases o with
        | some k => exact hfault k db1 hf
        | none => exact hdone db1 hf
  · rw [if_neg hd]; exact hskip (.inl (Bool.eq_false_iff.2 hd))

theorem rootClose_heldClean (c : Conn) (t : Nat) (b : Bool) (hact : c.act t = true)
    (hsk : c.db.skipAc = false)
    (hok : (c.rootCloseImpl t b).2 = .ok) (hd : (c.rootCloseImpl t b).1.hasDbapi = true) :
    HeldClean (c.rootCloseImpl t b).1.db := by
  have hns : c.db.skipsRollback = false := by simp [DB.skipsRollback, hsk]
  have hf := sameDb_rootCloseFinally
    (andThen c.rollbackImpl fun c => (c.cancelNested, Res.ok)).1 t b
  unfold Conn.rootCloseImpl at hok hd ⊢
  simp only [hact, if_true, andFinally] at hok hd ⊢
  rw [hf.db]
  rw [hf.hasDbapi] at hd
  -- by the cases of `rollbackImpl`; what is known of the result (`hok`, `hd`) goes into the motive
  revert hok hd
  refine rollbackImpl_cases (P := fun x =>
    (andThen x fun c => (c.cancelNested, Res.ok)).2 = .ok →
    (andThen x fun c => (c.cancelNested, Res.ok)).1.hasDbapi = true →
    HeldClean (andThen x fun c => (c.cancelNested, Res.ok)).1.db) c ?_ ?_ ?_
  · -- no ROLLBACK was emitted: it is not skipped, so the connection was gone already
    intro h _ hd
    rw [andThen_ok, (frame_cancelNested c).hasDbapi] at hd
    rcases h with h | h
    · rw [h] at hd; cases hd
    · rw [hns] at h; cases h
  · -- the ROLLBACK met a fault: the result is not ok
    intro k db1 _ hok
    rw [andThen_not_ok (dbapiError_ne_ok _ k)] at hok
    exact absurd hok (dbapiError_ne_ok _ k)
  · -- the ROLLBACK went through: the database is `db.rollback`
    intro db1 hf' _ _
    cases takeFault_none hf'
    rw [andThen_ok, (frame_cancelNested _).db]
    exact ⟨rfl, rfl⟩

theorem releaseOrInterrupt_spec (c : Conn) (b : Bool) :
    (c.releaseOrInterrupt b).1.txns = c.txns ∧
    (c.releaseOrInterrupt b).1.transaction = c.transaction ∧
    (c.releaseOrInterrupt b).1.nested = c.nested ∧
    (c.releaseOrInterrupt b).1.db = (if c.hasDbapi then c.db.checkin b else c.db) ∧
    ((c.releaseOrInterrupt b).1.hasDbapi = true → c.hasDbapi = true) := by
  unfold Conn.releaseOrInterrupt
  split
  · rename_i hcond
    simp only [Bool.and_eq_true] at hcond
    exact ⟨rfl, rfl, rfl, by rw [hcond.1]; rfl, fun _ => hcond.1⟩
  · unfold Conn.release
    split
    · exact ⟨rfl, rfl, rfl, by simp [*], fun h => Bool.noConfusion h⟩
    · rename_i hh; exact ⟨rfl, rfl, rfl, by simp [*], fun h => absurd h hh⟩

theorem close_cases {P : Conn → Prop} (c : Conn)
    (hfail : ∀ t, c.transaction = some t → (c.tClose t).2 ≠ .ok → P (c.tClose t).1)
    (hok : ∀ t, c.transaction = some t → (c.tClose t).2 = .ok →
      P ((c.tClose t).1.releaseOrInterrupt (c.act t)).1)
    (hnone : c.transaction = none → P (c.releaseOrInterrupt false).1) : P c.close.1 := by
  unfold Conn.close
  split
  · rename_i t ht
    exact andThen_cases (P := fun y => P y.1) (hfail t ht) (hok t ht)
  · rename_i ht; exact hnone ht

end SaVerif.Txn
