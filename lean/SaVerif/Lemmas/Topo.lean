import SaVerif.Model.Topo
/-! M-TOPO's `sort`: the equations of the fuelled loop `sortAux` and its two outcomes — a
successful run peels `Layers` off the items, a failing one is stuck on a non-empty set of items
each of which has a parent in the set. -/
namespace SaVerif.Topo

theorem mem_parentsOf {ts : List Edge} {p c : Node} : p ∈ parentsOf ts c ↔ (p, c) ∈ ts := by
  unfold parentsOf
  simp only [List.mem_map, List.mem_filter, beq_iff_eq]
  constructor
  · rintro ⟨_, ⟨h, rfl⟩, rfl⟩
    exact h
  · intro h
    exact ⟨(p, c), ⟨h, rfl⟩, rfl⟩

theorem ready_iff {ts : List Edge} {todo : List Node} {n : Node} :
    ready ts todo n = true ↔ ∀ p, (p, n) ∈ ts → p ∉ todo := by
  unfold ready
  simp only [List.all_eq_true, Bool.not_eq_true', List.contains_eq_mem, decide_eq_false_iff_not,
    mem_parentsOf]

theorem mem_layer {ts : List Edge} {todo : List Node} {n : Node} :
    n ∈ layer ts todo ↔ n ∈ todo ∧ ∀ p, (p, n) ∈ ts → p ∉ todo := by
  unfold layer
  rw [List.mem_filter, ready_iff]

theorem mem_remaining {todo out : List Node} {n : Node} :
    n ∈ remaining todo out ↔ n ∈ todo ∧ n ∉ out := by
  unfold remaining
  simp only [List.mem_filter, Bool.not_eq_true', List.contains_eq_mem, decide_eq_false_iff_not]

theorem layer_remaining_perm (ts : List Edge) (todo : List Node) :
    (layer ts todo ++ remaining todo (layer ts todo)).Perm todo := by
  have : remaining todo (layer ts todo) = todo.filter (fun t => !ready ts todo t) := by
    apply List.filter_congr
    intro x hx
    rw [Bool.eq_iff_iff, Bool.not_eq_true', Bool.not_eq_true', List.contains_eq_mem,
      decide_eq_false_iff_not, mem_layer, ← ready_iff, ← Bool.not_eq_true]
    exact not_congr (and_iff_right hx)
  rw [this]
  exact List.filter_append_perm _ _

theorem remaining_length_lt {ts : List Edge} {todo : List Node} (h : layer ts todo ≠ []) :
    (remaining todo (layer ts todo)).length < todo.length := by
  rw [← (layer_remaining_perm ts todo).length_eq, List.length_append]
  exact Nat.lt_add_of_pos_left (List.length_pos_iff.2 h)

theorem sortAux_nil (ts : List Edge) (fuel : Nat) : sortAux ts fuel [] = some [] := by
  cases fuel <;> rfl

theorem sortAux_zero_cons (ts : List Edge) (a : Node) (l : List Node) :
    sortAux ts 0 (a :: l) = none := rfl

theorem sortAux_succ_cons (ts : List Edge) (n : Nat) (a : Node) (l : List Node) :
    sortAux ts (n + 1) (a :: l) =
      if layer ts (a :: l) = [] then none
      else (sortAux ts n (remaining (a :: l) (layer ts (a :: l)))).map (layer ts (a :: l) :: ·) := by
  simp only [sortAux, List.isEmpty_cons, Bool.false_eq_true, if_false, List.isEmpty_iff]
  split
  · rfl
  · cases sortAux ts n (remaining (a :: l) (layer ts (a :: l))) <;> rfl

inductive Layers (ts : List Edge) : List Node → List (List Node) → Prop
  | nil : Layers ts [] []
  | cons {todo : List Node} {rest : List (List Node)} :
      Layers ts (remaining todo (layer ts todo)) rest → Layers ts todo (layer ts todo :: rest)

theorem layers_of_sortAux {ts : List Edge} : ∀ (fuel : Nat) (todo : List Node)
    (out : List (List Node)), sortAux ts fuel todo = some out → Layers ts todo out := by
  intro fuel
  induction fuel with
  | zero =>
    intro todo out h
    cases todo with
    | nil => cases h; exact .nil
    | cons a l =>
      rw [sortAux_zero_cons] at h
      cases h
  | succ n ih =>
    intro todo out h
    cases todo with
    | nil => rw [sortAux_nil] at h; cases h; exact .nil
    | cons a l =>
      rw [sortAux_succ_cons] at h
      split at h
      · cases h
      · obtain ⟨rest, hrest, rfl⟩ := Option.map_eq_some_iff.1 h
        exact .cons (ih _ _ hrest)

theorem layers_of_sort {ts : List Edge} {items out : List Node} (h : sort ts items = some out) :
    ∃ ls, Layers ts items ls ∧ ls.flatten = out := by
  obtain ⟨ls, hs, rfl⟩ := Option.map_eq_some_iff.1 h
  exact ⟨ls, layers_of_sortAux _ _ _ hs, rfl⟩

theorem Layers.perm {ts : List Edge} {todo : List Node} {out : List (List Node)}
    (h : Layers ts todo out) : out.flatten.Perm todo := by
  induction h with
  | nil => exact .nil
  | cons _ ih => exact (ih.append_left _).trans (layer_remaining_perm ts _)

/-- the child is in no layer while its parent is still to do -/
theorem Layers.idxOf_lt {ts : List Edge} {todo : List Node} {out : List (List Node)} {p c : Node}
    (hpc : (p, c) ∈ ts) (h : Layers ts todo out) (hp : p ∈ todo) (hc : c ∈ todo) :
    out.flatten.idxOf p < out.flatten.idxOf c := by
  induction h with
  | nil => cases hp
  | @cons todo rest _ ih =>
    have hcl : c ∉ layer ts todo := fun hm => (mem_layer.1 hm).2 p hpc hp
    rw [List.flatten_cons, List.idxOf_append, List.idxOf_append, if_neg hcl]
    by_cases hpl : p ∈ layer ts todo
    · rw [if_pos hpl]
      exact Nat.lt_of_lt_of_le (List.idxOf_lt_length_of_mem hpl) (Nat.le_add_left _ _)
    · rw [if_neg hpl]
      exact Nat.add_lt_add_right (ih (mem_remaining.2 ⟨hp, hpl⟩) (mem_remaining.2 ⟨hc, hcl⟩)) _

theorem Layers.independent {ts : List Edge} {todo : List Node} {out : List (List Node)}
    (h : Layers ts todo out) {s : List Node} (hs : s ∈ out) {p c : Node} (hpc : (p, c) ∈ ts)
    (hp : p ∈ s) : c ∉ s := by
  induction h with
  | nil => cases hs
  | cons _ ih =>
    rcases List.mem_cons.1 hs with rfl | hs
    · exact fun hc => (mem_layer.1 hc).2 p hpc (mem_layer.1 hp).1
    · exact ih hs

theorem sortAux_none_stuck {ts : List Edge} : ∀ (fuel : Nat) (todo : List Node),
    todo.length ≤ fuel → sortAux ts fuel todo = none →
      ∃ S : List Node, S ≠ [] ∧ (∀ n ∈ S, n ∈ todo) ∧ ∀ n ∈ S, ∃ p ∈ S, (p, n) ∈ ts := by
  intro fuel
  induction fuel with
  | zero =>
    intro todo hl h
    cases todo with
    | nil => cases h
    | cons a l => cases hl
  | succ k ih =>
    intro todo hl h
    cases todo with
    | nil => rw [sortAux_nil] at h; cases h
    | cons a l =>
      rw [sortAux_succ_cons] at h
      split at h
      · rename_i hlay
        refine ⟨a :: l, List.cons_ne_nil _ _, fun n hn => hn, fun n hn => ?_⟩
        have hnl : n ∉ layer ts (a :: l) := by rw [hlay]; exact List.not_mem_nil
        apply Classical.byContradiction
        intro hcon
        exact hnl (mem_layer.2 ⟨hn, fun p hp hpt => hcon ⟨p, hpt, hp⟩⟩)
      · rename_i hlay
        obtain ⟨S, hne, hsub, hclosed⟩ := ih _ (Nat.le_of_lt_succ (Nat.lt_of_lt_of_le
          (remaining_length_lt hlay) hl)) (Option.map_eq_none_iff.1 h)
        exact ⟨S, hne, fun n hn => (mem_remaining.1 (hsub n hn)).1, hclosed⟩

theorem sort_none_stuck {ts : List Edge} {items : List Node} (h : sort ts items = none) :
    ∃ S : List Node, S ≠ [] ∧ (∀ n ∈ S, n ∈ items) ∧ ∀ n ∈ S, ∃ p ∈ S, (p, n) ∈ ts :=
  sortAux_none_stuck _ _ (Nat.le_refl _) (Option.map_eq_none_iff.1 h)

end SaVerif.Topo
