import SaVerif.Model.IdentitySet
import SaVerif.Lemmas.OrderedSet
/-! IdentitySet is the ordered key list of an id-keyed dict: order, membership and `Nodup` of its
operations come from the facts about `dictUpdate` in Lemmas/OrderedSet. -/
namespace SaVerif.Coll

theorem subsetB_iff {a b : List ObjId} : subsetB a b = true ↔ ∀ x ∈ a, x ∈ b := by
  unfold subsetB; simp

theorem superset_of_length_eq {a b : List ObjId} (ha : a.Nodup) (hlen : a.length = b.length)
    (hsub : ∀ x ∈ a, x ∈ b) : ∀ x ∈ b, x ∈ a := fun x hx => Decidable.byContradiction fun hn => by
  have := (List.nodup_cons.2 ⟨hn, ha⟩).length_le_of_subset (List.cons_subset.2 ⟨hx, hsub⟩)
  rw [List.length_cons, hlen] at this
  exact Nat.not_succ_le_self _ this

theorem dictEq_iff {a b : List ObjId} (ha : a.Nodup) (hb : b.Nodup) :
    dictEq a b = true ↔ ∀ x, x ∈ a ↔ x ∈ b := by
  unfold dictEq
  rw [Bool.and_eq_true, subsetB_iff, beq_iff_eq]
  exact ⟨fun ⟨hlen, hsub⟩ x => ⟨hsub x, superset_of_length_eq ha hlen hsub x⟩,
    fun h => ⟨((List.perm_ext_iff_of_nodup ha hb).2 h).length_eq, fun x => (h x).1⟩⟩

namespace IdSet

theorem init_eq (it : List ObjId) : init (some it) = firstOcc it := dictUpdate_nil it

theorem nodup_init (it : Option (List ObjId)) : (init it).Nodup := by
  cases it with
  | none => exact List.nodup_nil
  | some l => rw [init_eq]; exact nodup_firstOcc l

theorem union_eq {m : IdSet} (h : m.Nodup) (it : List ObjId) :
    union m it = m ++ (firstOcc it).filter (fun y => !m.contains y) := by
  unfold union update
  rw [dictUpdate_nil_of_nodup h, dictUpdate_eq]

theorem symDiff_eq {m : IdSet} (it : List ObjId) :
    symDiff m it
      = m.filter (fun k => !it.contains k) ++ (firstOcc it).filter (fun k => !m.contains k) := by
  unfold symDiff
  rw [dictUpdate_nil]
  exact dictUpdate_symDiff (fun _ => mem_firstOcc) (firstOcc_of_nodup (nodup_firstOcc it))

theorem nodup_symDiff {m : IdSet} (h : m.Nodup) (it : List ObjId) : (symDiff m it).Nodup := by
  rw [symDiff_eq]
  exact nodup_append_new (h.filter _) (nodup_firstOcc it) fun _ hx => (List.mem_filter.1 hx).1

theorem remove_mem {m : IdSet} {x : ObjId} (hx : x ∈ m) : remove m x = (m.erase x, none) :=
  if_pos (List.contains_iff_mem.2 hx)

theorem remove_not_mem {m : IdSet} {x : ObjId} (hx : x ∉ m) : remove m x = (m, some .keyError) :=
  if_neg (mt List.contains_iff_mem.1 hx)

theorem remove_fst (m : IdSet) (x : ObjId) : (remove m x).1 = m.erase x := by
  by_cases hx : x ∈ m
  · rw [remove_mem hx]
  · rw [remove_not_mem hx, List.erase_of_not_mem hx]

theorem nodup_remove {m : IdSet} (h : m.Nodup) (x : ObjId) : (remove m x).1.Nodup :=
  remove_fst m x ▸ h.erase x

theorem nodup_pop {m : IdSet} (h : m.Nodup) : (pop m).1.Nodup := by
  unfold pop
  split
  · exact h
  · exact List.Nodup.sublist (List.dropLast_sublist m) h

end IdSet
end SaVerif.Coll
