import SaVerif.Model.Expire
/-! M-ORM/expire seen at one identity (an object beside its row).  `FlushedAt` says what a successful
(auto)flush does at one identity, so that the state-level proofs of C46 never open `doFlush`;
`Reach` lists what one operation can do to an identity, so that `step` is walked once
(`step_at` in C46) and properties of an identity follow by induction over `Reach`. -/
namespace SaVerif.Expire

/-- An object agrees with its row, in what it has loaded and in what it remembers as committed
    (`committed_state`). -/
structure CohObj (o : Obj) (row : Option Vals) : Prop where
  loaded : ∀ a v, o.dict a = some v → o.mod a = false → ∃ r, row = some r ∧ r a = v
  cv : ∀ a c, o.mod a = true → o.cval a = some c → ∃ r, row = some r ∧ r a = c

structure WFObj (c : Cfg) (o : Obj) : Prop where
  attr_lt : ∀ a, o.mod a = true → a < c.nattr
  -- a clean object has nothing to write: the flush passes it by (`needsUpdate_of_clean`)
  mod_dirty : ∀ a, o.mod a = true → o.dirty = true

theorem covers_none (a : Attr) : covers none a = true := rfl

theorem covers_some (l : List Attr) (a : Attr) : covers (some l) a = l.contains a := rfl

theorem newObjCols_none (r : Vals) : newObjCols r none = newObj r := rfl

theorem populateFull_eq (o : Obj) (r : Vals) : populateFull o r = newObjCols r none := rfl

theorem loadExpiredCols_none (o : Obj) (r : Vals) : loadExpiredCols o r none = loadExpired o r := by
  simp only [loadExpiredCols, loadExpired, covers, Bool.and_true]

/-- with every column in the row the regenerated flag plays no role -/
theorem populateCols_none (o : Obj) (r : Vals) : populateCols o r none = newObj r := rfl

theorem populateCols_eq (hflag : SaVerif.Gen.ExpireCfg.populateExistingPopsAbsent = true) (o : Obj)
    (r : Vals) (cols : Option (List Attr)) : populateCols o r cols = newObjCols r cols := by
  simp only [populateCols, newObjCols, hflag, if_true]

/-- unloaded counts as fresh: the next read loads it -/
def FreshAttr (o : Obj) (row : Option Vals) (a : Attr) : Prop :=
  o.mod a = false ∧ (o.dict a = none ∨ ∃ r, row = some r ∧ o.dict a = some (r a))

theorem freshAttr_expireObj (o : Obj) (row : Option Vals) (a : Attr) : FreshAttr (expireObj o) row a :=
  ⟨rfl, Or.inl rfl⟩

theorem freshAttr_expireAttrs (o : Obj) (row : Option Vals) {l : List Attr} {a : Attr}
    (hc : l.contains a = true) : FreshAttr (expireAttrs o l) row a :=
  ⟨if_pos hc, Or.inl (if_pos hc)⟩

theorem freshAttr_expireSel (o : Obj) (row : Option Vals) {attrs : Option (List Attr)} {a : Attr}
    (hcov : ∀ l, attrs = some l → a ∈ l) : FreshAttr (expireSel o attrs) row a := by
  cases attrs with
  | none => exact freshAttr_expireObj o row a
  | some l => exact freshAttr_expireAttrs o row (List.contains_iff_mem.2 (hcov l rfl))

theorem freshAttr_populateAttrs (o : Obj) (r : Vals) {l : List Attr} {a : Attr}
    (hc : l.contains a = true) : FreshAttr (populateAttrs o l r) (some r) a :=
  ⟨if_pos hc, Or.inr ⟨r, rfl, if_pos hc⟩⟩

theorem freshAttr_newObjCols (r : Vals) (cols : Option (List Attr)) (a : Attr) :
    FreshAttr (newObjCols r cols) (some r) a := by
  by_cases hc : covers cols a = true
  · exact ⟨rfl, Or.inr ⟨r, rfl, if_pos hc⟩⟩
  · exact ⟨rfl, Or.inl (if_neg hc)⟩

theorem CohObj.of_fresh {o o' : Obj} {row : Option Vals} (h : CohObj o row)
    (H : ∀ a, (o'.dict a = o.dict a ∧ o'.mod a = o.mod a ∧ o'.cval a = o.cval a) ∨ FreshAttr o' row a) :
    CohObj o' row := by
  refine ⟨fun a v hd hm => ?_, fun a cv hm hcv => ?_⟩
  · rcases H a with ⟨hdict, hmod, _⟩ | ⟨_, hnone | ⟨r, hr, hval⟩⟩
    · exact h.loaded a v (hdict ▸ hd) (hmod ▸ hm)
    · cases hnone.symm.trans hd
    · exact ⟨r, hr, Option.some.inj (hval.symm.trans hd)⟩
  · rcases H a with ⟨_, hmod, hcval⟩ | ⟨hmod, _⟩
    · exact h.cv a cv (hmod ▸ hm) (hcval ▸ hcv)
    · cases hmod.symm.trans hm

theorem cohObj_expireObj (o : Obj) (row : Option Vals) : CohObj (expireObj o) row :=
  ⟨fun _ _ => nofun, fun _ _ => nofun⟩

theorem cohObj_expireAttrs {o : Obj} {row : Option Vals} (h : CohObj o row) (l : List Attr) :
    CohObj (expireAttrs o l) row :=
  h.of_fresh fun a => by
    by_cases hc : l.contains a = true
    · exact Or.inr (freshAttr_expireAttrs o row hc)
    · exact Or.inl ⟨if_neg hc, if_neg hc, if_neg hc⟩

theorem cohObj_newObjCols (r : Vals) (cols : Option (List Attr)) : CohObj (newObjCols r cols) (some r) :=
  (cohObj_expireObj (newObj r) (some r)).of_fresh fun a => Or.inr (freshAttr_newObjCols r cols a)

theorem cohObj_loadExpiredCols {o : Obj} {r : Vals} (h : CohObj o (some r)) (cols : Option (List Attr)) :
    CohObj (loadExpiredCols o r cols) (some r) :=
  h.of_fresh fun a => by
    by_cases hc : ((o.dict a).isNone && !o.mod a && covers cols a) = true
    · refine Or.inr ⟨?_, Or.inr ⟨r, rfl, if_pos hc⟩⟩
      simp only [Bool.and_eq_true, Bool.not_eq_true'] at hc
      exact hc.1.2
    · exact Or.inl ⟨if_neg hc, rfl, rfl⟩

theorem cohObj_populateAttrs {o : Obj} {r : Vals} (h : CohObj o (some r)) (l : List Attr) :
    CohObj (populateAttrs o l r) (some r) :=
  h.of_fresh fun a => by
    by_cases hc : l.contains a = true
    · exact Or.inr (freshAttr_populateAttrs o r hc)
    · exact Or.inl ⟨if_neg hc, if_neg hc, if_neg hc⟩

theorem cohObj_setAttr {o : Obj} {row : Option Vals} (h : CohObj o row) (a : Attr) (v : Int) :
    CohObj (setAttr o a v) row where
  loaded b w hd hm := by
    dsimp only [setAttr] at hm
    by_cases hb : b = a
    · rw [if_pos hb] at hm; cases hm
    · rw [if_neg hb] at hm; exact h.loaded b w ((if_neg hb).symm.trans hd) hm
  cv b c hm hcv := by
    dsimp only [setAttr] at hm
    by_cases hb : b = a
    · subst hb
      have hcv : (if o.mod b = true then o.cval b else o.dict b) = some c := (if_pos rfl).symm.trans hcv
      by_cases hmb : o.mod b = true
      · exact h.cv b c hmb ((if_pos hmb).symm.trans hcv)
      · exact h.loaded b c ((if_neg hmb).symm.trans hcv) (Bool.eq_false_iff.2 hmb)
    · rw [if_neg hb] at hm; exact h.cv b c hm ((if_neg hb).symm.trans hcv)

theorem wfObj_clean (c : Cfg) {o : Obj} (h : ∀ a, o.mod a = false) : WFObj c o :=
  ⟨fun a hm => Bool.noConfusion ((h a).symm.trans hm), fun a hm => Bool.noConfusion ((h a).symm.trans hm)⟩

theorem WFObj.mono {c : Cfg} {o o' : Obj} (h : WFObj c o) (hm : ∀ a, o'.mod a = true → o.mod a = true)
    (hd : o.dirty = true → o'.dirty = true) : WFObj c o' :=
  ⟨fun a ha => h.attr_lt a (hm a ha), fun a ha => hd (h.mod_dirty a (hm a ha))⟩

theorem wfObj_cleanCopy (c : Cfg) (o : Obj) : WFObj c (cleanCopy o) := wfObj_clean c fun _ => rfl

theorem of_ite_false_eq_true {p : Prop} [Decidable p] {m : Bool} (h : (if p then false else m) = true) :
    m = true := by
  split at h
  · cases h
  · exact h

theorem anyBelow_false {n : Nat} {f : Nat → Bool} (h : anyBelow n f = false) {k : Nat} (hk : k < n) :
    f k = false :=
  Bool.eq_false_iff.2 fun hf => Bool.eq_false_iff.1 h (List.any_eq_true.2 ⟨k, List.mem_range.2 hk, hf⟩)

theorem anyBelow_true {n : Nat} {f : Nat → Bool} {k : Nat} (hk : k < n) (h : f k = true) :
    anyBelow n f = true :=
  List.any_eq_true.2 ⟨k, List.mem_range.2 hk, h⟩

theorem attrChanged_eq_false {o : Obj} {a : Attr} :
    attrChanged o a = false ↔ o.mod a = false ∨ ∃ v, o.dict a = some v ∧ o.cval a = some v := by
  unfold attrChanged
  cases o.mod a with
  | false => exact ⟨fun _ => .inl rfl, fun _ => rfl⟩
  | true =>
    -- modified: unchanged exactly when a committed value is remembered and the loaded one equals it
    cases o.cval a <;> cases o.dict a <;> simp

theorem flushRow_unchanged (c : Cfg) (o : Obj) (r : Vals) (a : Attr) (hch : attrChanged o a = false) :
    ∃ r', flushRow c (some o) (some r) = some r' ∧ r' a = r a := by
  dsimp only [flushRow]
  split
  · exact ⟨_, rfl, if_neg (by simp only [hch, Bool.and_false, Bool.false_eq_true, not_false_eq_true])⟩
  · exact ⟨r, rfl, rfl⟩

theorem flushRow_changed {c : Cfg} {o : Obj} (r : Vals) {a : Attr} (ha : a < c.nattr)
    (hch : attrChanged o a = true) :
    ∃ r', flushRow c (some o) (some r) = some r' ∧ r' a = (o.dict a).getD 0 := by
  have hn : needsUpdate c o = true := anyBelow_true ha hch
  dsimp only [flushRow]
  rw [if_pos hn]
  exact ⟨_, rfl, if_pos (by simp only [ha, hch, decide_true, Bool.and_self])⟩

theorem flushObj_dict_cases (o : Obj) (row : Option Vals) (a : Attr) :
    (flushObj o row).dict a = o.dict a ∨
    ∃ r, row = some r ∧ o.dict a = none ∧ o.mod a = false ∧ (flushObj o row).dict a = some (r a) := by
  unfold flushObj
  split
  · dsimp only
    split
    · dsimp only [loadExpired]
      split
      next r _ hc =>
        simp only [Bool.and_eq_true, Option.isNone_iff_eq_none, Bool.not_eq_true'] at hc
        exact Or.inr ⟨r, rfl, hc.1, hc.2, rfl⟩
      · exact Or.inl rfl
    · exact Or.inl rfl
  · exact Or.inl rfl

theorem flushObj_dict {o : Obj} (row : Option Vals) {a : Attr} {v : Int} (h : o.dict a = some v) :
    (flushObj o row).dict a = some v := by
  rcases flushObj_dict_cases o row a with e | ⟨_, _, e, _⟩
  · exact e.trans h
  · cases e.symm.trans h

theorem loadExpiredCols_dict {o : Obj} (r : Vals) (cols : Option (List Attr)) {a : Attr} {v : Int}
    (h : o.dict a = some v) : (loadExpiredCols o r cols).dict a = some v :=
  (if_neg (by rw [h]; exact Bool.false_ne_true)).trans h

theorem CohObj.unchanged {o : Obj} {row : Option Vals} (h : CohObj o row) {a : Attr} {v : Int}
    (hch : attrChanged o a = false) (hd : o.dict a = some v) : ∃ r, row = some r ∧ r a = v := by
  rcases attrChanged_eq_false.1 hch with hm | ⟨w, hw, hcv⟩
  · exact h.loaded a v hd hm
  · cases hm : o.mod a
    · exact h.loaded a v hd hm
    · exact h.cv a v hm (hcv.trans (hw.symm.trans hd))

theorem needsUpdate_of_clean {c : Cfg} {o : Obj} (hw : WFObj c o) (hd : ¬ o.dirty = true) :
    needsUpdate c o = false :=
  Bool.eq_false_iff.2 fun hn =>
    have ⟨a, _, ha⟩ := List.any_eq_true.1 hn
    hd (hw.mod_dirty a (Bool.and_eq_true_iff.1 ha).1)

theorem cohObj_flush {c : Cfg} {o : Obj} {row : Option Vals} (hw : WFObj c o) (h : CohObj o row)
    (hns : (needsUpdate c o && row.isNone) = false) :
    CohObj (flushObj o row) (flushRow c (some o) row) := by
  by_cases hd : o.dirty = true
  · -- all attributes committed: only `loaded` has content
    refine ⟨fun a v hda _ => ?_, fun a _ hm => ?_⟩
    · rcases flushObj_dict_cases o row a with e | ⟨r, rfl, _, hm, e⟩
      · have hdo := e.symm.trans hda
        cases hch : attrChanged o a
        · obtain ⟨r, rfl, hv⟩ := h.unchanged hch hdo
          obtain ⟨r', hr', he⟩ := flushRow_unchanged c o r a hch
          exact ⟨r', hr', he.trans hv⟩
        · -- in the UPDATE, which found its row
          have ha := hw.attr_lt a (Bool.and_eq_true_iff.1 hch).1
          have hn : needsUpdate c o = true := anyBelow_true ha hch
          rw [hn, Bool.true_and] at hns
          cases row with
          | none => cases hns
          | some r =>
            obtain ⟨r', hr', he⟩ := flushRow_changed r ha hch
            exact ⟨r', hr', by rw [he, hdo]; rfl⟩
      · obtain ⟨r', hr', he⟩ := flushRow_unchanged c o r a (attrChanged_eq_false.2 (Or.inl hm))
        exact ⟨r', hr', he.trans (Option.some.inj (e.symm.trans hda))⟩
    · simp only [flushObj, hd, if_true] at hm
      cases hm
  · -- not part of the flush: object and row untouched
    have hn := needsUpdate_of_clean hw hd
    have hobj : flushObj o row = o := if_neg hd
    have hrow : flushRow c (some o) row = row := by
      cases row
      · rfl
      · exact if_neg (Bool.eq_false_iff.1 hn)
    rw [hobj, hrow]
    exact h

/-- A property of an identity — its object beside its row — that every object-level
    transition of the Session keeps. -/
structure ObjInv (c : Cfg) (P : Obj → Option Vals → Prop) : Prop where
  expireObj : ∀ o row, P (expireObj o) row
  expireAttrs : ∀ {o row} l, P o row → P (expireAttrs o l) row
  setAttr : ∀ {o row a} v, a < c.nattr → P o row → P (setAttr o a v) row
  newObjCols : ∀ r cols, P (newObjCols r cols) (some r)
  loadExpiredCols : ∀ {o r} cols, P o (some r) → P (loadExpiredCols o r cols) (some r)
  populateAttrs : ∀ {o r} l, P o (some r) → P (populateAttrs o l r) (some r)
  flush : ∀ {o row}, P o row → (needsUpdate c o && row.isNone) = false →
    P (flushObj o row) (flushRow c (some o) row)

theorem wfObj_inv (c : Cfg) : ObjInv c fun o _ => WFObj c o where
  expireObj _ _ := wfObj_clean c fun _ => rfl
  expireAttrs _ h := h.mono (fun _ => of_ite_false_eq_true) id
  setAttr {o _ a} _ ha h := by
    refine ⟨fun b hm => ?_, fun _ _ => rfl⟩
    by_cases hb : b = a
    · exact hb ▸ ha
    · exact h.attr_lt b ((if_neg hb).symm.trans hm)
  newObjCols _ _ := wfObj_clean c fun _ => rfl
  loadExpiredCols _ h := ⟨h.attr_lt, h.mod_dirty⟩
  populateAttrs _ h := h.mono (fun _ => of_ite_false_eq_true) id
  flush {o _} h _ := by
    unfold flushObj
    split
    · exact wfObj_clean c fun _ => rfl
    · exact h

theorem cohObj_inv (c : Cfg) : ObjInv c fun o row => WFObj c o ∧ CohObj o row where
  expireObj o row := ⟨(wfObj_inv c).expireObj o row, cohObj_expireObj o row⟩
  expireAttrs {_ row} l h := ⟨(wfObj_inv c).expireAttrs (row := row) l h.1, cohObj_expireAttrs h.2 l⟩
  setAttr {_ row _} v ha h := ⟨(wfObj_inv c).setAttr (row := row) v ha h.1, cohObj_setAttr h.2 _ v⟩
  newObjCols r cols := ⟨(wfObj_inv c).newObjCols r cols, cohObj_newObjCols r cols⟩
  loadExpiredCols cols h := ⟨(wfObj_inv c).loadExpiredCols cols h.1, cohObj_loadExpiredCols h.2 cols⟩
  populateAttrs l h := ⟨(wfObj_inv c).populateAttrs l h.1, cohObj_populateAttrs h.2 l⟩
  flush h hns := ⟨(wfObj_inv c).flush h.1 hns, cohObj_flush h.1 h.2 hns⟩

/-- `st1` is `st` after a successful flush, seen at identity `k`. -/
def FlushedAt (c : Cfg) (st st1 : St) (k : Nat) : Prop :=
  (st1.objs k = st.objs k ∧ st1.rows k = st.rows k) ∨
  (staleAt c st k = false ∧ st1.objs k = (st.objs k).map (fun o => flushObj o (st.rows k)) ∧
    st1.rows k = flushRow c (st.objs k) (st.rows k))

theorem doFlush_at {c : Cfg} {st st1 : St} (h : doFlush c st = some st1) (k : Nat) :
    FlushedAt c st st1 k := by
  unfold doFlush at h
  split at h
  · cases h
  next hs =>
    cases h
    by_cases hk : k < c.npk
    · exact Or.inr ⟨anyBelow_false (Bool.eq_false_iff.2 hs) hk, if_pos hk, if_pos hk⟩
    · exact Or.inl ⟨if_neg hk, if_neg hk⟩

theorem autoflush_at {c : Cfg} {st st1 : St} (h : autoflush c st = some st1) (k : Nat) :
    FlushedAt c st st1 k := by
  unfold autoflush at h
  split at h
  · exact doFlush_at h k
  · cases h; exact Or.inl ⟨rfl, rfl⟩

namespace FlushedAt
variable {c : Cfg} {st st1 : St} {k : Nat} (hf : FlushedAt c st st1 k)
include hf

theorem obj {o : Obj} (ho : st.objs k = some o) : ∃ o1, st1.objs k = some o1 := by
  rcases hf with ⟨hobj, _⟩ | ⟨_, hobj, _⟩
  · exact ⟨o, hobj.trans ho⟩
  · exact ⟨_, hobj.trans (congrArg _ ho)⟩

theorem row_unmod {o : Obj} {r : Vals} {a : Attr} (ho : st.objs k = some o) (hr : st.rows k = some r)
    (hm : o.mod a = false) : ∃ r1, st1.rows k = some r1 ∧ r1 a = r a := by
  rcases hf with ⟨_, hrow⟩ | ⟨_, _, hrow⟩
  · exact ⟨r, hrow.trans hr, rfl⟩
  · rw [hrow, ho, hr]
    exact flushRow_unchanged c o r a (attrChanged_eq_false.2 (Or.inl hm))

theorem row_none (hr : st.rows k = none) : st1.rows k = none := by
  rcases hf with ⟨_, hrow⟩ | ⟨_, _, hrow⟩
  · exact hrow.trans hr
  · rw [hrow, hr]
    cases st.objs k <;> rfl

end FlushedAt

section
variable (c : Cfg) (ok : Prop) (D : Attr → Prop) (e : Bool)

/-- What one operation of the Session can do to one identity — its object beside its row.
    `D a`: the operation may discard the value of attribute `a`; `e`: state may come in from
    outside the Session; `ok`: the operation's arguments are in range (`opOk`).  An operation is a
    sequence of these (`refl`, `trans`). -/
inductive Reach : Option Obj × Option Vals → Option Obj × Option Vals → Prop
  | refl x : Reach x x
  | trans {x y z} : Reach x y → Reach y z → Reach x z
  /-- `expire` of the whole object, `expireAll`, `commit` with expire_on_commit; `rollback` and a
      failed (auto)flush (`rolledBack`), where the row goes back to the saved snapshot -/
  | expire oo row row' (h : ∀ a, D a) : Reach (oo, row) (oo.map expireObj, row')
  /-- `expire` / the first half of `refresh` with a list of attributes -/
  | expireAttrs o row l (h : ∀ a, l.contains a = true → D a) : Reach (some o, row) (some (expireAttrs o l), row)
  /-- `set` -/
  | setAttr o row a v (ha : ok → a < c.nattr) (h : D a) : Reach (some o, row) (some (setAttr o a v), row)
  /-- `query` meeting a new identity; `refresh` of the whole object and `query` with
      populate_existing, which overwrite everything (the latter is `populateCols`: through
      `populateCols_eq`, i.e. for the source as regenerated) -/
  | newObjCols oo r cols (h : oo = none ∨ ∀ a, D a) : Reach (oo, some r) (some (newObjCols r cols), some r)
  /-- `read` of an unloaded attribute, `query` without populate_existing -/
  | loadExpiredCols o r cols : Reach (some o, some r) (some (loadExpiredCols o r cols), some r)
  /-- the second half of `refresh` with a list of attributes -/
  | populateAttrs o r l (h : ∀ a, l.contains a = true → D a) :
    Reach (some o, some r) (some (populateAttrs o l r), some r)
  /-- a successful `flush` / `commit` / autoflush, at an identity it reaches (`FlushedAt`) -/
  | flush o row (h : (needsUpdate c o && row.isNone) = false) :
    Reach (some o, row) (some (flushObj o row), flushRow c (some o) row)
  /-- `detach` -/
  | drop o row (h : ∀ a, D a) : Reach (some o, row) (none, row)
  /-- `extSet`, `extDel`, `extIns`: the other connection writes -/
  | ext oo row row' (h : e = true) : Reach (oo, row) (oo, row')
  /-- `attach` -/
  | attach o row (h : e = true) : Reach (none, row) (some (cleanCopy o), row)

end

section
variable {c : Cfg} {ok : Prop} {D : Attr → Prop} {e : Bool}

namespace Reach
variable {x y : Option Obj × Option Vals} (h : Reach c ok D e x y)
include h

theorem holds {P : Obj → Option Vals → Prop} (hP : ObjInv c P) (hok : ok)
    (hext : e = true → (∀ o row row', P o row → P o row') ∧ ∀ o row, P (cleanCopy o) row)
    (hx : ∀ o, x.1 = some o → P o x.2) : ∀ o, y.1 = some o → P o y.2 := by
  induction h with
  | refl => exact hx
  | trans _ _ ih1 ih2 => exact ih2 (ih1 hx)
  | expire oo row row' _ =>
    intro o' h
    obtain ⟨o, _, rfl⟩ := Option.map_eq_some_iff.1 h
    exact hP.expireObj o _
  | expireAttrs o row l _ => rintro _ ⟨⟩; exact hP.expireAttrs l (hx o rfl)
  | setAttr o row a v ha _ => rintro _ ⟨⟩; exact hP.setAttr v (ha hok) (hx o rfl)
  | newObjCols oo r cols _ => rintro _ ⟨⟩; exact hP.newObjCols r cols
  | loadExpiredCols o r cols => rintro _ ⟨⟩; exact hP.loadExpiredCols cols (hx o rfl)
  | populateAttrs o r l _ => rintro _ ⟨⟩; exact hP.populateAttrs l (hx o rfl)
  | flush o row hn => rintro _ ⟨⟩; exact hP.flush (hx o rfl) hn
  | drop => exact nofun
  | ext oo row row' he => exact fun o ho => (hext he).1 o row row' (hx o ho)
  | attach o row he => rintro _ ⟨⟩; exact (hext he).2 o row

theorem keeps {a : Attr} {v : Int} (hD : ¬ D a) (hx : ∃ o, x.1 = some o ∧ o.dict a = some v) :
    ∃ o, y.1 = some o ∧ o.dict a = some v := by
  induction h with
  | refl => exact hx
  | trans _ _ ih1 ih2 => exact ih2 (ih1 hx)
  | expire _ _ _ h | drop _ _ h => exact absurd (h a) hD
  | expireAttrs o row l h | populateAttrs o r l h =>
    obtain ⟨_, ⟨⟩, hd⟩ := hx
    exact ⟨_, rfl, (if_neg fun hc => hD (h a hc)).trans hd⟩
  | setAttr o row a' v' _ h =>
    obtain ⟨_, ⟨⟩, hd⟩ := hx
    exact ⟨_, rfl, (if_neg fun (e : a = a') => hD (e ▸ h)).trans hd⟩
  | newObjCols oo r cols h =>
    obtain ⟨_, ho, _⟩ := hx
    rcases h with rfl | h
    · cases ho
    · exact absurd (h a) hD
  | loadExpiredCols o r cols =>
    obtain ⟨_, ⟨⟩, hd⟩ := hx
    exact ⟨_, rfl, loadExpiredCols_dict r cols hd⟩
  | flush o row _ =>
    obtain ⟨_, ⟨⟩, hd⟩ := hx
    exact ⟨_, rfl, flushObj_dict row hd⟩
  | ext => exact hx
  | attach => obtain ⟨_, ⟨⟩, _⟩ := hx

end Reach

theorem reach_flushed {st st1 : St} {k : Nat} (hf : FlushedAt c st st1 k) :
    Reach c ok D e (st.objs k, st.rows k) (st1.objs k, st1.rows k) := by
  rcases hf with ⟨ho, hr⟩ | ⟨hs, ho, hr⟩ <;> rw [ho, hr]
  · exact .refl _
  · cases hobj : st.objs k with
    | none => cases st.rows k <;> exact .refl _
    | some o =>
      -- `staleAt` is false: an UPDATE that was needed found its row
      simp only [staleAt, hobj] at hs
      refine .flush o _ ?_
      cases hn : needsUpdate c o
      · rfl
      · rw [hn] at hs; exact hs

theorem reach_upd {st : St} {k' : Nat} {x x' : Option Obj} {row : Option Vals} (ho : st.objs k' = x)
    (hr : st.rows k' = row) (k : Nat) (h : k = k' → Reach c ok D e (x, row) (x', row)) :
    Reach c ok D e (st.objs k, st.rows k) ((setObj st k' x').objs k, st.rows k) := by
  dsimp only [setObj]
  by_cases hk : k = k'
  · rw [if_pos hk, hk, ho, hr]
    exact h hk
  · rw [if_neg hk]
    exact .refl _

theorem reach_rolledBack (hD : ∀ a, D a) (st : St) (k : Nat) :
    Reach c ok D e (st.objs k, st.rows k) ((rolledBack st).objs k, (rolledBack st).rows k) :=
  .expire _ _ _ hD

theorem reach_expireSel (o : Obj) (row : Option Vals) (attrs : Option (List Attr))
    (hD : ∀ a, covers attrs a = true → D a) : Reach c ok D e (some o, row) (some (expireSel o attrs), row) := by
  cases attrs with
  | none => exact .expire (some o) row row fun a => hD a rfl
  | some l => exact .expireAttrs o row l hD

end

end SaVerif.Expire
