import SaVerif.Lemmas.TopoCycles
/-!
Completeness of the `find_cycles` model: every node on a cycle is reported.

The DFS started from `start` ends with an empty stack (the fuel
`2 * nodes.length + 2` is enough: `2*|todo| + |stack|` strictly decreases across every `Step`).
Invariant `CInv`: every *finished* node `f` (in `nodes`, neither in `todo` nor on
the stack) has all its children outside `todo`, and if `start` is one of its
children then `start` was reported; `start` is never in `todo` (`start_todo`) and is the bottom of
the stack as long as there is one (`last`).  At the end `start` itself is finished, so
walking along a cycle through `start` never meets a `todo` node, every node of
the cycle is finished, and the last edge of the cycle gives `start ∈ output`.
-/
namespace SaVerif.Topo

theorem mem_parentNodes {ts : List Edge} {p : Node} :
    p ∈ parentNodes ts ↔ ∃ c, (p, c) ∈ ts := by
  unfold parentNodes
  simp only [List.mem_eraseDups, List.mem_map]
  constructor
  · rintro ⟨⟨a, b⟩, h1, rfl⟩
    exact ⟨b, h1⟩
  · rintro ⟨c, h⟩
    exact ⟨(p, c), h, rfl⟩

theorem Step.output_mono {ts : List Edge} {st st' : DfsState} (hs : Step ts st st') :
    ∀ y ∈ st.output, y ∈ st'.output := by
  induction hs with
  | mark _ _ _ ih => exact fun y hy => ih y (mem_mark_output.2 (.inl hy))
  | push => exact fun _ hy => hy
  | pop => exact fun _ hy => hy

theorem findCyclesFrom_mono (ts : List Edge) (nodes : List Node) (n : Node) (out : List Node) :
    ∀ y ∈ out, y ∈ findCyclesFrom ts nodes n out := fun y hy =>
  findCyclesFrom_eq ts nodes n out ▸
    dfsLoop_inv (P := fun st => y ∈ st.output) (fun _ _ hs h => hs.output_mono y h) _ _ hy

theorem Step.lt {ts : List Edge} {st st' : DfsState} (hs : Step ts st st') :
    2 * st'.todo.length + st'.stack.length < 2 * st.todo.length + st.stack.length := by
  induction hs with
  | mark _ _ _ ih =>
    rw [mark_stack] at ih
    exact Nat.lt_of_lt_of_le ih (Nat.add_le_add_right
      (Nat.mul_le_mul_left 2 (mark_todo_sublist _ _).length_le) _)
  | @push st _ c _ _ _ hc =>
    have : (st.todo.filter (· != c)).length < st.todo.length :=
      List.length_filter_lt_length_iff_exists.2
        ⟨c, hc, by rw [bne_self_eq_false]; exact Bool.false_ne_true⟩
    show 2 * (st.todo.filter (· != c)).length + (st.stack.length + 1) < _
    omega
  | pop hst _ => rw [hst]; exact Nat.lt_succ_self _

theorem dfsLoop_stack (ts : List Edge) : ∀ (fuel : Nat) (st : DfsState),
    2 * st.todo.length + st.stack.length ≤ fuel → (dfsLoop ts fuel st).stack = [] := by
  intro fuel
  induction fuel with
  | zero =>
    intro st h
    have : st.stack.length ≤ 0 := Nat.le_trans (Nat.le_add_left _ _) h
    exact List.eq_nil_of_length_eq_zero (Nat.le_zero.1 this)
  | succ n ih =>
    intro st h
    cases hs : st.stack with
    | nil => rw [dfsLoop_nil ts _ hs]; exact hs
    | cons top rest =>
      obtain ⟨st', hst', e⟩ := dfsLoop_cons ts n hs
      rw [e]
      exact ih _ (Nat.le_of_lt_succ (Nat.lt_of_lt_of_le hst'.lt h))

structure CInv (ts : List Edge) (nodes : List Node) (start : Node) (st : DfsState) : Prop where
  last : st.stack = [] ∨ st.stack.getLast? = some start
  start_todo : start ∉ st.todo
  fin : ∀ f ∈ nodes, f ∉ st.todo → f ∉ st.stack → ∀ c, (f, c) ∈ ts →
    c ∉ st.todo ∧ (c = start → start ∈ st.output)

theorem CInv.start_mem {ts : List Edge} {nodes : List Node} {start : Node} {st : DfsState}
    (h : CInv ts nodes start st) (hne : st.stack ≠ []) : start ∈ st.stack :=
  List.mem_of_getLast? (h.last.resolve_left hne)

theorem CInv.mark {ts : List Edge} {nodes : List Node} {start : Node} {st : DfsState}
    (c : Node) (h : CInv ts nodes start st) : CInv ts nodes start (mark c st) := by
  refine ⟨mark_stack c st ▸ h.last, fun hm => h.start_todo (mem_mark_todo.1 hm).1,
    fun f hf hft hfs d hfd => ?_⟩
  rw [mark_stack] at hfs
  -- a node that `mark` removes from `todo` is in the slice, hence on the stack
  have hft' : f ∉ st.todo := fun hm =>
    hft (mem_mark_todo.2 ⟨hm, fun hs => hfs (cycSlice_subset _ c f hs.2)⟩)
  obtain ⟨h1, h2⟩ := h.fin f hf hft' hfs d hfd
  exact ⟨fun hm => h1 (mem_mark_todo.1 hm).1, fun e => mem_mark_output.2 (.inl (h2 e))⟩

theorem CInv.push {ts : List Edge} {nodes : List Node} {start : Node} {st : DfsState}
    (c : Node) (h : CInv ts nodes start st) (hne : st.stack ≠ []) :
    CInv ts nodes start { st with stack := c :: st.stack, todo := st.todo.filter (· != c) } := by
  refine ⟨.inr ?_, fun hm => h.start_todo (List.mem_filter.1 hm).1, fun f hf hft hfs d hfd => ?_⟩
  · show (c :: st.stack).getLast? = some start
    obtain ⟨a, r, hs⟩ := List.exists_cons_of_ne_nil hne
    rw [hs, List.getLast?_cons_cons, ← hs]
    exact h.last.resolve_left hne
  · have hfs : f ∉ c :: st.stack := hfs
    have hft' : f ∉ st.todo := fun hm =>
      hft (List.mem_filter.2 ⟨hm, bne_iff_ne.2 fun e => hfs (e ▸ List.mem_cons_self)⟩)
    obtain ⟨h1, h2⟩ := h.fin f hf hft' (fun hm => hfs (List.mem_cons_of_mem _ hm)) d hfd
    exact ⟨fun hm => h1 (List.mem_filter.1 hm).1, h2⟩

theorem CInv.step {ts : List Edge} {nodes : List Node} {start : Node} {st st' : DfsState}
    (hs : Step ts st st') (h : CInv ts nodes start st) : CInv ts nodes start st' := by
  induction hs with
  | mark _ _ _ ih => exact ih (h.mark _)
  | push hst _ _ => exact h.push _ (hst ▸ List.cons_ne_nil _ _)
  | @pop st top rest hst hdone =>
    have hne : st.stack ≠ [] := hst ▸ List.cons_ne_nil _ _
    refine ⟨?_, h.start_todo, fun f hf hft hfs d hfd => ?_⟩
    · show rest = [] ∨ rest.getLast? = some start
      cases rest with
      | nil => exact .inl rfl
      | cons a r =>
        have := h.last.resolve_left hne
        rw [hst, List.getLast?_cons_cons] at this
        exact .inr this
    · -- a node finished by this pop is `top`, whose children have all been looked at
      by_cases hftop : f = top
      · subst hftop
        exact ⟨(hdone d hfd).1, fun e => e ▸ (hdone d hfd).2 (e ▸ h.start_mem hne)⟩
      · refine h.fin f hf hft (fun hm => ?_) d hfd
        rw [hst] at hm
        exact (List.mem_cons.1 hm).elim hftop hfs

theorem CInv.complete {ts : List Edge} {nodes : List Node} {start : Node} {st : DfsState}
    (hinv : CInv ts nodes start st) (hempty : st.stack = [])
    (hnodes : ∀ p c, (p, c) ∈ ts → p ∈ nodes) (h : OnCycle ts start) : start ∈ st.output := by
  have hstk : ∀ z, z ∉ st.stack := fun z => hempty ▸ List.not_mem_nil
  have hreach : ∀ b, Reach ts start b → b ∉ st.todo := by
    intro b hb
    induction hb with
    | refl => exact hinv.start_todo
    | tail _ e ih => exact (hinv.fin _ (hnodes _ _ e) ih (hstk _) _ e).1
  obtain ⟨y, hxy, hyx⟩ := h
  have hlast : ∃ z, Reach ts start z ∧ (z, start) ∈ ts := by
    cases hyx with
    | refl => exact ⟨start, .refl _, hxy⟩
    | tail hyz e => exact ⟨_, hyz.head hxy, e⟩
  obtain ⟨z, hz, hzs⟩ := hlast
  exact (hinv.fin z (hnodes _ _ hzs) (hreach z hz) (hstk z) start hzs).2 rfl

theorem findCyclesFrom_complete {ts : List Edge} (nodes : List Node) (start : Node)
    (out : List Node) (hnodes : ∀ p c, (p, c) ∈ ts → p ∈ nodes) (h : OnCycle ts start) :
    start ∈ findCyclesFrom ts nodes start out := by
  have hinit : CInv ts nodes start ⟨[start], nodes.filter (· != start), out⟩ := by
    refine ⟨.inr rfl, fun hm => ?_, fun f hf hft hfs => ?_⟩
    · exact absurd rfl (bne_iff_ne.1 (List.mem_filter.1 hm).2)
    · exact (hft (List.mem_filter.2 ⟨hf, bne_iff_ne.2 fun e => hfs (e ▸ List.mem_cons_self)⟩)).elim
  have hfuel : 2 * (nodes.filter (· != start)).length + [start].length ≤ 2 * nodes.length + 2 :=
    Nat.add_le_add (Nat.mul_le_mul_left 2 (List.length_filter_le _ nodes)) (Nat.le_succ 1)
  rw [findCyclesFrom_eq]
  exact (dfsLoop_inv (fun _ _ => CInv.step) _ _ hinit).complete (dfsLoop_stack ts _ _ hfuel) hnodes h

theorem foldl_findCyclesFrom_complete {ts : List Edge} (nodes : List Node)
    (hnodes : ∀ p c, (p, c) ∈ ts → p ∈ nodes) (x : Node) (h : OnCycle ts x) :
    ∀ (l : List Node) (out : List Node), x ∈ l →
      x ∈ l.foldl (fun out n => findCyclesFrom ts nodes n out) out := by
  intro l
  induction l with
  | nil => intro out hx; cases hx
  | cons a l ih =>
    intro out hx
    simp only [List.foldl_cons]
    rcases List.mem_cons.1 hx with rfl | hx
    · exact List.foldlRecOn (motive := (x ∈ ·)) l _ (findCyclesFrom_complete nodes _ out hnodes h)
        fun out hx n _ => findCyclesFrom_mono ts nodes n out x hx
    · exact ih _ hx

end SaVerif.Topo
