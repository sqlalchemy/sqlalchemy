/-! `List.mapM` over a function that is `pure` on the members of the list (core's `List.mapM_pure` asks it
of every argument). -/
namespace SaVerif.MapM

theorem mapM_eq_pure {m : Type → Type} [Monad m] [LawfulMonad m] {α β : Type} (f : α → m β)
    (g : α → β) : ∀ (l : List α), (∀ x ∈ l, f x = pure (g x)) → l.mapM f = pure (l.map g)
  | [], _ => rfl
  | x :: xs, h => by
    rw [List.mapM_cons, h x (List.mem_cons_self ..),
      mapM_eq_pure f g xs fun y hy => h y (List.mem_cons_of_mem _ hy)]
    simp only [pure_bind, List.map_cons]

theorem filter_map_mapM {α ρ β ε : Type} (row : α → ρ) (sel : ρ → Bool) (load : ρ → Except ε β)
    (p : α → Bool) (g : α → β) (objs : List α) (hsel : ∀ o ∈ objs, sel (row o) = p o)
    (hload : ∀ o ∈ objs, p o = true → load (row o) = .ok (g o)) :
    ((objs.map row).filter sel).mapM load = .ok ((objs.filter p).map g) := by
  rw [List.filter_map, List.filter_congr (p := sel ∘ row) hsel, List.mapM_map]
  exact mapM_eq_pure _ _ _ fun o ho => hload o (List.mem_filter.1 ho).1 (List.mem_filter.1 ho).2

end SaVerif.MapM
