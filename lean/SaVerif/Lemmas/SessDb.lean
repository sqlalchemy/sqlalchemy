import SaVerif.Lemmas.SessFrame
/-! The rows (visible and committed) of M-ORM/Sess and the functions that leave them alone. -/
namespace SaVerif.Sess

def rows (σ : Sess) : List Nat × List Nat := (σ.db, σ.committed)

@[simp] theorem rows_setO (σ : Sess) (o : Oid) (f : Obj → Obj) : rows (setO σ o f) = rows σ := rfl
@[simp] theorem rows_emit (σ : Sess) (e : Ev) (o : Oid) : rows (emit σ e o) = rows σ := rfl
@[simp] theorem rows_deleted_upd (σ : Sess) (l : List Oid) : rows { σ with deleted := l } = rows σ := rfl
@[simp] theorem rows_new_upd (σ : Sess) (l : List Oid) : rows { σ with new := l } = rows σ := rfl

theorem frame_rows : Frame (fun _ => True) (fun σ τ => rows τ = rows σ) where
  refl _ := rfl
  trans h1 h2 := h2.trans h1
  ext _ _ _ hd hc _ := Prod.ext hd hc
  setO _ _ _ _ := rfl
  imap _ _ _ := rfl

theorem rows_restoreSnapshot (σ : Sess) (d : Bool) : rows (restoreSnapshot σ d).1 = rows σ :=
  frame_rows.restoreSnapshot (fun _ => trivial) (fun _ _ => rfl) σ d

end SaVerif.Sess
