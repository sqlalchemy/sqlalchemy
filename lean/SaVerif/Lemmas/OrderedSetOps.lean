import SaVerif.Lemmas.OrderedSet
namespace SaVerif.Coll

structure OSet.Inv (s : OSet) : Prop where
  nodup : s.lst.Nodup
  snodup : s.st.Nodup
  same : ∀ x, x ∈ s.st ↔ x ∈ s.lst

namespace OSet

theorem has_iff {s : OSet} (h : s.Inv) {x : Elem} : s.has x = true ↔ x ∈ s.lst :=
  List.contains_iff_mem.trans (h.same x)

theorem has_eq {s : OSet} (h : s.Inv) (x : Elem) : s.has x = s.lst.contains x := by
  rw [Bool.eq_iff_iff, has_iff h, List.contains_iff_mem]

theorem has_eq_false {s : OSet} (h : s.Inv) {x : Elem} (hx : x ∉ s.lst) : s.has x = false :=
  Bool.eq_false_iff.2 fun hh => hx ((has_iff h).1 hh)

theorem inv_empty : empty.Inv := ⟨List.nodup_nil, List.nodup_nil, fun _ => Iff.rfl⟩

theorem inv_fromList {l : List Elem} (h : l.Nodup) : (fromList l).Inv :=
  ⟨h, nodup_setUpdate List.nodup_nil, fun _ => mem_setUpdate.trans (or_iff_right List.not_mem_nil)⟩

theorem len_eq {s : OSet} (h : s.Inv) : s.len = s.lst.length :=
  ((List.perm_ext_iff_of_nodup h.snodup h.nodup).2 h.same).length_eq

/-- `l` is any arrangement of `x :: s.lst`: `add` puts `x` last, `insert` anywhere -/
theorem inv_setAdd {s : OSet} (h : s.Inv) {x : Elem} (hx : x ∉ s.lst) {l : List Elem}
    (hp : l.Perm (x :: s.lst)) : Inv ⟨l, setAdd s.st x⟩ :=
  ⟨hp.nodup_iff.2 (List.nodup_cons.2 ⟨hx, h.nodup⟩), nodup_setAdd h.snodup,
    fun y => by rw [hp.mem_iff, mem_setAdd, List.mem_cons, h.same]⟩

theorem add_lst {s : OSet} (h : s.Inv) (x : Elem) : (s.add x).lst = dictSet s.lst x := by
  unfold add dictSet
  rw [has_eq h]
  split <;> rfl

theorem inv_add {s : OSet} (h : s.Inv) (x : Elem) : (s.add x).Inv := by
  unfold add
  split
  · exact h
  next hx => exact inv_setAdd h (fun hm => hx ((has_iff h).2 hm)) (List.perm_append_singleton x _)

theorem inv_insert {s : OSet} (h : s.Inv) (pos : Int) (x : Elem) : (s.insert pos x).Inv := by
  unfold insert
  split
  · exact h
  next hx =>
    refine inv_setAdd h (fun hm => hx ((has_iff h).2 hm)) (List.perm_middle.trans (List.Perm.cons x ?_))
    rw [List.take_append_drop]

theorem foldl_add_inv_lst {s : OSet} (h : s.Inv) (xs : List Elem) :
    (xs.foldl add s).Inv ∧ (xs.foldl add s).lst = dictUpdate s.lst xs :=
  List.foldl_rel (r := fun (s : OSet) l => s.Inv ∧ s.lst = l) ⟨h, rfl⟩ fun x _ _ _ hr =>
    ⟨inv_add hr.1 x, hr.2 ▸ add_lst hr.1 x⟩

theorem update_inv_lst {s : OSet} (h : s.Inv) (args : List (List Elem)) :
    (s.update args).Inv ∧ (s.update args).lst = dictUpdate s.lst args.flatten := by
  unfold update
  rw [← List.foldl_flatten]
  exact foldl_add_inv_lst h args.flatten

theorem inv_union {s : OSet} (h : s.Inv) (args : List (List Elem)) : (s.union args).Inv :=
  (update_inv_lst (inv_fromList h.nodup) args).1

/-- a `set`/`dict` argument never iterates the same element twice (Python guarantee) -/
def Arg.wf (a : Arg) : Prop := (a.kind = .set ∨ a.kind = .dict) → a.elems.Nodup

theorem init_lst (a : Arg) (h : Arg.wf a) : (init (some a)).lst = firstOcc a.elems := by
  unfold init
  cases hk : a.kind <;> simp only [hk]
  · exact (firstOcc_of_nodup (h (Or.inl hk))).symm
  · exact (firstOcc_of_nodup (h (Or.inr hk))).symm
  · exact uniqueList_eq_firstOcc _
  · exact uniqueList_eq_firstOcc _

theorem inv_init (a : Arg) (h : Arg.wf a) : (init (some a)).Inv := by
  have : init (some a) = fromList (init (some a)).lst := rfl
  rw [this, init_lst a h]
  exact inv_fromList (nodup_firstOcc _)

theorem inv_copy {s : OSet} (h : s.Inv) : s.copy.Inv := inv_fromList h.nodup

theorem copy_lst (s : OSet) : s.copy.lst = s.lst := rfl

theorem listRemove_mem {l : List Elem} {x : Elem} (h : x ∈ l) : listRemove l x = some (l.erase x) :=
  if_pos (List.contains_iff_mem.2 h)

theorem inv_erase {s : OSet} (h : s.Inv) (x : Elem) : Inv ⟨s.lst.erase x, setRemove s.st x⟩ :=
  ⟨h.nodup.erase x, nodup_setRemove h.snodup,
    fun y => by rw [mem_setRemove, h.nodup.mem_erase_iff, h.same, and_comm]⟩

theorem remove_mem {s : OSet} (h : s.Inv) {x : Elem} (hx : x ∈ s.lst) :
    s.remove x = (⟨s.lst.erase x, setRemove s.st x⟩, none) := by
  unfold remove
  rw [(has_iff h).2 hx, listRemove_mem hx]
  rfl

theorem remove_not_mem {s : OSet} (h : s.Inv) {x : Elem} (hx : x ∉ s.lst) :
    s.remove x = (s, some .keyError) := by
  unfold remove
  rw [has_eq_false h hx]
  rfl

theorem remove_lst {s : OSet} (h : s.Inv) (x : Elem) :
    (s.remove x).1.lst = s.lst.filter (fun y => y != x) := by
  by_cases hx : x ∈ s.lst
  · rw [remove_mem h hx]
    exact h.nodup.erase_eq_filter x
  · rw [remove_not_mem h hx, filter_ne_of_not_mem hx]

theorem inv_remove {s : OSet} (h : s.Inv) (x : Elem) : (s.remove x).1.Inv := by
  by_cases hx : x ∈ s.lst
  · rw [remove_mem h hx]; exact inv_erase h x
  · rw [remove_not_mem h hx]; exact h

theorem discard_fst (s : OSet) (x : Elem) : (s.discard x).1 = (s.remove x).1 := by
  unfold discard remove
  cases s.has x <;> rfl

theorem discard_mem {s : OSet} (h : s.Inv) {x : Elem} (hx : x ∈ s.lst) :
    s.discard x = (⟨s.lst.erase x, setRemove s.st x⟩, none) := by
  unfold discard
  rw [(has_iff h).2 hx, listRemove_mem hx]
  rfl

theorem discard_not_mem {s : OSet} (h : s.Inv) {x : Elem} (hx : x ∉ s.lst) :
    s.discard x = (s, none) := by
  unfold discard
  rw [has_eq_false h hx]
  rfl

theorem inv_discard {s : OSet} (h : s.Inv) (x : Elem) : (s.discard x).1.Inv :=
  discard_fst s x ▸ inv_remove h x

theorem pop_nil {s : OSet} (hl : s.lst = []) : s.pop = (s, .error .keyError) := by
  unfold pop; rw [hl]; rfl

theorem pop_concat {s : OSet} (h : s.Inv) {l : List Elem} {v : Elem} (hl : s.lst = l ++ [v]) :
    s.pop = (⟨l, setRemove s.st v⟩, .ok v) := by
  have hv : s.st.contains v = true := by
    rw [List.contains_iff_mem, h.same, hl]
    exact List.mem_append_right _ List.mem_cons_self
  unfold pop
  rw [hl, List.getLast?_concat, List.dropLast_concat]
  show (if s.st.contains v = true then _ else _) = _
  rw [if_pos hv]

theorem pop_lst (s : OSet) : s.pop.1.lst = s.lst.dropLast := by
  unfold pop
  split
  next hl => rw [List.getLast?_eq_none_iff.1 hl]; rfl
  · split <;> rfl

theorem inv_pop {s : OSet} (h : s.Inv) : s.pop.1.Inv := by
  rcases List.eq_nil_or_concat s.lst with hl | ⟨l, v, hl⟩
  · rw [pop_nil hl]; exact h
  · rw [List.concat_eq_append] at hl
    have he : s.lst.erase v = l := by
      rw [h.nodup.erase_eq_filter, hl, filter_ne_concat (hl ▸ h.nodup)]
    rw [pop_concat h hl, ← he]
    exact inv_erase h v

theorem inv_clear (s : OSet) : s.clear.Inv := inv_empty

theorem filter_contains_filter {s : OSet} (h : s.Inv) (p : Elem → Bool) :
    s.lst.filter (fun a => (s.st.filter p).contains a) = s.lst.filter p :=
  filter_contains_congr fun y hy => by rw [List.mem_filter, h.same]; exact and_iff_right hy

theorem inv_intersection {s : OSet} (h : s.Inv) (args : List (List Elem)) :
    (s.intersection args).Inv := inv_fromList (h.nodup.filter _)

theorem inv_difference {s : OSet} (h : s.Inv) (args : List (List Elem)) :
    (s.difference args).Inv := inv_fromList (h.nodup.filter _)

theorem inv_restrict {s : OSet} (h : s.Inv) {p : Elem → Bool} :
    Inv ⟨s.lst.filter (fun a => (s.st.filter p).contains a), s.st.filter p⟩ :=
  ⟨h.nodup.filter _, h.snodup.filter _, fun y =>
    ⟨fun hy => List.mem_filter.2 ⟨(h.same y).1 (List.mem_filter.1 hy).1, List.contains_iff_mem.2 hy⟩,
      fun hy => List.contains_iff_mem.1 (List.mem_filter.1 hy).2⟩⟩

theorem inv_interUpdate {s : OSet} (h : s.Inv) (args : List (List Elem)) :
    (s.interUpdate args).Inv := inv_restrict h

theorem inv_diffUpdate {s : OSet} (h : s.Inv) (args : List (List Elem)) :
    (s.diffUpdate args).Inv := inv_restrict h

theorem inv_symDiff {s : OSet} (h : s.Inv) (c : List Elem) : (s.symDiff c).Inv :=
  (update_inv_lst (inv_fromList (h.nodup.filter _)) _).1

theorem symDiff_lst {s : OSet} (h : s.Inv) (c : List Elem) :
    (s.symDiff c).lst
      = s.lst.filter (fun a => !c.contains a) ++ (firstOcc c).filter (fun a => !s.lst.contains a) := by
  unfold symDiff
  rw [(update_inv_lst (inv_fromList (h.nodup.filter _)) _).2]
  show dictUpdate (s.lst.filter _) ([c.filter _] : List (List Elem)).flatten = _
  simp only [List.flatten_cons, List.flatten_nil, List.append_nil, has_eq h]
  exact dictUpdate_symDiff (fun _ => mem_setUpdate.trans (or_iff_right List.not_mem_nil)) rfl

theorem symDiffUpdate_lst {s : OSet} (h : s.Inv) (c : List Elem) :
    (s.symDiffUpdate c).lst
      = s.lst.filter (fun a => !c.contains a) ++ (firstOcc c).filter (fun a => !s.lst.contains a) := by
  unfold symDiffUpdate symDiffUpdateGen
  simp only [if_true, uniqueList_eq_firstOcc]
  congr 1
  · refine filter_contains_congr fun y hy => ?_
    rw [mem_setSymDiff, h.same]
    simp [hy]
  · refine filter_contains_congr fun y hy => ?_
    rw [mem_setSymDiff, h.same]
    simp [mem_firstOcc.1 hy]

theorem inv_symDiffUpdate {s : OSet} (h : s.Inv) (c : List Elem) : (s.symDiffUpdate c).Inv := by
  refine ⟨?_, nodup_setSymDiff h.snodup, fun y => ?_⟩
  · rw [symDiffUpdate_lst h]
    exact nodup_append_new (h.nodup.filter _) (nodup_firstOcc c) fun _ hx => (List.mem_filter.1 hx).1
  · show y ∈ setSymDiff s.st c ↔ _
    rw [symDiffUpdate_lst h, mem_setSymDiff, h.same]
    simp [List.mem_filter, mem_firstOcc]

end OSet
end SaVerif.Coll
