import SaVerif.Model.RecProto
/-! `Inv`, kept by every step of every interleaving of the entry hand-over protocol
(`Model/RecProto.lean`): an entry has at most one owner, `fairy_ref` names exactly the actor holding it,
and every used entry is idle, dead or owned.  Seven of the eight labels are three shapes of step:
`Inv.acquire`, `Inv.internal`, `Inv.release`; the eighth, `skip`, is never enabled under `Inv.holdRef`, which is
the point of the protocol. -/
namespace SaVerif.RecProto

theorem upd_same {β : Type} (f : Nat → β) (k : Nat) (v : β) : upd f k v k = v := by simp [upd]
theorem upd_other {β : Type} (f : Nat → β) (k x : Nat) (v : β) (h : x ≠ k) : upd f k v x = f x := by
  simp [upd, h]

theorem owns_upd (s : St) (a : Fid) (p : Pc) (b : Fid) (r : Rid) (pc' : Fid → Pc)
    (h : pc' = upd s.pc a p) :
    (pc' b = .got r ∨ pc' b = .holding r ∨ pc' b = .cleared r) ↔
      (if b = a then (p = .got r ∨ p = .holding r ∨ p = .cleared r) else Owns s b r) := by
  subst h
  by_cases hb : b = a
  · subst hb; simp [upd]
  · simp [upd, hb, Owns]

theorem upd_eq_self {β : Type} {f : Nat → β} {k : Nat} {v : β} (h : f k = v) : upd f k v = f := by
  funext x
  unfold upd
  split
  · rename_i e; rw [e, h]
  · rfl

theorem Owns.of_got {s : St} {a : Fid} {r : Rid} (h : s.pc a = .got r) : Owns s a r := .inl h
theorem Owns.of_holding {s : St} {a : Fid} {r : Rid} (h : s.pc a = .holding r) : Owns s a r := .inr (.inl h)
theorem Owns.of_cleared {s : St} {a : Fid} {r : Rid} (h : s.pc a = .cleared r) : Owns s a r := .inr (.inr h)

theorem Owns.unique {s : St} {a : Fid} {q r : Rid} (h : Owns s a q) (h' : Owns s a r) : q = r := by
  -- `a` is at one pc
  rcases h with h | h | h <;> rw [Owns, h] at h'
  all_goals rcases h' with h' | h' | h' <;> cases h' <;> rfl

structure Inv (s : St) : Prop where
  holdRef : ∀ a r, s.pc a = .holding r → s.ref r = some a
  excl : ∀ a b r, Owns s a r → Owns s b r → a = b
  ownState : ∀ a r, Owns s a r → s.idle r = false ∧ s.used r = true ∧ s.dead r = false
  refHold : ∀ r a, s.ref r = some a → s.pc a = .holding r
  accounted : ∀ r, s.used r = true → s.dead r = true ∨ s.idle r = true ∨ ∃ a, Owns s a r
  idleUsed : ∀ r, s.idle r = true → s.used r = true ∧ s.dead r = false
  deadUsed : ∀ r, s.dead r = true → s.used r = true

theorem Inv.other {s : St} (hi : Inv s) {a : Fid} {r : Rid} (hown : Owns s a r) {b : Fid} {q : Rid}
    (hb : b ≠ a) (h : Owns s b q) : q ≠ r :=
  fun e => hb (hi.excl b a r (e ▸ h) hown)

theorem inv_init : Inv init := by
  constructor <;> simp [init, Owns]

theorem Inv.acquire {s s' : St} (hi : Inv s) {a : Fid} {r : Rid} (hpc : s.pc a = .start)
    (hno : ∀ b, ¬ Owns s b r) (hdead : s.dead r = false)
    (e1 : s'.pc = upd s.pc a (.got r)) (e2 : s'.ref = s.ref) (e3 : s'.idle = upd s.idle r false)
    (e4 : s'.used = upd s.used r true) (e5 : s'.dead = s.dead) : Inv s' := by
  have ho : ∀ b q, Owns s' b q ↔ if b = a then q = r else Owns s b q := fun b q =>
    (owns_upd s a _ b q _ e1).trans (by split <;> simp [eq_comm])
  have hna : ∀ q, ¬ Owns s a q := fun q h => by simp [Owns, hpc] at h
  have hne : ∀ b q, Owns s b q → b ≠ a ∧ q ≠ r := fun b q h =>
    ⟨fun e => hna q (e ▸ h), fun e => hno b (e ▸ h)⟩
  refine ⟨?_, ?_, ?_, ?_, ?_, ?_, ?_⟩
  · intro b q hb
    rw [e1] at hb
    unfold upd at hb
    split at hb
    · cases hb
    · rw [e2]; exact hi.holdRef b q hb
  · intro b c q hb hc
    rw [ho] at hb hc
    split at hb <;> split at hc
    · rw [‹b = a›, ‹c = a›]
    · exact absurd hb (hne c q hc).2
    · exact absurd hc (hne b q hb).2
    · exact hi.excl b c q hb hc
  · intro b q hb
    rw [ho] at hb
    rw [e3, e4, e5]
    split at hb
    · subst hb; exact ⟨upd_same .., upd_same .., hdead⟩
    · have hq := (hne b q hb).2
      rw [upd_other _ _ _ _ hq, upd_other _ _ _ _ hq]
      exact hi.ownState b q hb
  · intro q b hb
    rw [e2] at hb
    have := hi.refHold q b hb
    rw [e1, upd_other _ _ _ _ (hne b q (.of_holding this)).1]
    exact this
  · intro q hq
    by_cases hqr : q = r
    · exact .inr (.inr ⟨a, (ho a q).2 (by rw [if_pos rfl]; exact hqr)⟩)
    · rw [e4, upd_other _ _ _ _ hqr] at hq
      rw [e3, e5, upd_other _ _ _ _ hqr]
      refine (hi.accounted q hq).imp_right (Or.imp_right fun ⟨b, hb⟩ => ⟨b, (ho b q).2 ?_⟩)
      rw [if_neg (hne b q hb).1]; exact hb
  · intro q hq
    rw [e3] at hq
    rw [e4, e5]
    by_cases hqr : q = r
    · rw [hqr, upd_same] at hq; cases hq
    · rw [upd_other _ _ _ _ hqr] at hq ⊢
      exact hi.idleUsed q hq
  · intro q hq
    rw [e5] at hq
    rw [e4]
    by_cases hqr : q = r
    · rw [hqr]; exact upd_same ..
    · rw [upd_other _ _ _ _ hqr]; exact hi.deadUsed q hq

/-- `hp`: on the left `setref`, on the right `clear` and `clearf` -/
theorem Inv.internal {s s' : St} (hi : Inv s) {a : Fid} {r : Rid} (hown : Owns s a r) {p : Pc}
    {v : Option Fid} (hp : p = .holding r ∧ v = some a ∨ p = .cleared r ∧ v = none)
    (e1 : s'.pc = upd s.pc a p) (e2 : s'.ref = upd s.ref r v) (e3 : s'.idle = s.idle)
    (e4 : s'.used = s.used) (e5 : s'.dead = s.dead) : Inv s' := by
  have hq : ∀ q, Owns s a q → q = r := fun q h => h.unique hown
  have ho : ∀ b q, Owns s' b q ↔ Owns s b q := fun b q => by
    refine (owns_upd s a _ b q _ e1).trans ?_
    split
    · rename_i e
      rw [e, show Owns s a q ↔ q = r from ⟨hq q, fun h => h ▸ hown⟩]
      rcases hp with ⟨rfl, _⟩ | ⟨rfl, _⟩ <;> simp [eq_comm]
    · rfl
  refine
    { holdRef := ?_, excl := fun b c q hb hc => hi.excl b c q ((ho b q).1 hb) ((ho c q).1 hc),
      ownState := ?_, refHold := ?_, accounted := ?_, idleUsed := ?_, deadUsed := ?_ }
  · intro b q hb
    rw [e1] at hb
    rw [e2]
    unfold upd at hb ⊢
    split at hb
    · rename_i e
      rcases hp with ⟨rfl, rfl⟩ | ⟨rfl, _⟩ <;> cases hb
      rw [if_pos rfl, e]
    · rw [if_neg (hi.other hown ‹_› (.of_holding hb))]
      exact hi.holdRef b q hb
  · intro b q hb
    rw [e3, e4, e5]
    exact hi.ownState b q ((ho b q).1 hb)
  · intro q b hb
    rw [e2] at hb
    rw [e1]
    unfold upd at hb ⊢
    split at hb
    · rename_i e
      rcases hp with ⟨rfl, rfl⟩ | ⟨_, rfl⟩ <;> cases hb
      rw [if_pos rfl, e]
    · have := hi.refHold q b hb
      -- were `b = a`, then `a` would own `q`, and `q = r`
      rw [if_neg fun (e : b = a) => ‹¬q = r› (hq q (.of_holding (e ▸ this)))]
      exact this
  · intro q hq
    rw [e4] at hq
    rw [e3, e5]
    exact (hi.accounted q hq).imp_right (Or.imp_right fun ⟨b, hb⟩ => ⟨b, (ho b q).2 hb⟩)
  · rw [e3, e4, e5]
    exact hi.idleUsed
  · rw [e4, e5]
    exact hi.deadUsed

/-- `put` (`i = true`: the entry becomes idle) and `drop` (`i = false`: it becomes dead) in one shape; a caller
    pads the flag its step leaves alone (`upd_eq_self`) -/
theorem Inv.release {s s' : St} (hi : Inv s) {a : Fid} {r : Rid} (hpc : s.pc a = .cleared r)
    (i : Bool) (e1 : s'.pc = upd s.pc a .done) (e2 : s'.ref = s.ref)
    (e3 : s'.idle = upd s.idle r i) (e4 : s'.used = s.used) (e5 : s'.dead = upd s.dead r (!i)) :
    Inv s' := by
  have hown : Owns s a r := .of_cleared hpc
  have hst := hi.ownState a r hown
  have ho : ∀ b q, Owns s' b q ↔ b ≠ a ∧ Owns s b q := fun b q =>
    (owns_upd s a _ b q _ e1).trans (by split <;> simp [*])
  refine ⟨?_, fun b c q hb hc => hi.excl b c q ((ho b q).1 hb).2 ((ho c q).1 hc).2, ?_, ?_, ?_, ?_, ?_⟩
  · intro b q hb
    rw [e1] at hb
    unfold upd at hb
    split at hb
    · cases hb
    · rw [e2]; exact hi.holdRef b q hb
  · intro b q hb
    obtain ⟨hba, hb⟩ := (ho b q).1 hb
    have hq := hi.other hown hba hb
    rw [e3, e4, e5, upd_other _ _ _ _ hq, upd_other _ _ _ _ hq]
    exact hi.ownState b q hb
  · intro q b hb
    rw [e2] at hb
    have := hi.refHold q b hb
    rw [e1, upd_other _ _ _ _ fun e => by rw [e, hpc] at this; cases this]
    exact this
  · intro q hq
    rw [e4] at hq
    rw [e3, e5]
    by_cases hqr : q = r
    · rw [hqr, upd_same, upd_same]
      cases i
      · exact .inl rfl
      · exact .inr (.inl rfl)
    · rw [upd_other _ _ _ _ hqr, upd_other _ _ _ _ hqr]
      refine (hi.accounted q hq).imp_right (Or.imp_right fun ⟨b, hb⟩ => ⟨b, (ho b q).2 ⟨?_, hb⟩⟩)
      exact fun e => hqr ((e ▸ hb).unique hown)
  · intro q hq
    rw [e3] at hq
    rw [e4, e5]
    by_cases hqr : q = r
    · rw [hqr, upd_same] at hq
      rw [hqr, upd_same, hq]
      exact ⟨hst.2.1, rfl⟩
    · rw [upd_other _ _ _ _ hqr] at hq ⊢
      exact hi.idleUsed q hq
  · intro q hq
    rw [e5] at hq
    rw [e4]
    by_cases hqr : q = r
    · rw [hqr]; exact hst.2.1
    · rw [upd_other _ _ _ _ hqr] at hq
      exact hi.deadUsed q hq

theorem inv_step (s s' : St) (l : Label) (hi : Inv s) (h : step s l = some s') : Inv s' := by
  cases l <;> unfold step at h <;> dsimp only at h <;> split at h <;> cases h
  case create a r hc =>
    have hidle : s.idle r = false := by
      cases hx : s.idle r with
      | false => rfl
      | true => have := (hi.idleUsed r hx).1; rw [hc.2] at this; cases this
    have hdead : s.dead r = false := by
      cases hx : s.dead r with
      | false => rfl
      | true => have := hi.deadUsed r hx; rw [hc.2] at this; cases this
    refine hi.acquire hc.1 (fun b hb => ?_) hdead rfl rfl (upd_eq_self hidle).symm rfl rfl
    have := (hi.ownState b r hb).2.1
    rw [hc.2] at this; cases this
  case pop a r hc =>
    have hu := hi.idleUsed r hc.2
    refine hi.acquire hc.1 (fun b hb => ?_) hu.2 rfl rfl rfl (upd_eq_self hu.1).symm rfl
    have := (hi.ownState b r hb).1
    rw [hc.2] at this; cases this
  case setref a r hc => exact hi.internal (.of_got hc) (.inl ⟨rfl, rfl⟩) rfl rfl rfl rfl rfl
  case clear a r hc => exact hi.internal (.of_holding hc.1) (.inr ⟨rfl, rfl⟩) rfl rfl rfl rfl rfl
  case clearf a r hc => exact hi.internal (.of_got hc) (.inr ⟨rfl, rfl⟩) rfl rfl rfl rfl rfl
  case put a r hc =>
    have hst := hi.ownState a r (.of_cleared hc)
    exact hi.release hc true rfl rfl rfl rfl (upd_eq_self hst.2.2).symm
  case drop a r hc =>
    have hst := hi.ownState a r (.of_cleared hc)
    exact hi.release hc false rfl rfl (upd_eq_self hst.1).symm rfl rfl
  case skip a r hc => exact absurd (hi.holdRef a r hc.1) hc.2

theorem inv_run (ls : List Label) : ∀ s s', Inv s → run s ls = some s' → Inv s' := by
  induction ls with
  | nil => intro s s' hi h; simp [run] at h; subst h; exact hi
  | cons l ls ih =>
    intro s s' hi h
    simp only [run] at h
    split at h
    · rename_i s1 hs1
      exact ih s1 s' (inv_step s s1 l hi hs1) h
    · cases h

end SaVerif.RecProto
