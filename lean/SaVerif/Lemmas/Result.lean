import SaVerif.Model.Result
/-! Every row source of the model (`Src`: the cursor fetch strategies, IteratorResult,
ChunkedIteratorResult) is the bare list `Plain` seen through `Src.abs`, on `Src.good` states
(`src_refines`).  The Result facade is written once over `SrcOps`, so each of its loops, and then one
`step`, gives the same output over a refining source as over the bare list (`step_refines`). -/
namespace SaVerif.Result

def Src.abs : Src → Plain
  | .cursor st cur _ hard =>
    match st with
    | .default => { rem := cur, hard := hard, d1 := true }
    | .buffered buf _ _ _ => { rem := buf ++ cur, hard := hard, d1 := false }
    | .full buf => { rem := buf, hard := hard, d1 := false }
    | .noCursor => { rem := [], hard := hard, d1 := false }
  | .iter it _ hard => { rem := it, hard := hard, d1 := false }
  | .chunked p b _ _ _ hard => { rem := p ++ b, hard := hard, d1 := false }

/-- representation invariant of the real sources (preserved by every primitive);
    for ChunkedIteratorResult it includes `dynamic_yield_per = False` -/
def Src.good : Src → Prop
  | .cursor st cur soft hard =>
    (soft = true ↔ st = .noCursor) ∧ (st = .noCursor → cur = []) ∧ (hard = true → soft = true)
  | .iter it _ hard => hard = true → it = []
  | .chunked p b _ dyn _ hard => dyn = false ∧ (hard = true → p = [] ∧ b = [])

theorem Src.good_closed (hard : Bool) : Src.good (.cursor .noCursor [] true hard) :=
  ⟨⟨fun _ => rfl, fun _ => rfl⟩, fun _ => rfl, fun _ => rfl⟩

theorem Src.good_live {st : Strat} (cur : List Row) (h : st ≠ .noCursor) :
    Src.good (.cursor st cur false false) :=
  ⟨⟨nofun, fun e => absurd e h⟩, fun e => absurd e h, nofun⟩

theorem Src.good_iter_open (it : List Row) (soft : Bool) : Src.good (.iter it soft false) := nofun

theorem Src.good_iter_nil (soft hard : Bool) : Src.good (.iter [] soft hard) := fun _ => rfl

theorem Src.good_chunked_open (p b : List Row) (cs : Option Nat) (soft : Bool) :
    Src.good (.chunked p b cs false soft false) :=
  ⟨rfl, nofun⟩

theorem Src.good_chunked_nil (cs : Option Nat) (soft hard : Bool) :
    Src.good (.chunked [] [] cs false soft hard) :=
  ⟨rfl, fun _ => ⟨rfl, rfl⟩⟩

@[elab_as_elim]
theorem Src.good.cases {P : Src → Prop} {s : Src} (hg : s.good)
    (closed : ∀ hard, P (.cursor .noCursor [] true hard))
    (live : ∀ st cur, st ≠ .noCursor → P (.cursor st cur false false))
    (iter : ∀ it soft, P (.iter it soft false)) (iterClosed : ∀ soft, P (.iter [] soft true))
    (chunked : ∀ p b cs soft, P (.chunked p b cs false soft false))
    (chunkedClosed : ∀ cs soft, P (.chunked [] [] cs false soft true)) : P s := by
  cases s with
  | cursor st cur soft hard =>
    obtain ⟨hsoft, hcur, hhard⟩ := hg
    cases soft with
    | true =>
      obtain rfl := hsoft.1 rfl
      obtain rfl := hcur rfl
      exact closed hard
    | false =>
      cases hard with
      | false => exact live st cur (fun h => nomatch hsoft.2 h)
      | true => exact nomatch hhard rfl
  | iter it soft hard =>
    cases hard with
    | false => exact iter it soft
    | true => obtain rfl := hg rfl; exact iterClosed soft
  | chunked p b cs dyn soft hard =>
    obtain ⟨rfl, h⟩ := hg
    cases hard with
    | false => exact chunked p b cs soft
    | true => obtain ⟨rfl, rfl⟩ := h rfl; exact chunkedClosed cs soft

/-- The three side conditions are exactly the hazards (`corner`, `ypLossy`) and the driver-defined
    `fetchmany(0)`. -/
structure Refines {σ : Type} (O : SrcOps σ) (good : σ → Prop) (abs : σ → Plain) : Prop where
  fetchone : ∀ (b : Bool) (s : σ), good s → (b = true → O.corner s = false) →
    Prod.map id abs (O.fetchone b s) = Plain.fetchone b (abs s) ∧ good (O.fetchone b s).2
  rawNext : ∀ s, good s →
    Prod.map id abs (O.rawNext s) = Plain.rawNext (abs s) ∧ good (O.rawNext s).2
  fetchmany : ∀ n s, good s → n ≠ some 0 →
    Prod.map id abs (O.fetchmany n s) = Plain.fetchmany n (abs s) ∧ good (O.fetchmany n s).2
  fetchall : ∀ s, good s →
    Prod.map id abs (O.fetchall s) = Plain.fetchall (abs s) ∧ good (O.fetchall s).2
  drainRaw : ∀ s, good s →
    Prod.map id abs (O.drainRaw s) = Plain.ops.drainRaw (abs s) ∧ good (O.drainRaw s).2
  softClose : ∀ b s, good s →
    abs (O.softClose b s) = Plain.softClose b (abs s) ∧ good (O.softClose b s)
  yieldPer : ∀ n s, good s → O.ypLossy s = false →
    abs (O.yieldPer n s) = Plain.ops.yieldPer n (abs s) ∧ good (O.yieldPer n s)
  size : ∀ s, good s → O.size s = (abs s).rem.length
  isHard : ∀ s, O.isHard s = (abs s).hard
  ofList : ∀ l, abs (O.ofList l) = Plain.ops.ofList l ∧ good (O.ofList l)
  /-- after `fetchone` returned a row the source is not soft-closed, so `onlyOne` and `skipEq` may call
      `fetchone true` again without meeting the `corner` hazard (`Refines.fetchoneHard`) -/
  corner_some : ∀ b s r, good s → (O.fetchone b s).1 = .ok (some r) →
    O.corner (O.fetchone b s).2 = false

theorem cursorSoftClose_live (b : Bool) (st : Strat) (cur : List Row) :
    Src.cursorSoftClose b st cur false false = .cursor .noCursor [] true b := by
  cases b <;> rfl

theorem cursorSoftClose_abs (b : Bool) (st : Strat) (cur : List Row) (soft hard : Bool)
    (hg : Src.good (.cursor st cur soft hard)) (hns : soft = false) :
    Src.abs (Src.cursorSoftClose b st cur soft hard) = { rem := [], hard := hard || b, d1 := false } ∧
    Src.good (Src.cursorSoftClose b st cur soft hard) := by
  subst hns
  cases hard with
  | true => exact nomatch hg.2.2 rfl
  | false => rw [cursorSoftClose_live]; exact ⟨rfl, Src.good_closed b⟩

theorem chunkSize_pos (cs : Option Nat) (x : Row) (xs : List Row) : 0 < Src.chunkSize cs (x :: xs) := by
  unfold Src.chunkSize
  split
  · split
    · exact Nat.succ_pos _
    · omega
  · exact Nat.succ_pos _

theorem chTake_spec (cs : Option Nat) : ∀ (k : Nat) (p b : List Row),
    ∃ p' b', Src.chTake cs k p b = ((p ++ b).take k, p', b') ∧ p' ++ b' = (p ++ b).drop k
  | 0, p, b => ⟨p, b, rfl, rfl⟩
  | k + 1, r :: p, b => by
    obtain ⟨p', b', e, h⟩ := chTake_spec cs k p b
    exact ⟨p', b', by simp only [Src.chTake, e, List.cons_append, List.take_succ_cons], h⟩
  | k + 1, [], [] => ⟨[], [], by simp only [Src.chTake, List.take_nil]; rfl, rfl⟩
  | k + 1, [], x :: xs => by
    obtain ⟨n, hn⟩ : ∃ n, Src.chunkSize cs (x :: xs) = n + 1 :=
      ⟨_, (Nat.succ_pred_eq_of_pos (chunkSize_pos cs x xs)).symm⟩
    obtain ⟨p', b', e, h⟩ := chTake_spec cs k (xs.take n) (xs.drop n)
    rw [List.take_append_drop] at e h
    exact ⟨p', b', by simp only [Src.chTake, hn, List.take_succ_cons, List.drop_succ_cons, e,
      List.nil_append], h⟩

theorem bufferRows_spec (bs g mx : Nat) (cur : List Row) :
    ∃ nb bs' cur', Src.bufferRows bs g mx cur = (nb, bs', cur') ∧ nb ++ cur' = cur ∧
      (nb = [] → cur = []) := by
  unfold Src.bufferRows
  cases cur with
  | nil =>
    exact ⟨[], bs, [], by simp only [List.take_nil, List.drop_nil, ite_self, List.isEmpty_nil, if_true],
      rfl, fun _ => rfl⟩
  | cons c cs =>
    cases bs with
    | zero => exact ⟨c :: cs, _, [], rfl, List.append_nil _, nofun⟩
    | succ m =>
      exact ⟨c :: cs.take m, _, cs.drop m, by simp only [Nat.lt_one_iff, Nat.add_one_ne_zero, if_false,
        List.take_succ_cons, List.drop_succ_cons, List.isEmpty_cons, Bool.false_eq_true]; rfl,
        by rw [List.cons_append, List.take_append_drop], nofun⟩

theorem src_fetchone_spec (b : Bool) {s : Src} (hg : s.good) :
    ((b = true → s.corner = false) → Prod.map id Src.abs (Src.fetchone b s) = Plain.fetchone b s.abs) ∧
    (Src.fetchone b s).2.good ∧
    ∀ r, (Src.fetchone b s).1 = .ok (some r) → (Src.fetchone b s).2.corner = false := by
  refine hg.cases (fun hard => ?_) (fun st cur hst => ?_) (fun it soft => ?_) (fun soft => ?_)
    (fun p bb cs soft => ?_) (fun cs soft => ?_)
  · cases hard with
    | true => exact ⟨fun _ => rfl, Src.good_closed _, nofun⟩
    | false =>
      refine ⟨fun hc => ?_, Src.good_closed _, nofun⟩
      cases b with
      | false => rfl
      | true => exact nomatch hc rfl
  · cases st with
    | noCursor => exact absurd rfl hst
    | default =>
      cases cur with
      | nil => cases b <;> exact ⟨fun _ => rfl, Src.good_closed _, nofun⟩
      | cons r rest => exact ⟨fun _ => rfl, Src.good_live _ nofun, fun _ _ => rfl⟩
    | full buf =>
      cases buf with
      | nil => cases b <;> exact ⟨fun _ => rfl, Src.good_closed _, nofun⟩
      | cons r rest => exact ⟨fun _ => rfl, Src.good_live _ nofun, fun _ _ => rfl⟩
    | buffered buf bs g mx =>
      cases buf with
      | cons r rest => exact ⟨fun _ => rfl, Src.good_live _ nofun, fun _ _ => rfl⟩
      | nil =>
        obtain ⟨nb, bs', cur', e, rfl, hnil⟩ := bufferRows_spec bs g mx cur
        simp only [Src.fetchone, e]
        cases nb with
        | nil =>
          obtain rfl : cur' = [] := hnil rfl
          cases b <;> exact ⟨fun _ => rfl, Src.good_closed _, nofun⟩
        | cons r rest => exact ⟨fun _ => rfl, Src.good_live _ nofun, fun _ _ => rfl⟩
  · cases it with
    | nil => exact ⟨fun _ => rfl, Src.good_iter_nil _ _, nofun⟩
    | cons r rest => exact ⟨fun _ => rfl, Src.good_iter_open _ _, fun _ _ => rfl⟩
  · exact ⟨fun _ => rfl, Src.good_iter_nil _ _, nofun⟩
  · obtain ⟨p', b', e, h⟩ := chTake_spec cs 1 p bb
    simp only [Src.fetchone, Src.abs, e, Bool.false_eq_true, if_false]
    generalize p ++ bb = l at h
    cases l with
    | nil => exact ⟨fun _ => rfl, Src.good_chunked_nil _ _ _, nofun⟩
    | cons r rest =>
      exact ⟨fun _ => congrArg (fun l => (Except.ok (some r), Plain.mk l false false)) h, Src.good_chunked_open _ _ _ _,
        fun _ _ => rfl⟩
  · exact ⟨fun _ => rfl, Src.good_chunked_nil _ _ _, nofun⟩

theorem Plain.rawNext_eq (p : Plain) : Plain.rawNext p = Plain.fetchone false p := by
  obtain ⟨rem, hard, d1⟩ := p
  cases hard <;> cases rem <;> rfl

theorem src_rawNext_refines {s : Src} (hg : s.good) :
    Prod.map id Src.abs (Src.rawNext s) = Plain.rawNext s.abs ∧ (Src.rawNext s).2.good := by
  -- on a cursor `rawNext` is `fetchone false`: the two cursor cases below use `hc`
  have hc := src_fetchone_spec false hg
  revert hc
  refine hg.cases (fun hard => ?_) (fun st cur hst => ?_) (fun it soft => ?_) (fun soft => ?_)
    (fun p bb cs soft => ?_) (fun cs soft => ?_)
  · exact fun hc => ⟨(hc.1 nofun).trans (Plain.rawNext_eq _).symm, hc.2.1⟩
  · exact fun hc => ⟨(hc.1 nofun).trans (Plain.rawNext_eq _).symm, hc.2.1⟩
  · intro _
    cases it with
    | nil => exact ⟨rfl, Src.good_iter_open _ _⟩
    | cons r rest => exact ⟨rfl, Src.good_iter_open _ _⟩
  · exact fun _ => ⟨rfl, Src.good_iter_nil _ _⟩
  · intro _
    obtain ⟨p', b', e, h⟩ := chTake_spec cs 1 p bb
    simp only [Src.rawNext, Src.abs, e, Bool.false_eq_true, if_false]
    generalize p ++ bb = l at h
    cases l with
    | nil => exact ⟨congrArg (fun l => (Except.ok none, Plain.mk l false false)) h, Src.good_chunked_open _ _ _ _⟩
    | cons r rest =>
      exact ⟨congrArg (fun l => (Except.ok (some r), Plain.mk l false false)) h, Src.good_chunked_open _ _ _ _⟩
  · exact fun _ => ⟨rfl, Src.good_chunked_nil _ _ _⟩

theorem src_fetchall_refines {s : Src} (hg : s.good) :
    Prod.map id Src.abs (Src.fetchall s) = Plain.fetchall s.abs ∧ (Src.fetchall s).2.good := by
  refine hg.cases (fun hard => ?_) (fun st cur hst => ?_) (fun it soft => ?_) (fun soft => ?_)
    (fun p bb cs soft => ?_) (fun cs soft => ?_)
  · cases hard <;> exact ⟨rfl, Src.good_closed _⟩
  · cases st with
    | noCursor => exact absurd rfl hst
    | _ => exact ⟨rfl, Src.good_closed _⟩
  · exact ⟨rfl, Src.good_iter_open _ _⟩
  · exact ⟨rfl, Src.good_iter_nil _ _⟩
  · exact ⟨rfl, Src.good_chunked_open _ _ _ _⟩
  · exact ⟨rfl, Src.good_chunked_nil _ _ _⟩

theorem src_drainRaw_refines {s : Src} (hg : s.good) :
    Prod.map id Src.abs (Src.drainRaw s) = Plain.ops.drainRaw s.abs ∧ (Src.drainRaw s).2.good := by
  refine hg.cases (fun hard => ?_) (fun st cur hst => ?_) (fun it soft => ?_) (fun soft => ?_)
    (fun p bb cs soft => ?_) (fun cs soft => ?_)
  · cases hard <;> exact ⟨rfl, Src.good_closed _⟩
  · cases st with
    | noCursor => exact absurd rfl hst
    | _ => exact ⟨rfl, Src.good_closed _⟩
  · exact ⟨rfl, Src.good_iter_open _ _⟩
  · exact ⟨rfl, Src.good_iter_nil _ _⟩
  · exact ⟨rfl, Src.good_chunked_open _ _ _ _⟩
  · exact ⟨rfl, Src.good_chunked_nil _ _ _⟩

theorem src_softClose_refines (b : Bool) {s : Src} (hg : s.good) :
    Src.abs (Src.softClose b s) = Plain.softClose b s.abs ∧ (Src.softClose b s).good := by
  refine hg.cases (fun hard => ?_) (fun st cur hst => ?_) (fun it soft => ?_) (fun soft => ?_)
    (fun p bb cs soft => ?_) (fun cs soft => ?_)
  · cases hard <;> cases b <;> exact ⟨rfl, Src.good_closed _⟩
  · cases st <;> cases b <;> exact ⟨rfl, Src.good_closed _⟩
  · exact ⟨rfl, Src.good_iter_nil _ _⟩
  · exact ⟨rfl, Src.good_iter_nil _ _⟩
  · exact ⟨rfl, Src.good_chunked_nil _ _ _⟩
  · exact ⟨rfl, Src.good_chunked_nil _ _ _⟩

theorem src_yieldPer_refines (n : Nat) {s : Src} (hg : s.good) (hl : s.ypLossy = false) :
    Src.abs (Src.yieldPer n s) = Plain.ops.yieldPer n s.abs ∧ (Src.yieldPer n s).good := by
  revert hl
  refine hg.cases (fun hard => ?_) (fun st cur hst => ?_) (fun it soft => ?_) (fun soft => ?_)
    (fun p bb cs soft => ?_) (fun cs soft => ?_)
  · exact fun _ => ⟨rfl, Src.good_closed _⟩
  · cases st with
    | noCursor => exact absurd rfl hst
    | _ => exact fun _ => ⟨rfl, Src.good_live _ nofun⟩
  · exact fun _ => ⟨rfl, Src.good_iter_open _ _⟩
  · exact fun _ => ⟨rfl, Src.good_iter_nil _ _⟩
  · cases p with
    | nil => exact fun _ => ⟨rfl, Src.good_chunked_open _ _ _ _⟩
    | cons => exact nofun
  · exact fun _ => ⟨rfl, Src.good_chunked_nil _ _ _⟩

theorem src_size (s : Src) : Src.size s = s.abs.rem.length := by
  cases s with
  | cursor st cur soft hard =>
    cases st with
    | buffered buf bs g mx => exact List.length_append.symm
    | _ => rfl
  | iter it soft hard => rfl
  | chunked p bb cs dyn soft hard => exact List.length_append.symm

theorem src_isHard (s : Src) : Src.isHard s = s.abs.hard := by
  cases s with
  | cursor st cur soft hard => cases st <;> rfl
  | _ => rfl

theorem Plain.fetchmany_none_nod1 (p : Plain) (h : p.d1 = false) :
    Plain.fetchmany none p = Plain.fetchall p := by
  obtain ⟨rem, hard, d1⟩ := p
  cases h
  cases hard
  · simp only [Plain.fetchmany, Plain.fetchall, Bool.false_eq_true, if_false, List.take_length,
      List.drop_length, Bool.false_and]
  · rfl

theorem buf_take (buf cur : List Row) (k : Nat) (h : k > buf.length) :
    (buf ++ cur.take (k - buf.length)).take k = (buf ++ cur).take k ∧
    (buf ++ cur.take (k - buf.length)).drop k ++ cur.drop (k - buf.length) = (buf ++ cur).drop k := by
  have h1 : buf.drop k = [] := List.drop_of_length_le (by omega)
  have h2 : (cur.take (k - buf.length)).drop (k - buf.length) = [] :=
    List.drop_of_length_le (List.length_take_le _ _)
  constructor
  · rw [List.take_append, List.take_append, List.take_take, Nat.min_self]
  · rw [List.drop_append, List.drop_append, h1, h2]; rfl

theorem src_fetchmany_refines (n : Option Nat) {s : Src} (hg : s.good) (hn : n ≠ some 0) :
    Prod.map id Src.abs (Src.fetchmany n s) = Plain.fetchmany n s.abs ∧ (Src.fetchmany n s).2.good := by
  refine hg.cases (fun hard => ?_) (fun st cur hst => ?_) (fun it soft => ?_) (fun soft => ?_)
    (fun p bb cs soft => ?_) (fun cs soft => ?_)
  · cases hard with
    | true => exact ⟨rfl, Src.good_closed _⟩
    | false =>
      cases n with
      | none => exact ⟨rfl, Src.good_closed _⟩
      | some k =>
        cases k with
        | zero => exact absurd rfl hn
        | succ m => exact ⟨rfl, Src.good_closed _⟩
  · cases st with
    | noCursor => exact absurd rfl hst
    | default =>
      cases n with
      | none =>
        cases cur with
        | nil => exact ⟨rfl, Src.good_closed _⟩
        | cons _ _ => exact ⟨rfl, Src.good_live _ nofun⟩
      | some k =>
        cases k with
        | zero => exact absurd rfl hn
        | succ m =>
          cases cur with
          | nil => exact ⟨rfl, Src.good_closed _⟩
          | cons c cs => exact ⟨rfl, Src.good_live _ nofun⟩
    | full buf =>
      cases n with
      | none =>
        rw [Plain.fetchmany_none_nod1 _ rfl]
        exact src_fetchall_refines (s := .cursor (.full buf) cur false false) (Src.good_live _ nofun)
      | some k =>
        cases k with
        | zero => exact absurd rfl hn
        | succ m =>
          cases buf with
          | nil => exact ⟨rfl, Src.good_closed _⟩
          | cons c cs => exact ⟨rfl, Src.good_live _ nofun⟩
    | buffered buf bs g mx =>
      cases n with
      | none =>
        rw [Plain.fetchmany_none_nod1 _ rfl]
        exact src_fetchall_refines (s := .cursor (.buffered buf bs g mx) cur false false)
          (Src.good_live _ nofun)
      | some k =>
        simp only [Src.fetchmany]
        by_cases hgt : k > buf.length
        · have hbt := buf_take buf cur k hgt
          simp only [hgt, if_true]
          by_cases hne : (cur.take (k - buf.length)).isEmpty = true
          · -- the cursor is exhausted: everything left is the buffer
            obtain rfl : cur = [] :=
              (List.take_eq_nil_iff.1 (List.isEmpty_iff.1 hne)).resolve_left (by omega)
            simp only [hne, if_true, cursorSoftClose_live]
            refine ⟨?_, Src.good_closed _⟩
            simp only [Src.abs, Plain.fetchmany, Prod.map, id, List.append_nil,
              List.drop_of_length_le (Nat.le_of_lt hgt), Bool.false_eq_true, if_false,
              Bool.false_and]
          · simp only [hne]
            refine ⟨?_, Src.good_live _ nofun⟩
            simp only [Src.abs, Plain.fetchmany, Prod.map, id, hbt.1, hbt.2, Bool.false_eq_true, if_false,
              Bool.false_and]
        · simp only [hgt, if_false]
          refine ⟨?_, Src.good_live _ nofun⟩
          simp only [Src.abs, Plain.fetchmany, Prod.map, id, Bool.false_eq_true, if_false, Bool.false_and,
            List.take_append_of_le_length (Nat.le_of_not_gt hgt),
            List.drop_append_of_le_length (Nat.le_of_not_gt hgt)]
  · cases n with
    | none => rw [Plain.fetchmany_none_nod1 _ rfl]; exact ⟨rfl, Src.good_iter_open _ _⟩
    | some k => exact ⟨rfl, Src.good_iter_open _ _⟩
  · exact ⟨rfl, Src.good_iter_nil _ _⟩
  · cases n with
    | none => rw [Plain.fetchmany_none_nod1 _ rfl]; exact ⟨rfl, Src.good_chunked_open _ _ _ _⟩
    | some k =>
      obtain ⟨p', b', e, h⟩ := chTake_spec cs k p bb
      simp only [Src.fetchmany, e, Bool.false_eq_true, if_false]
      exact ⟨congrArg (fun l => (Except.ok ((p ++ bb).take k), Plain.mk l false false)) h, Src.good_chunked_open _ _ _ _⟩
  · exact ⟨rfl, Src.good_chunked_nil _ _ _⟩

theorem src_refines : Refines Src.ops Src.good Src.abs where
  fetchone b _ hg hc := ⟨(src_fetchone_spec b hg).1 hc, (src_fetchone_spec b hg).2.1⟩
  rawNext _ := src_rawNext_refines
  fetchmany n _ := src_fetchmany_refines n
  fetchall _ := src_fetchall_refines
  drainRaw _ := src_drainRaw_refines
  softClose b _ := src_softClose_refines b
  yieldPer n _ := src_yieldPer_refines n
  size s _ := src_size s
  isHard := src_isHard
  ofList _ := ⟨rfl, Src.good_iter_open _ _⟩
  corner_some b _ r hg := (src_fetchone_spec b hg).2.2 r

section Generic
variable {σ : Type} {O : SrcOps σ} {good : σ → Prop} {abs : σ → Plain}

def Sim2 (good : σ → Prop) (abs : σ → Plain) {α : Type} (x : α × σ) (y : α × Plain) : Prop :=
  ∃ a s, x = (a, s) ∧ y = (a, abs s) ∧ good s

def Sim3 (good : σ → Prop) (abs : σ → Plain) {α β : Type} (x : α × β × σ) (y : α × β × Plain) : Prop :=
  ∃ a b s, x = (a, b, s) ∧ y = (a, b, abs s) ∧ good s

theorem Sim2.mk {α : Type} {a : α} {s : σ} (hg : good s) : Sim2 good abs (a, s) (a, abs s) :=
  ⟨a, s, rfl, rfl, hg⟩

theorem Sim3.mk {α β : Type} {a : α} {b : β} {s : σ} (hg : good s) :
    Sim3 good abs (a, b, s) (a, b, abs s) :=
  ⟨a, b, s, rfl, rfl, hg⟩

theorem Sim2.of_map {α : Type} {x : α × σ} {y : α × Plain} (h : Prod.map id abs x = y ∧ good x.2) :
    Sim2 good abs x y :=
  ⟨x.1, x.2, rfl, h.1.symm, h.2⟩

theorem rel_ite {α β : Type} {r : α → β → Prop} {c : Prop} [Decidable c] {x x' : α} {y y' : β}
    (h : c → r x y) (h' : ¬c → r x' y') : r (if c then x else x') (if c then y else y') := by
  by_cases hc : c
  · rw [if_pos hc, if_pos hc]; exact h hc
  · rw [if_neg hc, if_neg hc]; exact h' hc

theorem Refines.fetchone' (R : Refines O good abs) (b : Bool) {s : σ} (hg : good s)
    (hc : b = true → O.corner s = false) :
    Sim2 good abs (O.fetchone b s) (Plain.ops.fetchone b (abs s)) :=
  .of_map (R.fetchone b s hg hc)

theorem Refines.fetchmany' (R : Refines O good abs) (n : Option Nat) {s : σ} (hg : good s)
    (hn : n ≠ some 0) : Sim2 good abs (O.fetchmany n s) (Plain.ops.fetchmany n (abs s)) :=
  .of_map (R.fetchmany n s hg hn)

theorem Refines.fetchall' (R : Refines O good abs) {s : σ} (hg : good s) :
    Sim2 good abs (O.fetchall s) (Plain.ops.fetchall (abs s)) :=
  .of_map (R.fetchall s hg)

theorem Refines.rawNext_or_fetchone (R : Refines O good abs) (raw : Bool) {s : σ} (hg : good s) :
    Sim2 good abs (if raw then O.rawNext s else O.fetchone false s)
      (if raw then Plain.ops.rawNext (abs s) else Plain.ops.fetchone false (abs s)) := by
  cases raw
  · exact R.fetchone' false hg nofun
  · exact .of_map (R.rawNext s hg)

theorem Refines.plain_size (R : Refines O good abs) {s : σ} (hg : good s) :
    Plain.ops.size (abs s) = O.size s :=
  (R.size s hg).symm

theorem Refines.drainRaw_fst (R : Refines O good abs) {s : σ} (hg : good s) :
    (Plain.ops.drainRaw (abs s)).1 = (O.drainRaw s).1 :=
  congrArg Prod.fst (R.drainRaw s hg).1.symm

theorem oneLoop_refines (R : Refines O good abs) (raw sss : Bool) (h : Handle) (u : UStrat) :
    ∀ (fuel : Nat) (seen : List Key) {s : σ}, good s →
      Sim3 good abs (oneLoop O raw sss h u fuel seen s) (oneLoop Plain.ops raw sss h u fuel seen (abs s))
  | 0, _, _, hg => .mk hg
  | f + 1, seen, s, hg => by
    obtain ⟨o, s1, e, e', hg1⟩ := R.rawNext_or_fetchone raw hg
    rw [oneLoop, oneLoop, e, e']
    obtain _ | _ | rw := o
    · exact .mk hg1
    · exact .mk hg1
    · exact rel_ite (fun _ => .mk hg1) fun _ =>
        rel_ite (fun _ => oneLoop_refines R raw sss h u f seen hg1) fun _ => .mk hg1

theorem onerow_refines (R : Refines O good abs) (raw sss : Bool) (h : Handle) {s : σ} (hg : good s) :
    Sim3 good abs (onerow O raw sss h s) (onerow Plain.ops raw sss h (abs s)) := by
  unfold onerow
  split
  · obtain ⟨o, s1, e, e', hg1⟩ := R.rawNext_or_fetchone raw hg
    rw [e, e']
    obtain _ | _ | rw := o <;> exact .mk hg1
  · rename_i u _
    obtain ⟨o, seen', s1, e, e', hg1⟩ := oneLoop_refines R raw sss h u.strat (O.size s + 1) u.seen hg
    rw [R.plain_size hg, e, e']
    obtain _ | _ | it := o <;> exact .mk hg1

theorem manyLoop_refines (R : Refines O good abs) (sss : Bool) (h : Handle) (u : UStrat) (num : Nat) :
    ∀ (fuel : Nat) (collect : List Item) (seen : List Key) {s : σ}, good s →
      Sim3 good abs (manyLoop O sss h u num fuel collect seen s)
        (manyLoop Plain.ops sss h u num fuel collect seen (abs s))
  | 0, _, _, _, hg => .mk hg
  | f + 1, collect, seen, s, hg => by
    rw [manyLoop, manyLoop]
    refine rel_ite (fun _ => .mk hg) fun hreq => ?_
    obtain ⟨o, s1, e, e', hg1⟩ := R.fetchmany' (some (num - collect.length)) hg
      (fun h => hreq (Option.some.inj h))
    rw [e, e']
    obtain _ | _ | ⟨r, rs⟩ := o
    · exact .mk hg1
    · exact .mk hg1
    · dsimp only
      split
      · exact .mk hg1
      · exact manyLoop_refines R sss h u num f _ _ hg1

theorem manyFin_refines {sss : Bool} {h : Handle} {u : UQ} {x : Except Err (List Item) × List Key × σ}
    {y : Except Err (List Item) × List Key × Plain} (hxy : Sim3 good abs x y) :
    Sim3 good abs (manyFin sss h u x) (manyFin sss h u y) := by
  obtain ⟨o, seen', s1, rfl, rfl, hg1⟩ := hxy
  cases o <;> exact .mk hg1

theorem manyrows_refines (R : Refines O good abs) (sss : Bool) (yp : Option Nat) (h : Handle)
    (num : Option Nat) {s : σ} (hg : good s) (hn : effSize num yp ≠ some 0) :
    Sim3 good abs (manyrows O sss yp h num s) (manyrows Plain.ops sss yp h num (abs s)) := by
  unfold manyrows
  split
  · obtain ⟨o, s1, e, e', hg1⟩ := R.fetchmany' _ hg hn
    rw [e, e']
    cases o <;> exact .mk hg1
  · rename_i u _
    rw [R.plain_size hg]
    split
    · exact manyFin_refines (manyLoop_refines R sss h u.strat _ _ _ _ hg)
    · split
      · exact manyFin_refines (manyLoop_refines R sss h u.strat _ _ _ _ hg)
      · obtain ⟨o, s1, e, e', hg1⟩ := R.fetchmany' none hg nofun
        rw [e, e']
        cases o with
        | error e => exact .mk hg1
        | ok rows =>
          dsimp only
          split
          · exact .mk hg1
          · rw [R.plain_size hg1]
            exact manyFin_refines (manyLoop_refines R sss h u.strat _ _ _ _ hg1)

theorem allrows_refines (R : Refines O good abs) (sss : Bool) (h : Handle) {s : σ} (hg : good s) :
    Sim3 good abs (allrows O sss h s) (allrows Plain.ops sss h (abs s)) := by
  unfold allrows
  obtain ⟨o, s1, e, e', hg1⟩ := R.fetchall' hg
  rw [e, e']
  cases o with
  | error e => exact .mk hg1
  | ok rows =>
    dsimp only
    split
    · exact .mk hg1
    · split <;> exact .mk hg1

theorem partLoop_refines (R : Refines O good abs) (sss : Bool) (yp num : Option Nat)
    (hn : effSize num yp ≠ some 0) :
    ∀ (k : Nat) (h : Handle) {s : σ}, good s →
      Sim3 good abs (partLoop O sss yp num k h s) (partLoop Plain.ops sss yp num k h (abs s))
  | 0, _, _, hg => .mk hg
  | k + 1, h, s, hg => by
    obtain ⟨o, h1, s1, e, e', hg1⟩ := manyrows_refines R sss yp h num hg hn
    rw [partLoop, partLoop, e, e']
    obtain _ | _ | ⟨x, xs⟩ := o
    · exact .mk hg1
    · exact .mk hg1
    · obtain ⟨o2, h2, s2, e2, e2', hg2⟩ := partLoop_refines R sss yp num hn k h1 hg1
      dsimp only
      rw [e2, e2']
      cases o2 <;> exact .mk hg2

theorem iterLoop_refines (R : Refines O good abs) (sss : Bool) :
    ∀ (k : Nat) (h : Handle) {s : σ}, good s →
      Sim3 good abs (iterLoop O sss k h s) (iterLoop Plain.ops sss k h (abs s))
  | 0, _, _, hg => .mk hg
  | k + 1, h, s, hg => by
    obtain ⟨o, h1, s1, e, e', hg1⟩ := onerow_refines R true sss h hg
    rw [iterLoop, iterLoop, e, e']
    obtain _ | _ | it := o
    · exact .mk hg1
    · exact .mk hg1
    · obtain ⟨o2, h2, s2, e2, e2', hg2⟩ := iterLoop_refines R sss k h1 hg1
      dsimp only
      rw [e2, e2']
      cases o2 <;> exact .mk hg2

theorem Refines.fetchoneHard (R : Refines O good abs) {s : σ} (hg : good s) (hc : O.corner s = false) :
    ∃ o s1, O.fetchone true s = (o, s1) ∧ Plain.ops.fetchone true (abs s) = (o, abs s1) ∧ good s1 ∧
      (∀ r, o = .ok (some r) → O.corner s1 = false) := by
  obtain ⟨o, s1, e, e', hg1⟩ := R.fetchone' true hg (fun _ => hc)
  exact ⟨o, s1, e, e', hg1, fun r ho => by simpa only [e] using R.corner_some true s r hg (by rw [e]; exact ho)⟩

theorem skipEq_refines (R : Refines O good abs) (sss : Bool) (h : Handle) (u : UStrat) (k0 : Key) :
    ∀ (fuel : Nat) {s : σ}, good s → O.corner s = false →
      Sim2 good abs (skipEq O sss h u k0 fuel s) (skipEq Plain.ops sss h u k0 fuel (abs s))
  | 0, _, hg, _ => .mk hg
  | f + 1, s, hg, hc => by
    obtain ⟨o, s1, e, e', hg1, hc1⟩ := R.fetchoneHard hg hc
    rw [skipEq, skipEq, e, e']
    obtain _ | _ | rw := o
    · exact .mk hg1
    · exact .mk hg1
    · exact rel_ite (fun _ => skipEq_refines R sss h u k0 f hg1 (hc1 rw rfl)) fun _ => .mk hg1

theorem onlyOne_refines (R : Refines O good abs) (sss : Bool) (h : Handle) (second rnone scalar : Bool)
    {s : σ} (hg : good s) (hc : O.corner s = false) :
    Sim2 good abs (onlyOne O sss h second rnone scalar s)
      (onlyOne Plain.ops sss h second rnone scalar (abs s)) := by
  have close : ∀ {s2 : σ} (out : Out), good s2 →
      Sim2 good abs (out, O.softClose true s2) (out, Plain.ops.softClose true (abs s2)) :=
    fun out h2 => .of_map ⟨congrArg (Prod.mk out) (R.softClose true _ h2).1, (R.softClose true _ h2).2⟩
  unfold onlyOne
  obtain ⟨o, s1, e, e', hg1, hc1⟩ := R.fetchoneHard hg hc
  rw [e, e']
  obtain _ | _ | rw := o
  · exact .mk hg1
  · exact .mk hg1
  · dsimp only
    generalize (if (scalar && sss) = true then ({ h with view := View.scalars } : Handle) else h) = h1
    refine rel_ite (fun _ => ?_) fun _ => rel_ite (fun _ => close _ hg1) fun _ => close _ hg1
    split
    · rename_i u _
      obtain ⟨o2, s2, e2, e2', hg2⟩ := skipEq_refines R sss h1 u.strat (keyOf u.strat (mkItem sss h1 rw))
        (O.size s1 + 1) hg1 (hc1 rw rfl)
      rw [R.plain_size hg1, e2, e2']
      obtain _ | _ | _ := o2
      · exact .mk hg2
      · exact rel_ite (fun _ => .mk hg2) fun _ => .mk hg2
      · exact close _ hg2
    · obtain ⟨o2, s2, e2, e2', hg2⟩ := R.fetchone' true hg1 (fun _ => hc1 rw rfl)
      rw [e2, e2']
      obtain _ | _ | _ := o2
      · exact .mk hg2
      · exact rel_ite (fun _ => .mk hg2) fun _ => .mk hg2
      · exact close _ hg2

def absSt (abs : σ → Plain) (st : St σ) : St Plain :=
  { src := abs st.src, sss := st.sss, width := st.width, yp := st.yp, r := st.r, v := st.v }

/-- sizes for which `fetchmany` is not driver-defined -/
def Op.sized : Op → Bool
  | .fetchmany _ n => n != some 0
  | .partitions _ n _ => n != some 0
  | .yieldPer _ n => n != 0
  | _ => true

theorem getH_absSt (st : St σ) (t : Tgt) : getH (absSt abs st) t = getH st t := by
  cases t <;> rfl

theorem setH_absSt (st : St σ) (t : Tgt) (h : Handle) (s : σ) :
    setH (absSt abs st) t h (abs s) = absSt abs (setH st t h s) := by
  cases t with
  | r => rfl
  | v => unfold setH absSt; cases st.v <;> rfl

theorem setH_src_yp (st : St σ) (t : Tgt) (h : Handle) (s : σ) :
    (setH st t h s).src = s ∧ (setH st t h s).yp = st.yp := by
  cases t with
  | r => exact ⟨rfl, rfl⟩
  | v => unfold setH; cases st.v <;> exact ⟨rfl, rfl⟩

theorem absSt_src (st : St σ) : (absSt abs st).src = abs st.src := rfl
theorem absSt_sss (st : St σ) : (absSt abs st).sss = st.sss := rfl
theorem absSt_yp (st : St σ) : (absSt abs st).yp = st.yp := rfl
theorem absSt_width (st : St σ) : (absSt abs st).width = st.width := rfl
theorem absSt_r (st : St σ) : (absSt abs st).r = st.r := rfl

theorem step_refines (R : Refines O good abs) (st : St σ) (op : Op) (hg : good st.src)
    (hyp : st.yp ≠ some 0) (hs : op.sized = true) (hz : (step O st op).1.2 = false) :
    step Plain.ops (absSt abs st) op = ((step O st op).1, absSt abs (step O st op).2) ∧
    good (step O st op).2.src ∧ (step O st op).2.yp ≠ some 0 := by
  have fin : ∀ (t : Tgt) (out : Out × Bool) (h1 : Handle) {s1 : σ}, good s1 →
      (out, setH (absSt abs st) t h1 (abs s1)) = (out, absSt abs (setH st t h1 s1)) ∧
      good (setH st t h1 s1).src ∧ (setH st t h1 s1).yp ≠ some 0 :=
    fun t out h1 s1 hg1 => ⟨congrArg (Prod.mk out) (setH_absSt st t h1 s1), (setH_src_yp st t h1 s1).1.symm ▸ hg1,
      (setH_src_yp st t h1 s1).2.symm ▸ hyp⟩
  have heff : ∀ n, n ≠ some 0 → effSize n st.yp ≠ some 0
    | none, _ => hyp
    | some _, h => h
  have only : ∀ {x : Out × σ} {y : Out × Plain}, Sim2 good abs x y → O.corner st.src = false →
      ((y.1, false), ({ absSt abs st with src := y.2 } : St Plain)) =
          ((x.1, O.corner st.src), absSt abs { st with src := x.2 }) ∧
        good x.2 ∧ st.yp ≠ some 0 :=
    fun ⟨o, s1, e, e', hg1⟩ hc => by
      subst e e'
      rw [hc]
      exact ⟨rfl, hg1, hyp⟩
  cases op with
  | unique t u => exact fin t _ _ hg
  | columns t idxs =>
    dsimp only [step]
    rw [absSt_src, absSt_sss, absSt_width, getH_absSt]
    by_cases hc : (st.sss && idxs.length == 1) = true
    · rw [if_pos hc, if_pos hc]; exact ⟨rfl, hg, hyp⟩
    · rw [if_neg hc, if_neg hc]
      cases reduceCols st.width (getH st t).cols idxs with
      | none => exact ⟨rfl, hg, hyp⟩
      | some c => exact fin t _ _ hg
  | yieldPer t n =>
    obtain ⟨ha, hg'⟩ := R.yieldPer n st.src hg hz
    refine ⟨?_, hg', fun h => bne_iff_ne.1 hs (Option.some.inj h)⟩
    dsimp only [step, absSt_src]
    rw [← ha, show O.ypLossy st.src = false from hz]
    rfl
  | scalars i =>
    dsimp only [step]
    rw [absSt_sss, absSt_width, absSt_r]
    by_cases hc : st.sss = true
    · rw [if_pos hc, if_pos hc]; exact ⟨rfl, hg, hyp⟩
    · rw [if_neg hc, if_neg hc]
      cases reduceCols st.width st.r.cols [i] <;> exact ⟨rfl, hg, hyp⟩
  | mappings => exact ⟨rfl, hg, hyp⟩
  | fetchone t =>
    obtain ⟨o, h1, s1, e, e', hg1⟩ := onerow_refines R false st.sss (getH st t) hg
    dsimp only [step, absSt_src, absSt_sss]
    rw [getH_absSt, e, e']
    exact fin t _ h1 hg1
  | next t =>
    obtain ⟨o, h1, s1, e, e', hg1⟩ := onerow_refines R false st.sss (getH st t) hg
    dsimp only [step, absSt_src, absSt_sss]
    rw [getH_absSt, e, e']
    obtain _ | _ | _ := o <;> exact fin t _ h1 hg1
  | fetchmany t n =>
    obtain ⟨o, h1, s1, e, e', hg1⟩ := manyrows_refines R st.sss st.yp (getH st t) n hg (heff n (bne_iff_ne.1 hs))
    dsimp only [step, absSt_src, absSt_sss, absSt_yp]
    rw [getH_absSt, e, e']
    cases o <;> exact fin t _ h1 hg1
  | fetchall t =>
    obtain ⟨o, h1, s1, e, e', hg1⟩ := allrows_refines R st.sss (getH st t) hg
    dsimp only [step, absSt_src, absSt_sss]
    rw [getH_absSt, e, e']
    exact fin t _ h1 hg1
  | iter t k =>
    obtain ⟨o, h1, s1, e, e', hg1⟩ := iterLoop_refines R st.sss k (getH st t) hg
    dsimp only [step, absSt_src, absSt_sss]
    rw [getH_absSt, e, e']
    cases o <;> exact fin t _ h1 hg1
  | partitions t n k =>
    obtain ⟨o, h1, s1, e, e', hg1⟩ :=
      partLoop_refines R st.sss st.yp n (heff n (bne_iff_ne.1 hs)) k (getH st t) hg
    dsimp only [step, absSt_src, absSt_sss, absSt_yp]
    rw [getH_absSt, e, e']
    cases o <;> exact fin t _ h1 hg1
  | first t =>
    dsimp only [step]
    rw [getH_absSt]
    exact only (onlyOne_refines R st.sss (getH st t) false false false hg hz) hz
  | one t =>
    dsimp only [step]
    rw [getH_absSt]
    exact only (onlyOne_refines R st.sss (getH st t) true true false hg hz) hz
  | oneOrNone t =>
    dsimp only [step]
    rw [getH_absSt]
    exact only (onlyOne_refines R st.sss (getH st t) true false false hg hz) hz
  | scalar =>
    dsimp only [step]
    exact only (onlyOne_refines R st.sss st.r false false true hg hz) hz
  | scalarOne =>
    dsimp only [step]
    exact only (onlyOne_refines R st.sss st.r true true true hg hz) hz
  | scalarOneOrNone =>
    dsimp only [step]
    exact only (onlyOne_refines R st.sss st.r true false true hg hz) hz
  | close t =>
    exact ⟨congrArg (fun p => ((Out.unit, false), ({ absSt abs st with src := p } : St Plain)))
      (R.softClose true st.src hg).1.symm, (R.softClose true st.src hg).2, hyp⟩
  | closed t => exact ⟨congrArg (fun b => ((Out.bool b, false), absSt abs st)) (R.isHard st.src).symm, hg, hyp⟩
  | freeze =>
    dsimp only [step]
    rw [absSt_src, absSt_sss, absSt_width, absSt_r]
    by_cases hc : st.sss = true
    · rw [if_pos hc, if_pos hc]
      rw [R.drainRaw_fst hg]
      exact ⟨congrArg (fun p => ((Out.unit, false),
          ({ absSt abs st with src := p, yp := none, r := Handle.init, v := none } : St Plain)))
        (R.ofList _).1.symm, (R.ofList _).2, nofun⟩
    · rw [if_neg hc, if_neg hc]
      obtain ⟨o, h1, s1, e, e', hg1⟩ := allrows_refines R false st.r hg
      rw [e, e']
      cases o with
      | items l =>
        exact ⟨congrArg (fun p => ((Out.unit, false),
            ({ src := p, sss := false, width := _, yp := none, r := Handle.init, v := none } : St Plain)))
          (R.ofList _).1.symm, (R.ofList _).2, nofun⟩
      | _ => exact ⟨rfl, hg1, hyp⟩

end Generic
end SaVerif.Result
