import SaVerif.Model.Defaults
/-! What the property expects of one row (`expectCellU` for UPDATE, `expectCell` for INSERT,
`expectInc`), the proof that one parameter set taken through `construct`, `fireFrom` and the store
step meets it (`row_update_pos`), and the loop over the parameter sets (`runRows_update_spec`). -/
namespace SaVerif.Defaults

-- for `decide +kernel` on the `Except` results of the executions
deriving instance DecidableEq for Except

/-- what the property expects in a cell: the supplied value if the column is one of the
    statement's keys, otherwise the default (`n` earlier invocations, context read `x`) -/
def expectCell (k : Kind) (key : Bool) (pv : Option Val) (n : Nat) (x : Int) : Val :=
  if key then pv.getD none else defaultValue k n x

/-- how many times the column's Python callable must run for one row -/
def expectInc (k : Kind) (key : Bool) : Nat :=
  if key then 0 else
  match k with
  | .callable _ | .context _ _ => 1
  | _ => 0

/-- UPDATE (and INSERT seen as an update of the virtual row of server defaults): a column
    the statement leaves out keeps the database's own value `o` -/
def expectCellU (k : Kind) (key : Bool) (pv : Option Val) (n : Nat) (x : Int) (o : Val) : Val :=
  if key then pv.getD none else
  match k with
  | .none | .server _ => o
  | _ => defaultValue k n x

theorem getD_tail {α} (l : List α) (j : Nat) (d : α) : l.tail.getD j d = l.getD (j + 1) d := by
  cases l <;> rfl

theorem getD_zipWith {α β γ} {f : α → β → γ} {l : List α} {l' : List β} {i : Nat}
    (hi : i < l.length) (hi' : i < l'.length) (a : α) (b : β) (d : γ) :
    (List.zipWith f l l').getD i d = f (l.getD i a) (l'.getD i b) := by
  simp only [List.getD_eq_getElem?_getD, List.getElem?_zipWith, List.getElem?_eq_getElem hi,
    List.getElem?_eq_getElem hi', Option.getD_some]

theorem getD_zeros {α} (l : List α) (c : Nat) : (l.map (fun _ => 0)).getD c 0 = 0 := by
  rw [List.getD_eq_getElem?_getD, List.getElem?_map]
  cases l[c]? <;> rfl

theorem fireFrom_length (kz : List (Kind × Disp)) (done cur counts)
    (h1 : cur.length = kz.length) (h2 : counts.length = kz.length) :
    (fireFrom kz done cur counts).1.length = kz.length ∧
      (fireFrom kz done cur counts).2.length = kz.length := by
  induction kz generalizing done cur counts with
  | nil => exact ⟨h1, h2⟩
  | cons kd rest ih =>
    obtain ⟨a, b⟩ := ih (done ++ [_]) cur.tail counts.tail (by rw [List.length_tail, h1]; rfl)
      (by rw [List.length_tail, h2]; rfl)
    exact ⟨congrArg (· + 1) a, congrArg (· + 1) b⟩

theorem fireFrom_getElem? (kz : List (Kind × Disp)) (done cur counts) (c : Nat)
    (hc : c < kz.length) :
    ∃ live st, (fireFrom kz done cur counts).1[c]? = some st.1 ∧
      (fireFrom kz done cur counts).2[c]? = some st.2 ∧
      st = if kz[c].2 = .prefetch then fireOne kz[c].1 live (cur.getD c none) (counts.getD c 0)
        else (cur.getD c none, counts.getD c 0) := by
  induction kz generalizing done cur counts c with
  | nil => cases hc
  | cons kd rest ih =>
    cases c with
    | zero =>
      refine ⟨done ++ cur, _, rfl, rfl, ?_⟩
      simp only [List.getElem_cons_zero, beq_iff_eq, List.headD_eq_getD]
    | succ j =>
      rw [← getD_tail, ← getD_tail]
      exact ih _ _ _ j (Nat.lt_of_succ_lt_succ hc)

theorem storeUpdate_getElem? (kz : List (Kind × Disp)) (cur old) (c : Nat) (hc : c < kz.length) :
    (storeUpdate kz cur old)[c]? = some (match kz[c].2 with
      | .bound | .prefetch => (cur.getD c none).getD none
      | .inline => (match kz[c].1 with | .sqlexpr v => some v | _ => old.getD c none)
      | .omitted => old.getD c none) := by
  induction kz generalizing cur old c with
  | nil => cases hc
  | cons kd rest ih =>
    obtain ⟨k, d⟩ := kd
    cases c with
    | zero => cases cur <;> cases old <;> rfl
    | succ j =>
      rw [← getD_tail, ← getD_tail]
      exact ih _ _ j (Nat.lt_of_succ_lt_succ hc)

theorem construct_ok (ds : List Disp) (p : Params)
    (h : ∀ c : Nat, ds[c]? = some Disp.bound → ∃ v : Val, p[c]? = some (some v)) :
    ∃ cur, construct ds p = .ok cur ∧ cur.length = ds.length ∧
      ∀ c : Nat, ds[c]? = some Disp.bound → cur.getD c none = p.getD c none := by
  induction ds generalizing p with
  | nil => exact ⟨[], rfl, rfl, fun c hc => by cases hc⟩
  | cons d ds ih =>
    obtain ⟨cur, hcons, hlen, hcur⟩ := ih p.tail fun c hc => by
      rw [List.getElem?_tail]
      exact h (c + 1) hc
    have hcur' : ∀ x c, (d :: ds)[c]? = some Disp.bound → (d = .bound → x = p.headD none) →
        (x :: cur).getD c none = p.getD c none := by
      intro x c hc hx
      cases c with
      | zero => rw [List.getD_cons_zero, hx (Option.some.inj hc), List.headD_eq_getD]
      | succ j => rw [List.getD_cons_succ, hcur j hc, getD_tail]
    unfold construct
    rw [hcons]
    cases d with
    | bound =>
      obtain ⟨v, hv⟩ := h 0 rfl
      have hv' : p.headD none = some v := by
        rw [List.headD_eq_getD, List.getD_eq_getElem?_getD, hv]; rfl
      rw [hv']
      exact ⟨_, rfl, congrArg (· + 1) hlen, fun c hc => hcur' _ c hc fun _ => hv'.symm⟩
    | prefetch | inline | omitted =>
      exact ⟨_, rfl, congrArg (· + 1) hlen, fun c hc => hcur' _ c hc fun hd => by cases hd⟩

theorem dispOf_eq_bound {k : Kind} {key : Bool} : dispOf k key = .bound ↔ key = true := by
  cases key <;> cases k <;> simp [dispOf]

theorem column_spec (k : Kind) (key : Bool) (pv here : Option Val) (n : Nat)
    (live : List (Option Val)) (hb : key = true → here = pv) :
    ∃ x,
      (∀ o, (match dispOf k key with
        | .bound | .prefetch =>
          (if dispOf k key = .prefetch then fireOne k live here n else (here, n)).1.getD none
        | .inline => (match k with | .sqlexpr v => some v | _ => o)
        | .omitted => o) = expectCellU k key pv n x o) ∧
      (if dispOf k key = .prefetch then fireOne k live here n else (here, n)).2 =
        n + expectInc k key := by
  cases key with
  | true => exact ⟨0, fun _ => congrArg (·.getD none) (hb rfl), rfl⟩
  | false =>
    refine ⟨readCur live (match k with | .context src _ => src | _ => 0), ?_⟩
    cases k <;> exact ⟨fun _ => rfl, rfl⟩

theorem row_update_pos (kinds : List Kind) (keys : List Bool) (p : Params) (counts : List Nat)
    (done : List (Option Val)) (hk : keys.length = kinds.length)
    (hcn : counts.length = kinds.length)
    (hpres : ∀ c : Nat, keys[c]? = some true → ∃ v : Val, p[c]? = some (some v)) :
    ∃ cur, construct (disps kinds keys) p = .ok cur ∧
      let kz := kinds.zip (disps kinds keys)
      let r := fireFrom kz done cur counts
      r.2.length = kinds.length ∧ r.1.length = kinds.length ∧
      ∀ c (hc : c < kinds.length), ∃ x,
        (∀ old, (storeUpdate kz r.1 old)[c]? =
          some (expectCellU kinds[c] (keys.getD c false) (p.getD c none) (counts.getD c 0) x
            (old.getD c none))) ∧
        r.2[c]? = some (counts.getD c 0 + expectInc kinds[c] (keys.getD c false)) := by
  have hdl : (disps kinds keys).length = kinds.length := by
    rw [disps, List.length_zipWith, hk, Nat.min_self]
  have hkz : (kinds.zip (disps kinds keys)).length = kinds.length := by
    rw [List.length_zip, hdl, Nat.min_self]
  obtain ⟨cur, hcons, hlen, hcur⟩ := construct_ok (disps kinds keys) p fun c h => by
    obtain ⟨k, key, _, hkey, hb⟩ := List.getElem?_zipWith_eq_some.1 h
    exact hpres c (dispOf_eq_bound.1 hb ▸ hkey)
  obtain ⟨hl1, hl2⟩ := fireFrom_length (kinds.zip (disps kinds keys)) done cur counts
    (hlen.trans (hdl.trans hkz.symm)) (hcn.trans hkz.symm)
  refine ⟨cur, hcons, hl2.trans hkz, hl1.trans hkz, fun c hc => ?_⟩
  have hc' : c < (kinds.zip (disps kinds keys)).length := hkz ▸ hc
  have hd : (disps kinds keys)[c]'(hdl ▸ hc) = dispOf kinds[c] (keys.getD c false) := by
    simp only [disps, List.getElem_zipWith, List.getD_eq_getElem?_getD,
      List.getElem?_eq_getElem (hk ▸ hc), Option.getD_some]
  obtain ⟨live, st, h1, h2, hst⟩ := fireFrom_getElem? _ done cur counts c hc'
  obtain ⟨x, hx, hn⟩ := column_spec kinds[c] (keys.getD c false) (p.getD c none)
    (cur.getD c none) (counts.getD c 0) live fun h =>
      hcur c (by rw [List.getElem?_eq_getElem (hdl ▸ hc), hd, dispOf_eq_bound.2 h])
  rw [h2, hst, List.getElem_zip, hd]
  refine ⟨x, fun old => ?_, congrArg some hn⟩
  rw [storeUpdate_getElem? _ _ _ c hc', List.getD_eq_getElem?_getD, h1, hst, List.getElem_zip, hd]
  exact congrArg some (hx _)

theorem keysOf_getD (p : Params) (c : Nat) : (keysOf p).getD c false = (p.getD c none).isSome := by
  rw [keysOf, List.getD_eq_getElem?_getD, List.getD_eq_getElem?_getD, List.getElem?_map]
  cases p[c]? <;> rfl

/-- rows of one execution, the invariant of the loop over `compiled_parameters`; what the
    database stores is read off afterwards, for whatever old row the UPDATE meets -/
theorem runRows_update_spec (kinds : List Kind) (keys : List Bool) (hk : keys.length = kinds.length) :
    ∀ (ps : List Params) (counts : List Nat),
      counts.length = kinds.length → (∀ p ∈ ps, keysOf p = keys) →
      ∃ curs counts', runRows kinds (disps kinds keys) counts ps = .ok (curs, counts') ∧
        curs.length = ps.length ∧ counts'.length = kinds.length ∧
        (∀ c (_ : c < kinds.length),
          counts'.getD c 0 = counts.getD c 0 + ps.length * expectInc kinds[c] (keys.getD c false)) ∧
        (∀ i (_ : i < ps.length) c (_ : c < kinds.length), ∃ x, ∀ old,
          (storeUpdate (kinds.zip (disps kinds keys)) (curs.getD i []) old)[c]? =
            some (expectCellU kinds[c] (keys.getD c false) ((ps.getD i []).getD c none)
              (counts.getD c 0 + i * expectInc kinds[c] (keys.getD c false)) x
              (old.getD c none))) := by
  intro ps
  induction ps with
  | nil =>
    intro counts hc _
    exact ⟨[], counts, rfl, rfl, hc, fun c _ => by rw [List.length_nil, Nat.zero_mul, Nat.add_zero],
      fun i hi => absurd hi (Nat.not_lt_zero i)⟩
  | cons p ps ih =>
    intro counts hc hps
    have hpres : ∀ (c : Nat), keys[c]? = some true → ∃ v : Val, p[c]? = some (some v) := by
      intro c h
      rw [← hps p List.mem_cons_self, keysOf, List.getElem?_map] at h
      match hpc : p[c]?, h with
      | some (some v), _ => exact ⟨v, rfl⟩
    obtain ⟨cur, hcons, hl2, _, hall⟩ := row_update_pos kinds keys p counts [] hk hc hpres
    obtain ⟨curs, counts', hrun, hlen, hcl, hcnt, hrows⟩ :=
      ih (fireFrom (kinds.zip (disps kinds keys)) [] cur counts).2 hl2
        fun q hq => hps q (List.mem_cons_of_mem _ hq)
    have hfired : ∀ c (hcc : c < kinds.length),
        (fireFrom (kinds.zip (disps kinds keys)) [] cur counts).2.getD c 0
          = counts.getD c 0 + expectInc kinds[c] (keys.getD c false) := fun c hcc => by
      obtain ⟨_, _, h2⟩ := hall c hcc
      rw [List.getD_eq_getElem?_getD, h2]; rfl
    refine ⟨(fireFrom (kinds.zip (disps kinds keys)) [] cur counts).1 :: curs, counts', ?_,
      congrArg (· + 1) hlen, hcl, fun c hcc => ?_, fun i hi c hcc => ?_⟩
    · simp only [runRows, rowParams, hcons, hrun]
    · rw [hcnt c hcc, hfired c hcc, List.length_cons, Nat.succ_mul, Nat.add_assoc,
        Nat.add_comm (expectInc _ _)]
    · cases i with
      | zero =>
        obtain ⟨x, h1, _⟩ := hall c hcc
        exact ⟨x, by rw [Nat.zero_mul, Nat.add_zero]; exact h1⟩
      | succ j =>
        obtain ⟨x, h1⟩ := hrows j (Nat.lt_of_succ_lt_succ hi) c hcc
        refine ⟨x, fun old => ?_⟩
        rw [List.getD_cons_succ, List.getD_cons_succ, h1, hfired c hcc,
          Nat.succ_mul, Nat.add_assoc, Nat.add_comm (expectInc _ _)]

/-- what the database stores in a column an INSERT leaves out -/
def serverCell : Kind → Val
  | .server v => some v
  | _ => none

/-- INSERT is the update of the virtual row holding the server defaults -/
def serverRow (kinds : List Kind) : List Val :=
  kinds.map serverCell

/-- (`inline` is the disposition of `sqlexpr` columns only, so `storeInsert`'s other inline
    branch is never taken) -/
theorem storeInsert_eq_storeUpdate (kinds : List Kind) (keys : List Bool) (cur : List (Option Val)) :
    storeInsert (kinds.zip (disps kinds keys)) cur =
      storeUpdate (kinds.zip (disps kinds keys)) cur (serverRow kinds) := by
  induction kinds generalizing keys cur with
  | nil => rfl
  | cons k ks ih =>
    cases keys with
    | nil => rfl
    | cons key keys =>
      refine congr (congrArg List.cons ?_) (ih keys cur.tail)
      -- a key column is `bound` in both stores; otherwise the kind decides the disposition
      cases key with
      | true => rfl
      | false => cases k <;> rfl

theorem expectCellU_server (k : Kind) (key : Bool) (pv : Option Val) (n : Nat) (x : Int) :
    expectCellU k key pv n x (serverCell k) = expectCell k key pv n x := by
  cases key <;> cases k <;> rfl

theorem serverRow_getD (kinds : List Kind) (c : Nat) (hc : c < kinds.length) :
    (serverRow kinds).getD c none = serverCell kinds[c] := by
  rw [serverRow, List.getD_eq_getElem?_getD, List.getElem?_map, List.getElem?_eq_getElem hc]
  rfl

theorem row_insert_pos :
    ∀ (kinds : List Kind) (keys : List Bool) (p : Params) (counts : List Nat)
      (done : List (Option Val)),
      keys.length = kinds.length → p.length = kinds.length → counts.length = kinds.length →
      (∀ (c : Nat), keys[c]? = some true → ∃ v : Val, p[c]? = some (some v)) →
      ∃ cur, construct (disps kinds keys) p = .ok cur ∧
        (fireFrom (kinds.zip (disps kinds keys)) done cur counts).2.length = kinds.length ∧
        (fireFrom (kinds.zip (disps kinds keys)) done cur counts).1.length = kinds.length ∧
        ∀ c (hc : c < kinds.length), ∃ x,
          (storeInsert (kinds.zip (disps kinds keys))
              (fireFrom (kinds.zip (disps kinds keys)) done cur counts).1)[c]? =
            some (expectCell (kinds[c]) (keys.getD c false) ((p.getD c none)) (counts.getD c 0) x) ∧
          (fireFrom (kinds.zip (disps kinds keys)) done cur counts).2[c]? =
            some (counts.getD c 0 + expectInc (kinds[c]) (keys.getD c false)) := by
  intro kinds keys p counts done hk _ hcn hpres
  obtain ⟨cur, hcons, hl2, hl1, hall⟩ := row_update_pos kinds keys p counts done hk hcn hpres
  refine ⟨cur, hcons, hl2, hl1, fun c hc => ?_⟩
  obtain ⟨x, h1, h2⟩ := hall c hc
  have h1 := h1 (serverRow kinds)
  rw [serverRow_getD kinds c hc, expectCellU_server] at h1
  exact ⟨x, storeInsert_eq_storeUpdate kinds keys _ ▸ h1, h2⟩

end SaVerif.Defaults
