import SaVerif.Model.Expr
/-!
Structural induction over the nested type `SaExpr` with its lists handled through membership;
`renderList` and `lowerList` as `List.map`; the unfolding equations of `render` that hold whatever the
operator class is (`.col`, `.grouping`, `.case_`, `.cast`, `.func`, `.subq`, and `in_op` / `not_in_op`),
for `rw` / `simp`.  Those by operator class (`render_coreBin`, `render_clist`, `render_unary`, …) are in
`Lemmas/ExprRender`.
-/
namespace SaVerif.Expr
open SaVerif.Expr.Gen
open SaVerif.Pratt (G Sym Atom AtomKind Bracket)

theorem SaExpr.induct {P : SaExpr → Prop}
    (col : ∀ n ty, P (.col n ty)) (bind : ∀ v ty, P (.bind v ty))
    (null : P .null) (true_ : P .true_) (false_ : P .false_)
    (binary : ∀ op l r n esc ty, P l → P r → P (.binary op l r n esc ty))
    (clist : ∀ op cs g b ty, (∀ c ∈ cs, P c) → P (.clist op cs g b ty))
    (unary : ∀ op e ty, P e → P (.unary op e ty))
    (asbool : ∀ e op n, P e → P (.asbool e op n))
    (grouping : ∀ e, P e → P (.grouping e))
    (case_ : ∀ v ws e ty, P v → (∀ c ∈ ws, P c) → P e → P (.case_ v ws e ty))
    (cast : ∀ e ty, P e → P (.cast e ty))
    (func : ∀ n args ty, (∀ c ∈ args, P c) → P (.func n args ty))
    (subq : ∀ n ty, P (.subq n ty)) (inlist : ∀ vs ty eo, P (.inlist vs ty eo))
    (inrows : ∀ rows n eo, P (.inrows rows n eo))
    (tuple_ : ∀ es, (∀ c ∈ es, P c) → P (.tuple_ es))
    (litcol : ∀ t ty, P (.litcol t ty)) (ilikeOperand : ∀ e, P e → P (.ilikeOperand e))
    (absent : P .absent) : ∀ e, P e :=
  SaExpr.rec (motive_1 := P) (motive_2 := fun es => ∀ c ∈ es, P c)
    col bind null true_ false_ binary clist unary asbool grouping case_ cast func subq inlist inrows
    tuple_ litcol ilikeOperand absent
    (List.forall_mem_nil _) (fun _ _ hh ht => List.forall_mem_cons.2 ⟨hh, ht⟩)

theorem renderList_eq_map (d : Dialect) (lb : Bool) (es : List SaExpr) :
    renderList d lb es = es.map (render d lb) := by
  induction es with
  | nil => rfl
  | cons e es ih => rw [renderList, ih, List.map_cons]

theorem lowerList_eq_map (es : List SaExpr) : lowerList es = es.map lower := by
  induction es with
  | nil => rfl
  | cons e es ih => rw [lowerList, ih, List.map_cons]

theorem render_in_op (d : Dialect) (lb : Bool) (l r : SaExpr) (n : Option Op) (esc : Option String)
    (ty : Ty) :
    render d lb (.binary .in_op l r n esc ty) =
      (match inG d lb (fun rhs => G.inf .in_ (opText .in_op) (render d lb l) rhs) r with
       | some g => g
       | none => G.inf .in_ (opText .in_op) (render d lb l) (render d lb r)) := by
  rfl

theorem render_not_in_op (d : Dialect) (lb : Bool) (l r : SaExpr) (n : Option Op)
    (esc : Option String) (ty : Ty) :
    render d lb (.binary .not_in_op l r n esc ty) =
      (match inG d lb (fun rhs => G.inf .notIn (opText .not_in_op) (render d lb l) rhs) r with
       | some g => G.br .paren g
       | none => G.br .paren (G.inf .notIn (opText .not_in_op) (render d lb l) (render d lb r))) := by
  rfl

theorem render_grouping (d : Dialect) (lb : Bool) (e : SaExpr) :
    render d lb (.grouping e) = G.br .paren (render d lb e) := by
  rfl

theorem render_col (d : Dialect) (lb : Bool) (n : String) (ty : Ty) :
    render d lb (.col n ty) = G.atom ⟨n, .col n⟩ := by
  rfl

theorem render_case (d : Dialect) (lb : Bool) (v : SaExpr) (ws : List SaExpr) (e : SaExpr) (ty : Ty) :
    render d lb (.case_ v ws e ty) =
      caseG (optG v (render d lb v)) (renderList d lb ws) (optG e (render d lb e)) := by
  rfl

theorem render_cast (d : Dialect) (lb : Bool) (e : SaExpr) (ty : Ty) :
    render d lb (.cast e ty) = castG (castName d ty) (wouldGroup none e) (render d lb e) := by
  rfl

theorem render_func (d : Dialect) (lb : Bool) (n : String) (args : List SaExpr) (ty : Ty) :
    render d lb (.func n args ty) = G.br (.fn n) (chain .comma ", " (renderList d lb args)) := by
  rfl

theorem render_subq (d : Dialect) (lb : Bool) (n : String) (ty : Ty) :
    render d lb (.subq n ty) = G.atom ⟨"(SELECT " ++ n ++ ")", .col n⟩ := by
  rfl

end SaVerif.Expr
