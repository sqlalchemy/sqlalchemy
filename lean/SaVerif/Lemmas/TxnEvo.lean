import SaVerif.Lemmas.TxnPool
/-!
One operation of the interface is either an API call on the Connection — a composition of
basic moves (`Evo`) — or one of four lifecycle events: `close()`, garbage collection, a new
checkout, extra connections passing through the pool.  A predicate kept in these five cases
holds after every history (`run_cases`); here: the handle-table invariant `WFc`.
-/
namespace SaVerif.Txn

theorem sameDb_warn (c : Conn) : SameDb c c.warn := ⟨rfl, rfl⟩

theorem releaseOrInterrupt_wfc {c : Conn} (b : Bool) (hw : WFc c) : WFc (c.releaseOrInterrupt b).1 :=
  have ⟨etxns, etr, enest, _⟩ := releaseOrInterrupt_spec c b
  wfc_congr etxns etr enest hw

theorem close_wfc {c : Conn} (hw : WFc c) : WFc c.close.1 :=
  close_cases c (fun t _ _ => (tClose_evo (ctx := false) c t).wfc hw)
    (fun t _ _ => releaseOrInterrupt_wfc _ ((tClose_evo (ctx := false) c t).wfc hw))
    (fun _ => releaseOrInterrupt_wfc false hw)

theorem run_cases {P : Conn → Prop} (evo : ∀ {c c'}, Evo true c c' → P c → P c')
    (close : ∀ {c}, P c → P c.close.1) (gc : ∀ {c}, P c → P c.gc)
    (connect : ∀ {c}, P c → P (Conn.connect c.gc.db))
    (warm : ∀ {c} n, P c → P { c with db := DB.warm n c.db }) :
    ∀ (ops : List Op) (c : Conn), P c → P (c.run ops)
  | [], _, h => h
  | op :: ops, c, h => by
    refine run_cases evo close gc connect warm ops _ ?_
    cases op with
    | begin => exact evo (begin_evo c) h
    | beginNested => exact evo (beginNested_evo c) h
    | exec s => exact evo (execute_evo c _) h
    | commit => exact evo (commit_evo c) h
    | rollback => exact evo (rollback_evo c) h
    | tCommit x => exact evo (tCommit_evo c x) h
    | tRollback x => exact evo (tRollback_evo c x) h
    | tClose x => exact evo (tClose_evo c x) h
    | enter x => exact evo (enter_evo c x) h
    | exitOk x => exact evo (exit_evo c x false) h
    | exitExc x => exact evo (exit_evo c x true) h
    | invalidate => exact evo (invalidate_evo c) h
    | autocommit => exact evo (setAutocommit_evo c) h
    | readUnc => exact evo (setReadUnc_evo c) h
    | logToken => exact evo (setLogToken_evo c) h
    | otherOpt => exact h
    | tokenAuto => exact evo (setAutocommit_evo c) h
    | arm p k => exact evo (.data (dataOnly_rows c.db _ _ _ _)) h
    | disarm => exact evo (.data (dataOnly_rows c.db _ _ _ _)) h
    | close => exact close h
    | gc => exact gc h
    | connect => exact connect h
    | warm n => exact warm n h

theorem run_wfc : ∀ (ops : List Op) (c : Conn), WFc c → WFc (c.run ops) :=
  run_cases Evo.wfc close_wfc (fun _ => wfc_empty rfl rfl rfl) (fun _ => wfc_empty rfl rfl rfl)
    (fun _ => wfc_congr rfl rfl rfl)

end SaVerif.Txn
