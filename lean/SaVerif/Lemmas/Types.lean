import SaVerif.Model.Types
/-! Helper lemmas for M-TYPES: zero-padded decimal rendering and its parsers. -/
namespace SaVerif.Types

theorem digitChar_ok : ∀ d, d < 10 → isDigit (digitChar d) = true ∧ charVal (digitChar d) = d := by
  decide

theorem fixedDigits_lt : ∀ (w n : Nat), ∀ x ∈ fixedDigits w n, x < 10 := by
  intro w
  induction w with
  | zero => intro n x hx; simp [fixedDigits] at hx
  | succ w ih =>
    intro n x hx
    simp only [fixedDigits, List.mem_append, List.mem_singleton] at hx
    rcases hx with h | h
    · exact ih _ x h
    · rw [h]; exact Nat.mod_lt _ (by decide)

theorem fixedDigits_length : ∀ (w n : Nat), (fixedDigits w n).length = w := by
  intro w
  induction w with
  | zero => intro n; rfl
  | succ w ih => intro n; simp [fixedDigits, ih]

theorem fixedDigits_ne_nil {w : Nat} (n : Nat) (hw : 1 ≤ w) : fixedDigits w n ≠ [] := fun h => by
  have := fixedDigits_length w n
  rw [h] at this
  exact absurd this (by simp; omega)

theorem digitsVal_append (l : List Nat) (d : Nat) : digitsVal (l ++ [d]) = digitsVal l * 10 + d := by
  simp [digitsVal, List.foldl_append]

theorem digitsVal_fixedDigits : ∀ (w n : Nat), n < 10 ^ w → digitsVal (fixedDigits w n) = n := by
  intro w
  induction w with
  | zero => intro n h; simp at h; subst h; rfl
  | succ w ih =>
    intro n h
    simp only [fixedDigits, digitsVal_append]
    have hd : n / 10 < 10 ^ w := by
      rw [Nat.pow_succ] at h
      exact Nat.div_lt_of_lt_mul (by rw [Nat.mul_comm]; exact h)
    rw [ih _ hd]
    have := Nat.div_add_mod n 10
    omega

theorem takeFixed_digits : ∀ (ds : List Nat) (rest : List Char), (∀ x ∈ ds, x < 10) →
    takeFixed ds.length (ds.map digitChar ++ rest) = some (ds, rest) := by
  intro ds
  induction ds with
  | nil => intro rest _; rfl
  | cons d ds ih =>
    intro rest h
    have hd := digitChar_ok d (h d (by simp))
    simp only [List.length_cons, List.map_cons, List.cons_append, takeFixed, hd.1, if_true]
    rw [ih rest (fun x hx => h x (by simp [hx]))]
    simp [hd.2]

theorem padNat_of_lt {w n : Nat} (h : n < 10 ^ w) : padNat w n = (fixedDigits w n).map digitChar := by
  rw [padNat, if_pos h]

theorem render_nil (d : DT) : render [] d = [] := rfl

theorem render_field (f : Field) (w : Nat) (ts : List Tok) (d : DT) :
    render (.field f w :: ts) d = padNat w (d.get f) ++ render ts d := rfl

theorem render_lit (c : Char) (ts : List Tok) (d : DT) : render (.lit c :: ts) d = c :: render ts d := rfl

theorem takeFixed_pad (w n : Nat) (rest : List Char) (h : n < 10 ^ w) :
    takeFixed w (padNat w n ++ rest) = some (fixedDigits w n, rest) := by
  rw [padNat_of_lt h]
  have := takeFixed_digits (fixedDigits w n) rest (fixedDigits_lt w n)
  rw [fixedDigits_length] at this
  exact this

theorem takeDigits_digits : ∀ (ds : List Nat) (rest : List Char), (∀ x ∈ ds, x < 10) →
    (∀ c, rest.head? = some c → isDigit c = false) →
    takeDigits (ds.map digitChar ++ rest) = (ds, rest) := by
  intro ds
  induction ds with
  | nil =>
    intro rest _ hr
    cases rest with
    | nil => rfl
    | cons c s => simp [takeDigits, hr c rfl]
  | cons d ds ih =>
    intro rest h hr
    have hd := digitChar_ok d (h d (by simp))
    simp only [List.map_cons, List.cons_append, takeDigits, hd.1, if_true]
    rw [ih rest (fun x hx => h x (by simp [hx])) hr]
    simp [hd.2]

theorem validDate_of_bounds {y m d : Nat} (hy : 1 ≤ y ∧ y ≤ 9999) (hm : 1 ≤ m ∧ m ≤ 12)
    (hd : 1 ≤ d ∧ d ≤ 31) : validDate y m d = true := by
  simp only [validDate, Bool.and_eq_true, decide_eq_true_eq]; omega

theorem validTime_of_bounds {h mi s us : Nat} (hh : h < 24) (hmi : mi < 60) (hs : s < 60)
    (hus : us < 1000000) : validTime h mi s us = true := by
  simp only [validTime, Bool.and_eq_true, decide_eq_true_eq]; omega

-- the `_render` lemmas are stated on what `render_field`, `render_lit`, `render_nil` make of an ISO layout
theorem isoDatePart_render (y m d : Nat) {rest : List Char} (hy : y < 10 ^ 4) (hm : m < 10 ^ 2)
    (hd : d < 10 ^ 2) :
    isoDatePart (padNat 4 y ++ '-' :: (padNat 2 m ++ '-' :: (padNat 2 d ++ rest))) = some (y, m, d, rest) := by
  simp only [isoDatePart, bind, Option.bind, takeFixed_pad 4 y _ hy, expect, beq_self_eq_true, if_true,
    takeFixed_pad 2 m _ hm, takeFixed_pad 2 d _ hd, digitsVal_fixedDigits 4 y hy,
    digitsVal_fixedDigits 2 m hm, digitsVal_fixedDigits 2 d hd]

theorem isoTimePart_render (h mi s us : Nat) (hh : h < 10 ^ 2) (hmi : mi < 10 ^ 2) (hs : s < 10 ^ 2)
    (hus : us < 10 ^ 6) :
    isoTimePart (padNat 2 h ++ ':' :: (padNat 2 mi ++ ':' :: (padNat 2 s ++ '.' :: padNat 6 us))) =
      some (h, mi, s, us) := by
  -- the last field gets the `++ rest` that `takeFixed_pad` is stated with
  rw [← List.append_nil (padNat 6 us)]
  simp only [isoTimePart, bind, Option.bind, takeFixed_pad 2 h _ hh, expect, beq_self_eq_true, if_true,
    takeFixed_pad 2 mi _ hmi, takeFixed_pad 2 s _ hs, takeFixed_pad 6 us _ hus,
    digitsVal_fixedDigits 2 h hh, digitsVal_fixedDigits 2 mi hmi, digitsVal_fixedDigits 2 s hs,
    digitsVal_fixedDigits 6 us hus]

theorem isoTimePart_render_trunc (h mi s : Nat) (hh : h < 10 ^ 2) (hmi : mi < 10 ^ 2) (hs : s < 10 ^ 2) :
    isoTimePart (padNat 2 h ++ ':' :: (padNat 2 mi ++ ':' :: padNat 2 s)) = some (h, mi, s, 0) := by
  rw [← List.append_nil (padNat 2 s)]
  simp only [isoTimePart, bind, Option.bind, takeFixed_pad 2 h _ hh, expect, beq_self_eq_true, if_true,
    takeFixed_pad 2 mi _ hmi, takeFixed_pad 2 s _ hs,
    digitsVal_fixedDigits 2 h hh, digitsVal_fixedDigits 2 mi hmi, digitsVal_fixedDigits 2 s hs]

end SaVerif.Types
