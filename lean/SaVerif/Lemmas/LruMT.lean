import SaVerif.Model.LruMT
import SaVerif.Lemmas.ListFacts
/-! Two invariants of the multi-threaded LRUCache transition system, both proved over the branch
relation `Step` of `mstep`: `InvS` (every pair stored, carried by a program counter or returned
was asked for by some `cache[k] = v`) and `InvN` (the size bound: the entries above it are
accounted to threads between their insert and their "all clear" or to failed try-locks, and
the mutex has at most one holder). -/
namespace SaVerif.LruMT

theorem mem_store {data : List MEnt} {e x : MEnt} (hx : x ∈ store data e) : x = e ∨ x ∈ data := by
  unfold store at hx
  split at hx
  · rw [List.mem_map] at hx
    obtain ⟨y, hy, rfl⟩ := hx
    by_cases hk : (y.key == e.key) = true
    · simp [hk]
    · simp [hk, hy]
  · rw [List.mem_append, List.mem_singleton] at hx
    rcases hx with h | h
    · exact Or.inr h
    · exact Or.inl h

theorem length_store (data : List MEnt) (e : MEnt) :
    (store data e).length = if hasKey data e.key then data.length else data.length + 1 := by
  unfold store
  split <;> simp

theorem length_delKey_le (data : List MEnt) (k : Nat) : (delKey data k).length ≤ data.length := by
  unfold delKey; exact List.length_filter_le _ _

theorem mem_delKey {data : List MEnt} {k : Nat} {x : MEnt} (h : x ∈ delKey data k) : x ∈ data := by
  unfold delKey at h; exact (List.mem_filter.1 h).1

theorem length_writeCell (data : List MEnt) (c v : Nat) : (writeCell data c v).length = data.length := by
  unfold writeCell; simp

theorem mem_writeCell {data : List MEnt} {c v : Nat} {x : MEnt} (h : x ∈ writeCell data c v) :
    ∃ y ∈ data, y.key = x.key ∧ y.val = x.val := by
  unfold writeCell at h
  rw [List.mem_map] at h
  obtain ⟨y, hy, rfl⟩ := h
  refine ⟨y, hy, ?_⟩
  split <;> exact ⟨rfl, rfl⟩

theorem find_some {data : List MEnt} {k : Nat} {it : MEnt} (h : find data k = some it) :
    it ∈ data ∧ it.key = k := by
  unfold find at h
  exact ⟨List.mem_of_find?_eq_some h, by simpa using List.find?_some h⟩

/-- `mstep` as a relation, one constructor per branch: thread `th` moves to `th'` and the shared
    fields of `s` become those of `s2` (whose thread list is still that of `s`) -/
inductive Step (s : MState) : Thread → MState → Thread → Prop
  | getMiss {k rest rets} : find s.data k = none →
      Step s ⟨.idle, .get k :: rest, rets⟩ s ⟨.idle, rest, (k, none) :: rets⟩
  | getHit {k it rest rets} : find s.data k = some it →
      Step s ⟨.idle, .get k :: rest, rets⟩ s ⟨.gI0 k it, rest, rets⟩
  | set {k v rest rets} : Step s ⟨.idle, .set k v :: rest, rets⟩ s ⟨.sI1 k v s.counter, rest, rets⟩
  | del {k rest rets} :
      Step s ⟨.idle, .del k :: rest, rets⟩ { s with data := delKey s.data k } ⟨.idle, rest, rets⟩
  | gI0 {k it prog rets} : Step s ⟨.gI0 k it, prog, rets⟩ s ⟨.gI1 k it s.counter, prog, rets⟩
  | gI1 {k it r prog rets} :
      Step s ⟨.gI1 k it r, prog, rets⟩ { s with counter := r + 1 } ⟨.gI2 k it, prog, rets⟩
  | gI2 {k it prog rets} : Step s ⟨.gI2 k it, prog, rets⟩ s ⟨.gW k it s.counter, prog, rets⟩
  | gW {k it v prog rets} :
      Step s ⟨.gW k it v, prog, rets⟩ { s with data := writeCell s.data it.cid v }
        ⟨.idle, prog, (k, some it.val) :: rets⟩
  | sI1 {k v r prog rets} :
      Step s ⟨.sI1 k v r, prog, rets⟩ { s with counter := r + 1 } ⟨.sI2 k v, prog, rets⟩
  | sI2 {k v prog rets} : Step s ⟨.sI2 k v, prog, rets⟩ s ⟨.sSt k v s.counter, prog, rets⟩
  | sSt {k v c prog rets} :
      Step s ⟨.sSt k v c, prog, rets⟩
        { s with data := store s.data ⟨k, v, c, s.nextCid⟩, nextCid := s.nextCid + 1,
                 extra := if hasKey s.data k then s.extra else s.extra + 1 }
        ⟨.m0, prog, rets⟩
  | m0Busy {prog rets} : s.held = true →
      Step s ⟨.m0, prog, rets⟩ { s with failed := s.failed + 1 } ⟨.idle, prog, rets⟩
  | m0Free {prog rets} : s.held = false →
      Step s ⟨.m0, prog, rets⟩ { s with held := true } ⟨.m1, prog, rets⟩
  | m1Over {prog rets} : over s s.data.length = true → Step s ⟨.m1, prog, rets⟩ s ⟨.m2, prog, rets⟩
  | m1Clear {prog rets} : over s s.data.length = false →
      Step s ⟨.m1, prog, rets⟩ { s with extra := 0, failed := 0 } ⟨.m4, prog, rets⟩
  | m2 {prog rets} :
      Step s ⟨.m2, prog, rets⟩ s ⟨.m3 (((byCounter s.data).drop s.cap).map (·.key)), prog, rets⟩
  | m3Nil {prog rets} : Step s ⟨.m3 [], prog, rets⟩ s ⟨.m1, prog, rets⟩
  | m3Cons {k ks prog rets} :
      Step s ⟨.m3 (k :: ks), prog, rets⟩ { s with data := delKey s.data k } ⟨.m3 ks, prog, rets⟩
  | m4 {prog rets} : Step s ⟨.m4, prog, rets⟩ { s with held := false } ⟨.idle, prog, rets⟩

theorem step_of_mstep {s s' : MState} {t : Nat} (hs : mstep s t = some s') :
    ∃ th s2 th', s.threads[t]? = some th ∧ Step s th s2 th' ∧ setThread s2 t th' = s' := by
  unfold mstep at hs
  cases hth : s.threads[t]? with
  | none => rw [hth] at hs; cases hs
  | some th =>
    rw [hth] at hs
    obtain ⟨pc, prog, rets⟩ := th
    have out : ∀ {s2 th'}, Step s ⟨pc, prog, rets⟩ s2 th' → some (setThread s2 t th') = some s' →
        ∃ th s2 th', some ⟨pc, prog, rets⟩ = some th ∧ Step s th s2 th' ∧ setThread s2 t th' = s' :=
      fun h e => ⟨_, _, _, rfl, h, Option.some.inj e⟩
    cases pc with
    | idle =>
      cases prog with
      | nil => cases hs
      | cons op rest =>
        cases op with
        | get k =>
          simp only at hs
          cases hf : find s.data k with
          | none => rw [hf] at hs; exact out (.getMiss hf) hs
          | some it => rw [hf] at hs; exact out (.getHit hf) hs
        | set k v => exact out .set hs
        | del k => exact out .del hs
    | gI0 k it => exact out .gI0 hs
    | gI1 k it r => exact out .gI1 hs
    | gI2 k it => exact out .gI2 hs
    | gW k it v => exact out .gW hs
    | sI1 k v r => exact out .sI1 hs
    | sI2 k v => exact out .sI2 hs
    | sSt k v c => exact out .sSt hs
    | m0 =>
      simp only at hs
      split at hs
      next hh => exact out (.m0Busy hh) hs
      next hh => exact out (.m0Free (eq_false_of_ne_true hh)) hs
    | m1 =>
      simp only at hs
      split at hs
      next ho => exact out (.m1Over ho) hs
      next ho => exact out (.m1Clear (eq_false_of_ne_true ho)) hs
    | m2 => exact out .m2 hs
    | m3 todo =>
      cases todo with
      | nil => exact out .m3Nil hs
      | cons k ks => exact out .m3Cons hs
    | m4 => exact out .m4 hs

def PCOk (S : List (Nat × Nat)) : PC → Prop
  | .gI0 k it | .gI1 k it _ | .gI2 k it | .gW k it _ => it.key = k ∧ (it.key, it.val) ∈ S
  | .sI1 k v _ | .sI2 k v | .sSt k v _ => (k, v) ∈ S
  | _ => True

structure ThreadOk (S : List (Nat × Nat)) (th : Thread) : Prop where
  prog : ∀ k v, MOp.set k v ∈ th.prog → (k, v) ∈ S
  pc : PCOk S th.pc
  rets : ∀ k v, (k, some v) ∈ th.rets → (k, v) ∈ S

structure InvS (S : List (Nat × Nat)) (s : MState) : Prop where
  data : ∀ e ∈ s.data, (e.key, e.val) ∈ S
  threads : ∀ th ∈ s.threads, ThreadOk S th

theorem invS_setThread {S : List (Nat × Nat)} {s s2 : MState} {t : Nat} {th' : Thread} (h : InvS S s)
    (ht : s2.threads = s.threads) (hd : ∀ e ∈ s2.data, (e.key, e.val) ∈ S) (hth : ThreadOk S th') :
    InvS S (setThread s2 t th') := by
  refine ⟨hd, fun x hx => ?_⟩
  rcases List.mem_or_eq_of_mem_set hx with h1 | h1
  · exact h.threads x (ht ▸ h1)
  · rw [h1]; exact hth

theorem invS_step {S : List (Nat × Nat)} {s s' : MState} {t : Nat} (h : InvS S s)
    (hs : mstep s t = some s') : InvS S s' := by
  obtain ⟨th, s2, th', hth, hst, rfl⟩ := step_of_mstep hs
  have hok := h.threads th (List.mem_of_getElem? hth)
  have hrest : ∀ {op rest}, th.prog = op :: rest → ∀ k v, MOp.set k v ∈ rest → (k, v) ∈ S :=
    fun e k v hm => hok.prog k v (e ▸ List.mem_cons_of_mem _ hm)
  have hdel : ∀ k, ∀ e ∈ delKey s.data k, (e.key, e.val) ∈ S := fun k e he => h.data e (mem_delKey he)
  cases hst
  case getMiss k rest rets _ =>
    refine invS_setThread h rfl h.data ⟨hrest rfl, trivial, ?_⟩
    intro k' v' hm
    rcases List.mem_cons.1 hm with h2 | hm
    · cases h2
    · exact hok.rets k' v' hm
  case getHit k it rest rets hf =>
    obtain ⟨hm, hk⟩ := find_some hf
    exact invS_setThread h rfl h.data ⟨hrest rfl, ⟨hk, h.data it hm⟩, hok.rets⟩
  case set k v rest rets =>
    exact invS_setThread h rfl h.data ⟨hrest rfl, hok.prog k v List.mem_cons_self, hok.rets⟩
  case del k rest rets =>
    exact invS_setThread h rfl (hdel k) ⟨hrest rfl, trivial, hok.rets⟩
  case gW k it v prog rets =>
    have hp : it.key = k ∧ (it.key, it.val) ∈ S := hok.pc
    refine invS_setThread h rfl ?_ ⟨hok.prog, trivial, ?_⟩
    · intro e he
      obtain ⟨y, hy, h1, h2⟩ := mem_writeCell he
      rw [← h1, ← h2]; exact h.data y hy
    · intro k' v' hm
      rcases List.mem_cons.1 hm with h2 | hm
      · cases h2; rw [← hp.1]; exact hp.2
      · exact hok.rets k' v' hm
  case sSt k v c prog rets =>
    refine invS_setThread h rfl ?_ { hok with pc := trivial }
    intro e he
    rcases mem_store he with rfl | he
    · exact hok.pc
    · exact h.data e he
  case m3Cons k ks prog rets =>
    exact invS_setThread h rfl (hdel k) { hok with pc := trivial }
  -- the next program counter carries the same item or pair
  case gI0 | gI1 | gI2 | sI1 | sI2 =>
    exact invS_setThread h rfl h.data ⟨hok.prog, hok.pc, hok.rets⟩
  -- m0Busy, m0Free, m1Over, m1Clear, m2, m3Nil, m4: the next program counter carries nothing
  all_goals exact invS_setThread h rfl h.data { hok with pc := trivial }

/-- threads that have inserted and not yet had their insert covered by an "all clear":
    waiting for the try-lock, or holding the mutex before the final check -/
def w3 (th : Thread) : Nat :=
  match th.pc with
  | .m0 | .m1 | .m2 | .m3 _ => 1
  | _ => 0

/-- threads inside the mutex-protected section -/
def w4 (th : Thread) : Nat :=
  match th.pc with
  | .m1 | .m2 | .m3 _ | .m4 => 1
  | _ => 0

def busy (s : MState) : Nat := (s.threads.map w3).sum
def holders (s : MState) : Nat := (s.threads.map w4).sum

theorem busy_eq_zero {s : MState} (h : ∀ th ∈ s.threads, w3 th = 0) : busy s = 0 :=
  ListFacts.sum_map_eq_zero h

theorem holders_eq_zero {s : MState} (h : ∀ th ∈ s.threads, w4 th = 0) : holders s = 0 :=
  ListFacts.sum_map_eq_zero h

/-- `n <= capacity + capacity * threshold` -/
def within (s : MState) (n : Nat) : Prop := n * s.den ≤ s.cap * s.den + s.cap * s.num

theorem within_mono {s : MState} {n m : Nat} (h : within s n) (hm : m ≤ n) : within s m := by
  unfold within at *
  exact Nat.le_trans (Nat.mul_le_mul_right _ hm) h

structure InvN (s : MState) : Prop where
  size : within s (s.data.length - s.extra)
  extraLe : s.extra ≤ busy s + s.failed
  mutex : holders s = if s.held then 1 else 0

theorem not_over_within {s : MState} {n : Nat} (h : over s n = false) : within s n := by
  unfold over at h
  unfold within
  simpa using h

/-- `b` and `n` stand for `busy` and `holders` of the new state: `sum_map_set` gives them as
    `new + w old = old sum + w new`, and stating them so avoids subtraction -/
theorem invN_setThread {s s2 : MState} {t : Nat} {th th' : Thread} (hth : s.threads[t]? = some th)
    (ht : s2.threads = s.threads) (hsize : within s2 (s2.data.length - s2.extra))
    (hextra : ∀ b, b + w3 th = busy s + w3 th' → s2.extra ≤ b + s2.failed)
    (hmutex : ∀ n, n + w4 th = holders s + w4 th' → n = if s2.held then 1 else 0) :
    InvN (setThread s2 t th') := by
  refine ⟨hsize, hextra _ ?_, hmutex _ ?_⟩
  · show ((s2.threads.set t th').map w3).sum + _ = _
    rw [ht]; exact ListFacts.sum_map_set w3 th' hth
  · show ((s2.threads.set t th').map w4).sum + _ = _
    rw [ht]; exact ListFacts.sum_map_set w4 th' hth

/-- applied with `data := s.data, counter := s.counter` too, which is `s` by eta -/
theorem InvN.quiet {s : MState} {t : Nat} {th th' : Thread} {data : List MEnt} {counter : Nat}
    (h : InvN s) (hth : s.threads[t]? = some th) (e3 : w3 th' = w3 th) (e4 : w4 th' = w4 th)
    (hl : data.length ≤ s.data.length) : InvN (setThread { s with data := data, counter := counter } t th') :=
  invN_setThread hth rfl (within_mono h.size (Nat.sub_le_sub_right hl _))
    (fun _ hb => Nat.add_right_cancel (e3 ▸ hb) ▸ h.extraLe)
    (fun _ hn => Nat.add_right_cancel (e4 ▸ hn) ▸ h.mutex)

theorem invN_step {s s' : MState} {t : Nat} (h : InvN s) (hs : mstep s t = some s') : InvN s' := by
  obtain ⟨th, s2, th', hth, hst, rfl⟩ := step_of_mstep hs
  cases hst
  case sSt k v c prog rets =>
    refine invN_setThread hth rfl ?_ (fun b hb => ?_) (fun n hn => ?_)
    · show within s ((store s.data _).length - if hasKey s.data k then s.extra else s.extra + 1)
      rw [length_store]
      split
      · exact h.size
      · rw [Nat.add_sub_add_right]; exact h.size
    · have hb : b = busy s + 1 := hb
      show (if hasKey s.data k then s.extra else s.extra + 1) ≤ b + s.failed
      rw [hb, Nat.add_right_comm]
      split
      · exact Nat.le_succ_of_le h.extraLe
      · exact Nat.succ_le_succ h.extraLe
    · exact Nat.add_right_cancel hn ▸ h.mutex
  case m0Busy hheld =>
    refine invN_setThread hth rfl h.size (fun b hb => ?_) (fun n hn => Nat.add_right_cancel hn ▸ h.mutex)
    have hb : b + 1 = busy s := hb
    show s.extra ≤ b + (s.failed + 1)
    rw [← Nat.add_assoc, Nat.add_right_comm, hb]
    exact h.extraLe
  case m0Free hfree =>
    refine invN_setThread hth rfl h.size (fun b hb => Nat.add_right_cancel hb ▸ h.extraLe) (fun n hn => ?_)
    -- nobody held the mutex, this thread now does
    have hn : n = holders s + 1 := hn
    show n = 1
    rw [hn, h.mutex, hfree]
    rfl
  case m1Clear hover =>
    exact invN_setThread hth rfl (not_over_within hover) (fun b _ => Nat.zero_le _)
      (fun n hn => Nat.add_right_cancel hn ▸ h.mutex)
  case m4 =>
    refine invN_setThread hth rfl h.size (fun b hb => Nat.add_right_cancel hb ▸ h.extraLe) (fun n hn => ?_)
    -- this thread is a holder, so `n + 1` is at most one
    have hn : n + 1 = holders s := hn
    show n = 0
    rw [h.mutex] at hn
    split at hn
    · exact Nat.succ.inj hn
    · exact absurd hn (Nat.succ_ne_zero n)
  case del | m3Cons => exact h.quiet hth rfl rfl (length_delKey_le _ _)
  case gW => exact h.quiet hth rfl rfl (Nat.le_of_eq (length_writeCell _ _ _))
  -- getMiss, getHit, set, gI0, gI1, gI2, sI1, sI2, m1Over, m2, m3Nil: at most `counter` changes
  all_goals exact h.quiet hth rfl rfl (Nat.le_refl _)

end SaVerif.LruMT
