import SaVerif.Lemmas.TxnEvo
/-!
C24's `PoolClean ∧ … ∧ HeldIso` and C27's `Gen N` are both invariants of the pool that every basic move of
the pool keeps.  `PoolInv` lists those moves; checkout, check-in, `warm`, the moves of `Evo`, the lifecycle
events and whole histories are then walked once, for any such invariant.
-/
namespace SaVerif.Txn

/-- `I db held` speaks of the pool `db`; `held` says whether `db.raw` is a checked-out connection.
    `clean`: that the connection is `HeldClean` when `close()` lets the pool skip its reset is known only under
    `RootPtr`; an invariant that needs the fact sets the flag.  `checkin` ends in an arbitrary flag `h'`:
    an interrupted `close()` leaves `hasDbapi = true` on the Connection although `checkin` has run.
    `frame`: what is known of a checked-out `r` (`I { db with raw := r } true`) survives while the pool serves
    other connections, as in `warm`.  `skipAc`: `close()` on an active root leaves the connection `HeldClean`
    only if its ROLLBACK is not skipped (`rootClose_heldClean`); an invariant with `clean` has to know that. -/
structure PoolInv (clean : Prop) (I : DB → Bool → Prop) : Prop where
  data : ∀ {db db' h}, DataOnly db db' → I db h → I db' h
  tick : ∀ {db h}, I db h → I db.tick.1 h
  newRaw : ∀ {db h}, I db h → I db.newRaw true
  unheld : ∀ {db h}, I db h → I db false
  snocNone : ∀ {db : DB}, I db false → I { db with idle := db.idle ++ [none] } false
  kill : ∀ {db h}, I db h → I db.kill false
  invalidate : ∀ {db h}, I db h → I db.poolInvalidate false
  pop : ∀ {db db1 o}, PreSpec db db1 o → I db false → I db1 false
  reuse : ∀ {db db1 r}, PreSpec db db1 (some r) → I db false → I (db1.handOut r) true
  checkin : ∀ {db} b h', (clean → b = true → HeldClean db) → I db true → I (db.checkin b) h'
  skipAc : ∀ {db h}, clean → I db h → db.skipAc = false
  frame : ∀ {db db' : DB} {r h}, Mono db db' → I { db with raw := r } h → I db' false →
    I { db' with raw := r } h

variable {clean : Prop} {I : DB → Bool → Prop}

theorem PoolInv.checkout (hI : PoolInv clean I) {db : DB} (h : I db false) : I db.checkout true :=
  checkout_cases db (fun d => I d true) (fun _ _ hp => hI.reuse hp h) (fun _ hp => hI.newRaw (hI.pop hp h))
    (fun _ => hI.tick) (fun _ => hI.newRaw)

theorem PoolInv.checkoutFail (hI : PoolInv clean I) {db db' : DB} {k : FKind}
    (hx : db.checkoutF = (db', some k)) (h : I db false) : I db' false := by
  obtain ⟨db1, hasRec, db2, hp, hf, rfl⟩ := checkoutF_some hx
  have h3 := hI.tick (hI.data (takeFault_dataOnly hf) (hI.pop hp h))
  cases hasRec with
  | false => exact h3
  | true => exact hI.snocNone h3

theorem PoolInv.connectRaw (hI : PoolInv clean I) {db : DB} (h : I db false) : I db.connectRaw true :=
  foldl_applyChar (R := fun d d' => I d true → I d' true) (fun _ => id) (fun h1 h2 h => h2 (h1 h))
    (fun d b => hI.data (applyChar_dataOnly d b)) _ _ (hI.checkout h)

theorem PoolInv.evo (hI : PoolInv clean I) {ctx : Bool} {c c' : Conn} (he : Evo ctx c c') :
    I c.db c.hasDbapi → I c'.db c'.hasDbapi := by
  induction he with
  | trans _ _ ih1 ih2 => exact fun h => ih2 (ih1 h)
  | data hd => exact hI.data hd
  | @checkout c hh => exact fun h => hI.checkout (hh ▸ h)
  | @checkoutFail c db' k hh hx => exact fun h => hh ▸ hI.checkoutFail hx (hh ▸ h)
  | disc => exact fun h => hI.kill (hI.invalidate h)
  | kill => exact hI.kill
  | _ => exact id

theorem PoolInv.releaseOrInterrupt (hI : PoolInv clean I) {c : Conn} (b : Bool)
    (hb : clean → b = true → c.hasDbapi = true → HeldClean c.db) (h : I c.db c.hasDbapi) :
    I (c.releaseOrInterrupt b).1.db (c.releaseOrInterrupt b).1.hasDbapi := by
  obtain ⟨_, _, _, hdb, hdbapi⟩ := releaseOrInterrupt_spec c b
  rw [hdb]
  cases hh : c.hasDbapi with
  | false =>
    rw [hh] at h
    cases h' : (c.releaseOrInterrupt b).1.hasDbapi with
    | false => exact h
    | true => rw [hdbapi h'] at hh; cases hh
  | true => exact hI.checkin b _ (fun hc e => hb hc e hh) (hh ▸ h)

theorem PoolInv.close (hI : PoolInv clean I) {c : Conn} (hr : clean → RootPtr c)
    (h : I c.db c.hasDbapi) : I c.close.1.db c.close.1.hasDbapi := by
  have hclose := fun t => hI.evo (tClose_evo (ctx := false) c t) h
  -- `close_cases`: `tClose` fails; it succeeds and the connection is released (below); no transaction
  refine close_cases (P := fun c' => I c'.db c'.hasDbapi) c (fun t _ _ => hclose t) (fun t ht hr' => ?_)
    (fun _ => hI.releaseOrInterrupt false (fun _ => nofun) h)
  refine hI.releaseOrInterrupt _ (fun hc hact hd => ?_) (hclose t)
  have e2 : c.tClose t = c.rootCloseImpl t false := by simp [Conn.tClose, hr hc t ht]
  rw [e2] at hr' hd ⊢
  exact rootClose_heldClean c t false hact (hI.skipAc hc h) hr' hd

theorem PoolInv.gc (hI : PoolInv clean I) {c : Conn} (h : I c.db c.hasDbapi) : I c.gc.db false := by
  show I (if c.zombie then c.db else if c.hasDbapi then c.db.checkin false else c.db) false
  split
  · exact hI.unheld h
  · split
    · rename_i hh; exact hI.checkin false _ (fun _ => nofun) (hh ▸ h)
    · exact hI.unheld h

theorem PoolInv.warmTake (hI : PoolInv clean I) : ∀ (n : Nat) (db : DB) (acc : List Raw), I db false →
    (∀ r ∈ acc, I { db with raw := r } true) →
    I (DB.warmTake n db acc).1 false ∧ Mono db (DB.warmTake n db acc).1 ∧
    ∀ r ∈ (DB.warmTake n db acc).2, I { (DB.warmTake n db acc).1 with raw := r } true
  | 0, db, _, hg, ha => ⟨hg, Mono.refl db, ha⟩
  | n + 1, db, acc, hg, ha =>
    have hc := hI.connectRaw hg
    have hm := connectRaw_mono db
    have ⟨i1, i2, i3⟩ := hI.warmTake n db.connectRaw (acc ++ [db.connectRaw.raw]) (hI.unheld hc) fun r hr => by
      rcases List.mem_append.1 hr with hr | hr
      · exact hI.frame hm (ha r hr) (hI.unheld hc)
      · cases List.mem_singleton.1 hr
        exact hc
    ⟨i1, hm.trans i2, i3⟩

theorem PoolInv.warmReturn (hI : PoolInv clean I) : ∀ (l : List Raw) (db : DB), I db false →
    (∀ r ∈ l, I { db with raw := r } true) →
    I (DB.warmReturn l db) false ∧ Mono db (DB.warmReturn l db)
  | [], db, hg, _ => ⟨hg, Mono.refl db⟩
  | r :: rs, db, _, hl =>
    have h2 := hI.checkin false false (fun _ => nofun) (hl r List.mem_cons_self)
    have ⟨_, _, hclock, hinval, hnext⟩ := checkin_ids ({ db with raw := r } : DB) false
    have hm : Mono db (({ db with raw := r } : DB).checkin false) :=
      ⟨Nat.le_of_eq hclock.symm, hinval, Nat.le_of_eq hnext.symm⟩
    have ⟨i1, i2⟩ := hI.warmReturn rs _ h2 fun x hx => hI.frame hm (hl x (List.mem_cons_of_mem _ hx)) h2
    ⟨i1, hm.trans i2⟩

theorem PoolInv.warm (hI : PoolInv clean I) {db : DB} {h : Bool} (n : Nat) (hg : I db h) :
    I (DB.warm n db) h :=
  have ⟨a1, a2, a3⟩ := hI.warmTake n db [] (hI.unheld hg) nofun
  have ⟨b1, b2⟩ := hI.warmReturn _ _ a1 a3
  hI.frame (a2.trans b2) hg b1

theorem PoolInv.run (hI : PoolInv clean I) (ops : List Op) (c : Conn) (hw : clean → WFc c)
    (h : I c.db c.hasDbapi) : I (c.run ops).db (c.run ops).hasDbapi :=
  (run_cases (P := fun c => (clean → WFc c) ∧ I c.db c.hasDbapi)
    (fun he h => ⟨fun hc => he.wfc (h.1 hc), hI.evo he h.2⟩)
    (fun h => ⟨fun hc => close_wfc (h.1 hc), hI.close (fun hc => (h.1 hc).rootPtr) h.2⟩)
    (fun h => ⟨fun _ => wfc_empty rfl rfl rfl, hI.gc h.2⟩)
    (fun h => ⟨fun _ => wfc_empty rfl rfl rfl, hI.connectRaw (hI.gc h.2)⟩)
    (fun {c} n h => ⟨fun hc => wfc_congr (c := c) rfl rfl rfl (h.1 hc), hI.warm n h.2⟩) ops c ⟨hw, h⟩).2

/-- C24's invariant -/
def Inv (c : Conn) : Prop :=
  WFc c ∧ PoolClean c.db ∧ (c.db.reset ≠ .none ∧ c.db.skipAc = false) ∧ HeldIso c.db

theorem Inv.poolClean {c : Conn} (h : Inv c) : PoolClean c.db := h.2.1

/-- the part of `Inv` about the pool, with the flag `PoolInv` asks for: it does not depend on `held` -/
structure DbInv (db : DB) (_ : Bool) : Prop where
  poolClean : PoolClean db
  resets : db.reset ≠ .none ∧ db.skipAc = false
  iso : HeldIso db

theorem Inv.wfc {c : Conn} (h : Inv c) : WFc c := h.1
theorem Inv.dbInv {c : Conn} : Inv c → DbInv c.db c.hasDbapi
  | ⟨_, hp, hr, hi⟩ => ⟨hp, hr, hi⟩
theorem Inv.intro {c : Conn} (hw : WFc c) (hd : DbInv c.db c.hasDbapi) : Inv c :=
  ⟨hw, hd.poolClean, hd.resets, hd.iso⟩

theorem Shrinks.dbInv {db db' : DB} (h : Shrinks db db') {a b : Bool} (hi : DbInv db a) : DbInv db' b :=
  ⟨h.clean hi.poolClean, resets_of_cfg h.cfg hi.resets, h.held hi.poolClean hi.iso⟩

theorem poolInv_clean : PoolInv True DbInv where
  data hd := hd.shrinks.dbInv
  tick := (tick_shrinks _).dbInv
  newRaw := (newRaw_shrinks _).dbInv
  unheld hi := { hi with }
  snocNone {db} :=
    have : Shrinks db { db with idle := db.idle ++ [none] } := ⟨rfl, fun _ h => mem_snoc_none h, fun _ hi => hi⟩
    this.dbInv
  kill := (kill_shrinks _).dbInv
  invalidate := (poolInvalidate_shrinks _).dbInv
  pop hp := (preSpec_shrinks hp).dbInv
  reuse := by
    intro db db1 r hp
    rw [handOut_eq]
    refine Shrinks.dbInv (db := db) (db' := { db1 with raw := (db1.handOut r).raw })
      ⟨hp.cfg, hp.idle, fun hc _ => ?_⟩
    obtain ⟨_, _, hauto, hunc, _⟩ := hc r (hp.out r rfl).1
    obtain ⟨_, _, eauto, eunc⟩ := handOut_raw db1 r
    exact heldIso_clean (eauto.trans hauto) (eunc.trans hunc)
  checkin b _ hb hi :=
    have ⟨hreset, hskip⟩ := hi.resets
    have ⟨k1, k2, k3⟩ := checkin_keeps_clean _ b hreset
      (fun h => by simp [DB.skipsRollback, hskip] at h) (hb trivial) hi.poolClean hi.iso
    ⟨k1, resets_of_cfg k2 hi.resets, k3⟩
  skipAc _ hi := hi.resets.2
  frame _ hr hg := ⟨hg.poolClean, hg.resets, hr.iso⟩

theorem run_inv (ops : List Op) (c : Conn) (hi : Inv c) : Inv (c.run ops) :=
  .intro (run_wfc ops c hi.wfc) (poolInv_clean.run ops c (fun _ => hi.wfc) hi.dbInv)

end SaVerif.Txn
