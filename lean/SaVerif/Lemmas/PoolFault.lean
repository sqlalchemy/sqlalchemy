import SaVerif.Model.PoolFault
import SaVerif.Lemmas.Pool
import SaVerif.Lemmas.ListFacts
/-! The ledger invariant `GR` of the fault machine (`Model/PoolFault.lean`).  Work on a record `r` is of
two kinds: `RecKeep r` opens no connection, `RecStep r` may open one (`connect`, `getConnection`) and
keeps `GR` if the record exists.  Every operation but `newRec` keeps the number of records
(`FrameR.len`).  `checkoutLoop_rule` is the one induction over the checkout retry loop. -/
namespace SaVerif.PoolFault

def connOf (recs : List Rec) (r : Nat) : Option Nat := (recs.getD r blankRec).conn

theorem connOf_set (recs : List Rec) (r r' : Nat) (x : Rec) :
    connOf (recs.set r x) r' = if r = r' ∧ r < recs.length then x.conn else connOf recs r' := by
  unfold connOf
  rw [ListFacts.getD_set]
  split <;> rfl

theorem connOf_set_same {recs : List Rec} {r : Nat} {x : Rec} (hx : x.conn = connOf recs r) (r' : Nat) :
    connOf (recs.set r x) r' = connOf recs r' :=
  ListFacts.getD_set_same Rec.conn hx r'

theorem connOf_set_ne {recs : List Rec} {r r' : Nat} (x : Rec) (h : r' ≠ r) :
    connOf (recs.set r x) r' = connOf recs r' := by
  rw [connOf_set, if_neg fun hh => h hh.1.symm]

theorem connOf_set_self {recs : List Rec} {r : Nat} (x : Rec) (h : r < recs.length) :
    connOf (recs.set r x) r = x.conn := by
  rw [connOf_set, if_pos ⟨rfl, h⟩]

theorem connOf_set_none {recs : List Rec} {r r' c : Nat} {x : Rec} (hx : x.conn = none)
    (h : connOf (recs.set r x) r' = some c) : connOf recs r' = some c ∧ ¬ (r = r' ∧ r < recs.length) := by
  rw [connOf_set] at h
  split at h
  · rw [hx] at h; cases h
  · exact ⟨h, ‹_›⟩

theorem connOf_some_lt {recs : List Rec} {r c : Nat} (h : connOf recs r = some c) : r < recs.length :=
  Nat.lt_of_not_le fun h1 => by rw [connOf, ListFacts.getD_of_length_le h1] at h; cases h

theorem connOf_append_blank (recs : List Rec) (r : Nat) :
    connOf (recs ++ [blankRec]) r = connOf recs r :=
  congrArg Rec.conn (ListFacts.getD_append_default recs blankRec r)

theorem setRec_recs (st : St) (r : Nat) (x : Rec) : (setRec st r x).recs = st.recs.set r x := rfl

@[simp] theorem setRec_length (st : St) (r : Nat) (x : Rec) :
    (setRec st r x).recs.length = st.recs.length := List.length_set

theorem getRec_setRec_self (st : St) (r : Nat) (x : Rec) (h : r < st.recs.length) :
    getRec (setRec st r x) r = x :=
  (ListFacts.getD_set ..).trans (if_pos ⟨rfl, h⟩)

def inUseOf (recs : List Rec) (r : Nat) : Bool := (recs.getD r blankRec).inUse

theorem inUseOf_set (recs : List Rec) (r r' : Nat) (x : Rec) :
    inUseOf (recs.set r x) r' = if r = r' ∧ r < recs.length then x.inUse else inUseOf recs r' := by
  unfold inUseOf
  rw [ListFacts.getD_set]
  split <;> rfl

theorem inUseOf_set_ne {recs : List Rec} {r r' : Nat} (x : Rec) (h : r' ≠ r) :
    inUseOf (recs.set r x) r' = inUseOf recs r' := by
  rw [inUseOf_set, if_neg fun hh => h hh.1.symm]

theorem inUseOf_set_self {recs : List Rec} {r : Nat} (x : Rec) (h : r < recs.length) :
    inUseOf (recs.set r x) r = x.inUse := by
  rw [inUseOf_set, if_pos ⟨rfl, h⟩]

theorem inUseOf_lt {recs : List Rec} {r : Nat} (h : inUseOf recs r = true) : r < recs.length :=
  Nat.lt_of_not_le fun h1 => by rw [inUseOf, ListFacts.getD_of_length_le h1] at h; cases h

theorem inUseOf_append_blank (recs : List Rec) (r : Nat) :
    inUseOf (recs ++ [blankRec]) r = inUseOf recs r :=
  congrArg Rec.inUse (ListFacts.getD_append_default recs blankRec r)

/-- `st'` differs from `st` only in clock / plan / ledger / invalidation time, in the connection of
    record `r`, and in timestamps and `fresh` flags, which the frame does not track -/
structure FrameR (r : Nat) (st st' : St) : Prop where
  queue : st'.queue = st.queue
  overflow : st'.overflow = st.overflow
  fairies : st'.fairies = st.fairies
  len : st'.recs.length = st.recs.length
  inUse : ∀ r', inUseOf st'.recs r' = inUseOf st.recs r'
  conn : ∀ r', r' ≠ r → connOf st'.recs r' = connOf st.recs r'

theorem FrameR.trans {r : Nat} {a b c : St} (h1 : FrameR r a b) (h2 : FrameR r b c) : FrameR r a c where
  queue := h2.queue.trans h1.queue
  overflow := h2.overflow.trans h1.overflow
  fairies := h2.fairies.trans h1.fairies
  len := h2.len.trans h1.len
  inUse r' := (h2.inUse r').trans (h1.inUse r')
  conn r' hr := (h2.conn r' hr).trans (h1.conn r' hr)

theorem FrameR.lt {r k : Nat} {st st' : St} (h : FrameR r st st') (hk : k < st.recs.length) :
    k < st'.recs.length := h.len ▸ hk

theorem FrameR.of_fields {r : Nat} {st st' : St} (queue : st'.queue = st.queue)
    (overflow : st'.overflow = st.overflow) (fairies : st'.fairies = st.fairies) (recs : st'.recs = st.recs) :
    FrameR r st st' where
  queue
  overflow
  fairies
  len := by rw [recs]
  inUse _ := by rw [recs]
  conn _ _ := by rw [recs]

theorem FrameR.refl (r : Nat) (st : St) : FrameR r st st := .of_fields rfl rfl rfl rfl

theorem FrameR.of_setRec (st : St) (r : Nat) (x : Rec) (hx : x.inUse = (getRec st r).inUse) :
    FrameR r st (setRec st r x) where
  queue := rfl
  overflow := rfl
  fairies := rfl
  len := List.length_set
  inUse := ListFacts.getD_set_same Rec.inUse hx
  conn _ hr' := connOf_set_ne x hr'

structure RInv (recs : List Rec) (conns : List Bool) : Prop where
  isOpen : ∀ r c, connOf recs r = some c → conns[c]? = some true
  inj : ∀ r r' c, connOf recs r = some c → connOf recs r' = some c → r = r'

theorem RInv.congr {recs recs' conns} (h : RInv recs conns) (e : ∀ r, connOf recs' r = connOf recs r) :
    RInv recs' conns :=
  ⟨fun r c hc => h.isOpen r c (e r ▸ hc), fun r r' c h1 h2 => h.inj r r' c (e r ▸ h1) (e r' ▸ h2)⟩

theorem RInv.set_none {recs conns} (h : RInv recs conns) (r : Nat) (x : Rec)
    (hx : x.conn = none) : RInv (recs.set r x) conns :=
  ⟨fun r' c hc => h.isOpen r' c (connOf_set_none hx hc).1,
   fun r1 r2 c h1 h2 => h.inj r1 r2 c (connOf_set_none hx h1).1 (connOf_set_none hx h2).1⟩

theorem RInv.set_new {recs conns} (h : RInv recs conns) (r : Nat) (x : Rec)
    (hx : x.conn = some conns.length) : RInv (recs.set r x) (conns ++ [true]) := by
  have lt : ∀ r' c, connOf recs r' = some c → c < conns.length :=
    fun r' c hc => (List.getElem_of_getElem? (h.isOpen r' c hc)).1
  have key : ∀ r' c, connOf (recs.set r x) r' = some c →
      r' = r ∧ c = conns.length ∨ connOf recs r' = some c ∧ c < conns.length := by
    intro r' c hc
    rw [connOf_set] at hc
    split at hc
    · rename_i hh
      rw [hx] at hc; cases hc
      exact .inl ⟨hh.1.symm, rfl⟩
    · exact .inr ⟨hc, lt r' c hc⟩
  constructor
  · intro r' c hc
    rcases key r' c hc with ⟨_, rfl⟩ | ⟨h1, h2⟩
    · simp
    · rw [List.getElem?_append_left h2]
      exact h.isOpen r' c h1
  · intro r1 r2 c h1 h2
    rcases key r1 c h1 with ⟨e1, ec1⟩ | ⟨h1, l1⟩ <;> rcases key r2 c h2 with ⟨e2, ec2⟩ | ⟨h2, l2⟩
    · rw [e1, e2]
    · omega
    · omega
    · exact h.inj r1 r2 c h1 h2

theorem RInv.set_close {recs conns} (h : RInv recs conns) (r c : Nat) (x : Rec)
    (hc : connOf recs r = some c) (hx : x.conn = none) :
    RInv (recs.set r x) (conns.set c false) := by
  refine ⟨fun r' c' hc' => ?_, (h.set_none r x hx).inj⟩
  obtain ⟨h1, hne⟩ := connOf_set_none hx hc'
  have hcc : c ≠ c' := fun e => hne ⟨h.inj r r' c hc (e ▸ h1), connOf_some_lt hc⟩
  rw [List.getElem?_set_ne hcc]
  exact h.isOpen r' c' h1

structure TInv (st : St) : Prop where
  inv : st.invTime < st.clock
  recs : ∀ x ∈ st.recs, x.start < st.clock ∧ x.softInv < st.clock

def Owned (recs : List Rec) (conns : List Bool) : Prop :=
  ∀ c, conns[c]? = some true → ∃ r, connOf recs r = some c

structure GR (st : St) : Prop where
  r : RInv st.recs st.conns
  o : Owned st.recs st.conns
  t : TInv st

theorem TInv.congr {st st' : St} (h : TInv st) (hrecs : st'.recs = st.recs) (hinv : st'.invTime < st'.clock)
    (hclock : st.clock ≤ st'.clock) : TInv st' := by
  refine ⟨hinv, fun x hx => ?_⟩
  rw [hrecs] at hx
  exact (h.recs x hx).imp (Nat.lt_of_lt_of_le · hclock) (Nat.lt_of_lt_of_le · hclock)

theorem GR.congr {st st' : St} (h : GR st) (hrecs : st'.recs = st.recs) (hconns : st'.conns = st.conns)
    (hinv : st'.invTime = st.invTime) (hclock : st.clock ≤ st'.clock) : GR st' :=
  ⟨by rw [hrecs, hconns]; exact h.r, by rw [hrecs, hconns]; exact h.o,
    h.t.congr hrecs (hinv ▸ Nat.lt_of_lt_of_le h.t.inv hclock) hclock⟩

theorem getRec_mem_or_blank (st : St) (r : Nat) : getRec st r ∈ st.recs ∨ getRec st r = blankRec := by
  unfold getRec
  rcases Nat.lt_or_ge r st.recs.length with h1 | h1
  · left; simp [List.getD_eq_getElem?_getD, List.getElem?_eq_getElem h1]
  · exact .inr (ListFacts.getD_of_length_le h1 _)

theorem TInv.getRec {st : St} (h : TInv st) (r : Nat) :
    (getRec st r).start < st.clock ∧ (getRec st r).softInv < st.clock := by
  rcases getRec_mem_or_blank st r with h1 | h1
  · exact h.recs _ h1
  · rw [h1]; have := h.inv; simp [blankRec]; omega

theorem getRec_conn (st : St) (r : Nat) : (getRec st r).conn = connOf st.recs r := rfl

theorem getRec_inUse (st : St) (r : Nat) : (getRec st r).inUse = inUseOf st.recs r := rfl

theorem Owned.congr {recs recs' conns} (h : Owned recs conns) (e : ∀ r, connOf recs' r = connOf recs r) :
    Owned recs' conns := fun c hc =>
  (h c hc).imp fun r hr => (e r).trans hr

theorem TInv.setRec {st : St} (h : TInv st) (r : Nat) {x : Rec}
    (ht : x.start < st.clock ∧ x.softInv < st.clock) : TInv (setRec st r x) :=
  ⟨h.inv, fun y hy => (List.mem_or_eq_of_mem_set hy).elim (h.recs y) (· ▸ ht)⟩

theorem GR.setRec_keep {st : St} (h : GR st) (r : Nat) (x : Rec)
    (hc : x.conn = connOf st.recs r) (ht : x.start < st.clock ∧ x.softInv < st.clock) :
    GR (setRec st r x) :=
  ⟨h.r.congr (connOf_set_same hc), h.o.congr (connOf_set_same hc), h.t.setRec r ht⟩

theorem GR.setField {st : St} (h : GR st) (r : Nat) (x : Rec)
    (hc : x.conn = (getRec st r).conn) (h1 : x.start = (getRec st r).start)
    (h2 : x.softInv = (getRec st r).softInv) : GR (setRec st r x) := by
  apply h.setRec_keep r x hc
  rw [h1, h2]; exact h.t.getRec r

theorem GR.setRec_conns {st : St} (h : GR st) (r : Nat) {x : Rec} {conns : List Bool}
    (hr : RInv (st.recs.set r x) conns) (ho : Owned (st.recs.set r x) conns)
    (h1 : x.start = (getRec st r).start) (h2 : x.softInv = (getRec st r).softInv) :
    GR (setRec { st with conns := conns } r x) :=
  ⟨hr, ho, (h.t.congr (st' := { st with conns := conns }) rfl h.t.inv (Nat.le_refl _)).setRec r
    (by rw [h1, h2]; exact h.t.getRec r)⟩

structure RecKeep (r : Nat) (st st' : St) : Prop where
  frame : FrameR r st st'
  gr : GR st → GR st'
  conn : ∀ c, connOf st'.recs r = some c → connOf st.recs r = some c

structure RecStep (r : Nat) (st st' : St) : Prop where
  frame : FrameR r st st'
  gr : r < st.recs.length → GR st → GR st'

theorem RecKeep.refl (r : Nat) (st : St) : RecKeep r st st := ⟨.refl r st, id, fun _ => id⟩

theorem RecKeep.trans {r : Nat} {a b c : St} (h1 : RecKeep r a b) (h2 : RecKeep r b c) : RecKeep r a c :=
  ⟨h1.frame.trans h2.frame, h2.gr ∘ h1.gr, fun x h => h1.conn x (h2.conn x h)⟩

theorem RecKeep.conn_none {r : Nat} {st st' : St} (h : RecKeep r st st') (hn : connOf st.recs r = none) :
    connOf st'.recs r = none :=
  Option.eq_none_iff_forall_ne_some.2 fun c hc => by rw [h.conn c hc] at hn; cases hn

theorem RecKeep.toStep {r : Nat} {st st' : St} (h : RecKeep r st st') : RecStep r st st' :=
  ⟨h.frame, fun _ => h.gr⟩

theorem RecStep.trans {r : Nat} {a b c : St} (h1 : RecStep r a b) (h2 : RecStep r b c) : RecStep r a c :=
  ⟨h1.frame.trans h2.frame, fun hr g => h2.gr (h1.frame.lt hr) (h1.gr hr g)⟩

theorem tickSt_keep (r : Nat) (st : St) : RecKeep r st (tickSt st) :=
  ⟨.of_fields rfl rfl rfl rfl, fun h => h.congr rfl rfl rfl (Nat.le_succ _), fun _ => id⟩

theorem dropFault_keep (r : Nat) (st : St) : RecKeep r st (dropFault st) :=
  ⟨.of_fields rfl rfl rfl rfl, fun h => h.congr rfl rfl rfl (Nat.le_refl _), fun _ => id⟩

theorem setField_keep (r : Nat) (st : St) (x : Rec) (hu : x.inUse = (getRec st r).inUse)
    (hc : x.conn = (getRec st r).conn) (h1 : x.start = (getRec st r).start)
    (h2 : x.softInv = (getRec st r).softInv) : RecKeep r st (setRec st r x) :=
  ⟨.of_setRec st r x hu, fun g => g.setField r x hc h1 h2, fun _ h => (connOf_set_same hc r).symm.trans h⟩

theorem bumpInvTime_keep (r r0 : Nat) (st : St) : RecKeep r st (bumpInvTime st r0) := by
  unfold bumpInvTime
  split
  · exact ⟨.of_fields rfl rfl rfl rfl,
      fun h => ⟨h.r, h.o, h.t.congr rfl (Nat.lt_succ_self _) (Nat.le_succ _)⟩, fun _ => id⟩
  · exact .refl r st

theorem connectPre_keep {st : St} (r : Nat) (hn : connOf st.recs r = none) : RecKeep r st (connectPre st r) :=
  (tickSt_keep r st).trans ⟨.of_setRec _ r _ rfl, fun g =>
    g.setRec_keep r _ hn.symm ⟨Nat.lt_succ_self _, (g.t.getRec r).2⟩, fun _ h => (connOf_set_none rfl h).1⟩

theorem connectOk_step {st : St} (r : Nat) (hn : connOf st.recs r = none) : RecStep r st (connectOk st r) := by
  unfold connectOk
  refine ⟨.trans (b := { st with conns := st.conns ++ [true] }) (.of_fields rfl rfl rfl rfl) (.of_setRec _ r _ rfl),
    fun hr h => h.setRec_conns r (h.r.set_new r _ rfl) (fun c hc => ?_) rfl rfl⟩
  by_cases hcl : c < st.conns.length
  · rw [List.getElem?_append_left hcl] at hc
    obtain ⟨r', hr'⟩ := h.o c hc
    exact ⟨r', (connOf_set_ne _ fun e => by rw [e, hn] at hr'; cases hr').trans hr'⟩
  · have := (List.getElem_of_getElem? hc).1
    rw [List.length_append, List.length_singleton] at this
    obtain rfl : c = st.conns.length := by omega
    exact ⟨r, connOf_set_self _ hr⟩

/-- `connect` up to the call of the creator -/
theorem connectPre_dropFault_keep {st : St} (r : Nat) (hn : connOf st.recs r = none) :
    RecKeep r st (dropFault (connectPre st r)) :=
  (connectPre_keep r hn).trans (dropFault_keep r _)

theorem connect_step {st : St} (r : Nat) (hn : connOf st.recs r = none) : RecStep r st (connect st r).1 := by
  have h1 := connectPre_dropFault_keep r hn
  unfold connect
  split
  · exact h1.toStep
  · exact h1.toStep.trans (connectOk_step r (h1.conn_none hn))

theorem connect_fail {st : St} {r : Nat} (hn : connOf st.recs r = none) (hf : (connect st r).2 = false) :
    RecKeep r st (connect st r).1 := by
  unfold connect at hf ⊢
  split
  · exact connectPre_dropFault_keep r hn
  · rename_i h; rw [if_neg h] at hf; cases hf

theorem closeConn_keep {st : St} (r c : Nat) (hc : connOf st.recs r = some c) : RecKeep r st (closeConn st r c) := by
  unfold closeConn
  refine ⟨.trans (b := { st with conns := st.conns.set c false }) (.of_fields rfl rfl rfl rfl) (.of_setRec _ r _ rfl),
    fun h => h.setRec_conns r (h.r.set_close r c _ hc rfl) (fun c' hc' => ?_) rfl rfl,
    fun _ h => (connOf_set_none rfl h).1⟩
  have hne : c ≠ c' := fun e => by subst e; simp [List.getElem?_set] at hc'
  rw [List.getElem?_set_ne hne] at hc'
  obtain ⟨r', hr'⟩ := h.o c' hc'
  have hr : r' ≠ r := by
    intro e
    rw [e, hc] at hr'
    exact hne (Option.some.inj hr')
  exact ⟨r', (connOf_set_ne _ hr).trans hr'⟩

theorem closeRec_keep (r : Nat) (st : St) : RecKeep r st (closeRec st r) := by
  unfold closeRec
  split
  · exact .refl r st
  · exact (dropFault_keep r st).trans (closeConn_keep r _ ‹_›)

theorem closeRec_connOf (st : St) (r : Nat) : connOf (closeRec st r).recs r = none := by
  unfold closeRec
  split
  · rename_i hc; exact hc
  · rename_i c hc
    exact connOf_set_self (recs := st.recs) _ (connOf_some_lt (c := c) hc)

theorem invalidate_keep (r : Nat) (b : Bool) (st : St) : RecKeep r st (invalidate st r b) := by
  unfold invalidate
  split
  · exact .refl r st
  · split
    · refine (tickSt_keep r st).trans ⟨.of_setRec _ r _ rfl, fun g => ?_, fun _ h =>
        (connOf_set_same (recs := st.recs) (x := { getRec st r with softInv := st.clock }) rfl r).symm.trans h⟩
      -- soft: the connection stays, `_soft_invalidate_time` is the time before the tick
      exact g.setRec_keep r _ rfl ⟨(g.t.getRec r).1, Nat.lt_succ_self _⟩
    · exact closeRec_keep r st

theorem getConnection_step (c : Cfg) (r : Nat) (st : St) : RecStep r st (getConnection c st r).1 := by
  have reconnect : ∀ s, RecStep r s (connect (closeRec s r) r).1 :=
    fun s => (closeRec_keep r s).toStep.trans (connect_step r (closeRec_connOf s r))
  unfold getConnection
  split
  · exact connect_step r ‹_›
  · split
    · split
      · exact (tickSt_keep r st).toStep.trans (reconnect _)
      · exact (tickSt_keep r st).toStep
    · split
      · exact reconnect st
      · exact (RecKeep.refl r st).toStep

theorem afterDisconnect_keep (r ev : Nat) (st : St) : RecKeep r st (afterDisconnect st r ev) := by
  unfold afterDisconnect
  split
  · exact (invalidate_keep r false st).trans (bumpInvTime_keep r r _)
  · exact invalidate_keep r false st

@[simp] theorem doReturn_length (c : Cfg) (st : St) (r : Nat) :
    (doReturn c st r).recs.length = st.recs.length := by
  unfold doReturn; split
  · exact (closeRec_keep r st).frame.len
  · rfl
@[simp] theorem checkin_length (c : Cfg) (st : St) (r : Nat) (b : Bool) :
    (checkin c st r b).recs.length = st.recs.length := by
  unfold checkin; split
  · rfl
  · exact (doReturn_length ..).trans List.length_set

/-- "Double checkin attempted" -/
theorem checkin_idle (c : Cfg) {st : St} {r : Nat} (h : inUseOf st.recs r = false) :
    checkin c st r true = st := if_pos ⟨h, rfl⟩

theorem checkin_eq (c : Cfg) {st : St} {r : Nat} {b : Bool} (h : inUseOf st.recs r = true ∨ b = false) :
    checkin c st r b = doReturn c (setRec st r { getRec st r with inUse := false }) r :=
  if_neg fun hh => h.elim (fun hu => by rw [getRec_inUse, hu] at hh; cases hh.1)
    (fun hb => by rw [hb] at hh; cases hh.2)

@[simp] theorem markInUse_length (st : St) (r : Nat) : (markInUse st r).recs.length = st.recs.length :=
  List.length_set

theorem pingSt_rule {P : St → Prop} (hdrop : ∀ st, P st → P (dropFault st)) (c : Cfg) (b : Bool)
    {st : St} (h : P st) : P (pingSt c st b) := by
  unfold pingSt; split
  · exact hdrop st h
  · exact h

theorem evSt_rule {P : St → Prop} (hdrop : ∀ st, P st → P (dropFault st)) (c : Cfg) (n : Nat)
    {st : St} (h : P st) : P (evSt c st n) := by
  unfold evSt; split
  · exact h
  · split
    · exact hdrop st h
    · exact h

theorem resetStep_keep (c : Cfg) (r : Nat) (ca : Option Nat) (st : St) : RecKeep r st (resetStep c st r ca) := by
  unfold resetStep
  split
  · exact .refl r st
  · split
    · exact .refl r st
    · split
      · exact (dropFault_keep r st).trans (invalidate_keep r false _)
      · exact dropFault_keep r st

/-- `P`: while the record is in use by the fairy being built; `Q`: once it is checked in again -/
theorem checkoutLoop_rule {c : Cfg} {r : Nat} {P Q : St → Prop}
    (hfresh : ∀ st, P st → P (setRec st r { getRec st r with fresh := false }))
    (hdrop : ∀ st, P st → P (dropFault st))
    (hre : ∀ st ev, P st → (getConnection c (afterDisconnect st r ev) r).2 = true →
      P (getConnection c (afterDisconnect st r ev) r).1)
    (hrefail : ∀ st ev, P st →
      Q (checkinFailed c (getConnection c (afterDisconnect st r ev) r).1 r true))
    (hfail : ∀ st, P st → Q (checkinFailed c st r true)) :
    ∀ n st, P st →
      (P (checkoutLoop c r n st).1 ∧
        (checkoutLoop c r n st).2 = .ok (getRec (checkoutLoop c r n st).1 r).conn) ∨
      (Q (checkoutLoop c r n st).1 ∧ ∀ conn, (checkoutLoop c r n st).2 ≠ .ok conn) := by
  intro n
  induction n with
  | zero =>
    -- attempts exhausted: a record no longer in use is left alone by `checkin`, so either
    -- way the state is `checkinFailed c st r true`
    intro st h
    refine .inr ⟨?_, nofun⟩
    unfold checkoutLoop
    dsimp only
    split
    · exact hfail st h
    · have := hfail st h
      rwa [checkinFailed, checkin_idle c ((getRec_inUse ..).symm.trans (Bool.eq_false_iff.2 ‹_›))] at this
  | succ n ih =>
    intro st h
    have h1 := pingSt_rule hdrop c (getRec st r).fresh (hfresh st h)
    generalize hres : checkoutLoop c r (n + 1) st = res
    unfold checkoutLoop at hres
    dsimp only at hres
    generalize pingSt c _ _ = st1 at h1 hres
    generalize pingRes c _ _ = ping at hres
    have h2 := evSt_rule hdrop c ping h1
    generalize evSt c st1 ping = st2 at h2 hres
    generalize evRes c st1 ping = ev at hres
    by_cases hp : ping = 2
    · rw [if_pos hp] at hres
      subst hres
      exact .inr ⟨hfail _ h1, nofun⟩
    rw [if_neg hp] at hres
    by_cases he : ev = 0
    · rw [if_pos he] at hres
      subst hres
      exact .inl ⟨h2, rfl⟩
    rw [if_neg he] at hres
    by_cases he3 : ev = 3
    · rw [if_pos he3] at hres
      subst hres
      exact .inr ⟨hfail _ h2, nofun⟩
    rw [if_neg he3] at hres
    by_cases hok : (getConnection c (afterDisconnect st2 r ev) r).2 = true
    · rw [if_pos hok] at hres
      subst hres
      exact ih _ (hre _ _ h2 hok)
    · rw [if_neg hok] at hres
      subst hres
      exact .inr ⟨hrefail _ _ h2, nofun⟩

theorem checkoutLoop_length (c : Cfg) (r : Nat) :
    ∀ (n : Nat) (st : St), (checkoutLoop c r n st).1.recs.length = st.recs.length := by
  intro n st
  have hfail : ∀ s : St, s.recs.length = st.recs.length →
      (checkinFailed c s r true).recs.length = st.recs.length :=
    fun s h => (checkin_length ..).trans ((invalidate_keep r false s).frame.len.trans h)
  have hre : ∀ (s : St) ev, s.recs.length = st.recs.length →
      (getConnection c (afterDisconnect s r ev) r).1.recs.length = st.recs.length :=
    fun s ev h => (getConnection_step c r _).frame.len.trans ((afterDisconnect_keep r ev s).frame.len.trans h)
  exact (checkoutLoop_rule (P := fun s => s.recs.length = st.recs.length)
    (Q := fun s => s.recs.length = st.recs.length)
    (fun _ h => List.length_set.trans h) (fun _ h => h) (fun s ev h _ => hre s ev h)
    (fun s ev h => hfail _ (hre s ev h)) hfail n st rfl).elim (·.1) (·.1)

theorem newRec_connOf_new (st : St) : connOf (newRec st).recs st.recs.length = none :=
  (connOf_append_blank ..).trans (congrArg Rec.conn (ListFacts.getD_of_length_le (Nat.le_refl _) _))

/-- `takeOne` is written out again here as the `Pool.takeOne` (`Queue._get`) of M-POOL part 1 -/
theorem takeOne_perm {lifo : Bool} {q : List Nat} {r : Nat} {rest : List Nat}
    (h : takeOne lifo q = some (r, rest)) : q.Perm (r :: rest) :=
  Pool.takeOne_perm (show Pool.takeOne lifo q = some (r, rest) from h)

end SaVerif.PoolFault
