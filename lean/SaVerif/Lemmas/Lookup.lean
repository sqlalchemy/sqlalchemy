/-! Looking an element up by a property that only it can have: `find?` and `any` are then decided by that
one element.  Distinct keys (`eq_of_key_eq`) are the usual reason for "only". -/
namespace SaVerif.Lookup

/-- `Nodup` of the keys is pairwise `key a ≠ key b` in list order; it is read in both directions to
    cover `b` before `a` and `a` before `b`. -/
theorem eq_of_key_eq {α κ : Type} {key : α → κ} {l : List α} (hn : (l.map key).Nodup) {a b : α}
    (ha : a ∈ l) (hb : b ∈ l) : key b = key a → b = a :=
  List.Pairwise.forall_of_forall_of_flip (R := fun b a : α => key b = key a → b = a)
    (fun _ _ _ => rfl)
    (List.Pairwise.of_map _ (fun _ _ h e => (h e).elim) hn)
    (List.Pairwise.of_map _ (fun _ _ h e => (h e.symm).elim) hn)
    hb ha

theorem find?_only {α : Type} {p : α → Bool} {l : List α} {a : α} (ha : a ∈ l)
    (hu : ∀ b ∈ l, p b = true → b = a) : l.find? p = if p a then some a else none := by
  cases hf : l.find? p with
  | none => rw [if_neg (List.find?_eq_none.1 hf a ha)]
  | some b =>
    cases hu b (List.mem_of_find?_eq_some hf) (List.find?_some hf)
    rw [if_pos (List.find?_some hf)]

theorem any_only {α : Type} {p : α → Bool} {l : List α} {a : α} (ha : a ∈ l)
    (hu : ∀ b ∈ l, p b = true → b = a) : l.any p = p a := by
  rw [Bool.eq_iff_iff, List.any_eq_true]
  exact ⟨fun ⟨b, hb, hp⟩ => hu b hb hp ▸ hp, fun hp => ⟨a, ha, hp⟩⟩

theorem lookup_cons_eq {α β : Type} [BEq α] [LawfulBEq α] [DecidableEq α] (k k' : α) (v : β)
    (l : List (α × β)) : ((k', v) :: l).lookup k = if k = k' then some v else l.lookup k := by
  rw [List.lookup_cons]
  by_cases h : k = k'
  · rw [if_pos h, beq_iff_eq.2 h]
  · rw [if_neg h, beq_eq_false_iff_ne.2 h]

end SaVerif.Lookup
