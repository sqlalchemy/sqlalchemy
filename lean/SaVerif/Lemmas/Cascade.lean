import SaVerif.Model.Cascade
/-! The loop invariant of `Mapper.cascade_iterator` (M-CASCADE). -/
namespace SaVerif.Cascade

theorem expand_spec (g : Graph) : ∀ (l visited : List Nat),
    (∀ x, x ∈ (expand g l visited).2 ↔ x ∈ visited ∨ x ∈ (expand g l visited).1) ∧
    (∀ c, c ∈ l → g.halt c = false → c ∈ (expand g l visited).2) ∧
    (∀ c, c ∈ (expand g l visited).1 → c ∈ l ∧ g.halt c = false ∧ c ∉ visited) ∧
    (expand g l visited).1.Nodup
  | [], visited => by simp [expand]
  | c :: cs, visited => by
    unfold expand
    split
    next hskip =>
      obtain ⟨hvis, hall, hnew, hnd⟩ := expand_spec g cs visited
      refine ⟨hvis, ?_, fun d hd => ⟨List.mem_cons_of_mem _ (hnew d hd).1, (hnew d hd).2⟩, hnd⟩
      intro d hd hh
      rcases List.mem_cons.1 hd with rfl | hd
      · simp only [Bool.or_eq_true, List.contains_eq_mem, decide_eq_true_eq] at hskip
        rcases hskip with hv | hv
        · exact (hvis d).2 (.inl hv)
        · rw [hh] at hv; cases hv
      · exact hall d hd hh
    next hskip =>
      simp only [Bool.or_eq_true, List.contains_eq_mem, decide_eq_true_eq, not_or,
        Bool.not_eq_true] at hskip
      obtain ⟨hvis, hall, hnew, hnd⟩ := expand_spec g cs (c :: visited)
      refine ⟨fun x => ?_, ?_, ?_, List.nodup_cons.2 ⟨fun hm => ?_, hnd⟩⟩
      · show x ∈ _ ↔ x ∈ visited ∨ x ∈ c :: _
        rw [hvis x, List.mem_cons, List.mem_cons]
        exact or_assoc.trans or_left_comm
      · intro d hd hh
        rcases List.mem_cons.1 hd with rfl | hd
        · exact (hvis d).2 (.inl (List.mem_cons_self ..))
        · exact hall d hd hh
      · intro d hd
        rcases List.mem_cons.1 hd with rfl | hd
        · exact ⟨List.mem_cons_self .., hskip.2, hskip.1⟩
        · obtain ⟨hdl, hdh, hdv⟩ := hnew d hd
          exact ⟨List.mem_cons_of_mem _ hdl, hdh, fun hv => hdv (List.mem_cons_of_mem _ hv)⟩
      · exact (hnew c hm).2.2 (List.mem_cons_self ..)

/-- instances queued on the stack, not yet yielded -/
def pend : List Frame → List Nat
  | [] => []
  | .props _ _ :: rest => pend rest
  | .insts q :: rest => q ++ pend rest

theorem mem_allRels (g : Graph) (r : Nat) : r ∈ allRels g ↔ r < g.nrels := by
  simp [allRels]

structure Inv (g : Graph) (root : Nat) (s : St) : Prop where
  sound : ∀ x, x ∈ s.visited → Reach g root x
  frames : ∀ n rs, Frame.props n rs ∈ s.stack → n = root ∨ Reach g root n
  rels : ∀ n rs, Frame.props n rs ∈ s.stack → ∀ r, r ∈ rs → r < g.nrels
  /-- visited = yielded ∪ queued, each once -/
  nodup : (s.out ++ pend s.stack).Nodup
  cover : ∀ x, x ∈ s.visited ↔ x ∈ s.out ∨ x ∈ pend s.stack
  /-- the root and every yielded object have each flagged child visited, or the relationship
      is still waiting in one of their frames -/
  closed : ∀ x, (x = root ∨ x ∈ s.out) → ∀ r, r < g.nrels → g.flag r = true →
    ∀ c, c ∈ g.vals x r → g.halt c = false →
      c ∈ s.visited ∨ ∃ rs, Frame.props x rs ∈ s.stack ∧ r ∈ rs

theorem inv_init (g : Graph) (root : Nat) :
    Inv g root { stack := [.props root (allRels g)], visited := [], out := [] } := by
  refine ⟨nofun, ?_, ?_, List.nodup_nil, fun x => by simp [pend], ?_⟩
  · intro n rs h
    cases List.mem_singleton.1 h
    exact .inl rfl
  · intro n rs h r hr
    cases List.mem_singleton.1 h
    exact (mem_allRels g r).1 hr
  · intro x hx r hr _ c _ _
    rcases hx with rfl | hx
    · exact .inr ⟨allRels g, List.mem_singleton.2 rfl, (mem_allRels g r).2 hr⟩
    · cases hx

/-- `Inv` sees the stack only through `pend` and its `props` frames -/
theorem Inv.of_stack {g : Graph} {root : Nat} {s : St} (h : Inv g root s) {S S' : List Frame}
    (hst : s.stack = S) (hp : pend S' = pend S)
    (hfrom : ∀ n rs, Frame.props n rs ∈ S' → Frame.props n rs ∈ S)
    (hkeep : ∀ n rs r, Frame.props n rs ∈ S → r ∈ rs → Frame.props n rs ∈ S') :
    Inv g root { s with stack := S' } := by
  subst hst
  refine ⟨h.sound, fun n rs hm => h.frames n rs (hfrom n rs hm),
    fun n rs hm => h.rels n rs (hfrom n rs hm), ?_, fun x => ?_, fun x hx r hr hfl c hcv hh => ?_⟩
  · show (s.out ++ pend S').Nodup
    rw [hp]; exact h.nodup
  · show x ∈ s.visited ↔ x ∈ s.out ∨ x ∈ pend S'
    rw [hp]; exact h.cover x
  · exact (h.closed x hx r hr hfl c hcv hh).imp_right fun ⟨rs, hm, hrs⟩ =>
      ⟨rs, hkeep x rs r hm hrs, hrs⟩

theorem Inv.drop_insts_nil {g : Graph} {root : Nat} {s : St} (h : Inv g root s) {rest : List Frame}
    (hst : s.stack = .insts [] :: rest) : Inv g root { s with stack := rest } :=
  h.of_stack hst rfl (fun _ _ => List.mem_cons_of_mem _) fun n rs _ hm _ => by simpa using hm

/-- relationship `r` of the top frame is dealt with: `q` are the children newly visited through
    it (none when `r` does not carry the cascade), `v` the visited set afterwards -/
theorem inv_advance {g : Graph} {root : Nat} {s : St} {n r : Nat} {rs : List Nat} {rest : List Frame}
    {q v : List Nat} (hst : s.stack = .props n (r :: rs) :: rest)
    (hvis : ∀ x, x ∈ v ↔ x ∈ s.visited ∨ x ∈ q)
    (hall : g.flag r = true → ∀ c, c ∈ g.vals n r → g.halt c = false → c ∈ v)
    (hnew : ∀ c, c ∈ q → g.flag r = true ∧ c ∈ g.vals n r ∧ g.halt c = false ∧ c ∉ s.visited)
    (hnd : q.Nodup) (h : Inv g root s) :
    Inv g root { s with stack := .insts q :: .props n rs :: rest, visited := v } := by
  have ⟨hsound, hframes, hrels, hnodup, hcover, hclosed⟩ := h
  rw [hst] at hframes hrels hnodup hcover hclosed
  have hnr : n = root ∨ Reach g root n := hframes n (r :: rs) (List.mem_cons_self ..)
  have hrb : r < g.nrels := hrels n (r :: rs) (List.mem_cons_self ..) r (List.mem_cons_self ..)
  have hS : ∀ m rs', Frame.props m rs' ∈ Frame.insts q :: .props n rs :: rest →
      (m = n ∧ rs' = rs) ∨ Frame.props m rs' ∈ rest :=
    fun m rs' hm => by simpa using hm
  constructor
  case sound =>
    intro x hx
    rcases (hvis x).1 hx with hx | hx
    · exact hsound x hx
    · obtain ⟨hfl, hv, hh, _⟩ := hnew x hx
      have ed : Edge g n x := ⟨r, hrb, hfl, hv, hh⟩
      rcases hnr with rfl | hnr
      · exact .one ed
      · exact .more hnr ed
  case frames =>
    intro m rs' hm
    rcases hS m rs' hm with ⟨rfl, -⟩ | hm
    · exact hnr
    · exact hframes m rs' (List.mem_cons_of_mem _ hm)
  case rels =>
    intro m rs' hm r' hr'
    rcases hS m rs' hm with ⟨rfl, rfl⟩ | hm
    · exact hrels m (r :: rs') (List.mem_cons_self ..) r' (List.mem_cons_of_mem _ hr')
    · exact hrels m rs' (List.mem_cons_of_mem _ hm) r' hr'
  case nodup =>
    show (s.out ++ (q ++ pend rest)).Nodup
    have hnodup : (s.out ++ pend rest).Nodup := hnodup
    rw [List.nodup_append] at hnodup ⊢
    refine ⟨hnodup.1, List.nodup_append.2 ⟨hnd, hnodup.2.1, ?_⟩, ?_⟩
    · rintro a ha _ hb rfl
      exact (hnew a ha).2.2.2 ((hcover a).2 (.inr hb))
    · rintro a ha _ hb rfl
      rcases List.mem_append.1 hb with hb | hb
      · exact (hnew a hb).2.2.2 ((hcover a).2 (.inl ha))
      · exact hnodup.2.2 a ha a hb rfl
  case cover =>
    intro x
    show x ∈ v ↔ x ∈ s.out ∨ x ∈ q ++ pend rest
    rw [hvis x, hcover x, List.mem_append]
    exact or_assoc.trans (or_congr_right or_comm)
  case closed =>
    intro x hx r' hr' hfl c hcv hh
    rcases hclosed x hx r' hr' hfl c hcv hh with h1 | ⟨rs', hm, hrs⟩
    · exact .inl ((hvis c).2 (.inl h1))
    · rcases List.mem_cons.1 hm with heq | hm
      · cases heq
        rcases List.mem_cons.1 hrs with rfl | hrs
        · exact .inl (hall hfl c hcv hh)
        · exact .inr ⟨rs, List.mem_cons_of_mem _ (List.mem_cons_self ..), hrs⟩
      · exact .inr ⟨rs', List.mem_cons_of_mem _ (List.mem_cons_of_mem _ hm), hrs⟩

theorem inv_yield {g : Graph} {root : Nat} {s : St} {c : Nat} {cs : List Nat} {rest : List Frame}
    (hst : s.stack = .insts (c :: cs) :: rest) (h : Inv g root s) :
    Inv g root { s with stack := .props c (allRels g) :: .insts cs :: rest, out := s.out ++ [c] } := by
  have ⟨hsound, hframes, hrels, hnodup, hcover, hclosed⟩ := h
  rw [hst] at hframes hrels hnodup hcover hclosed
  have hcv : c ∈ s.visited := (hcover c).2 (.inr (List.mem_append_left _ (List.mem_cons_self ..)))
  have hS : ∀ m rs, Frame.props m rs ∈ Frame.props c (allRels g) :: .insts cs :: rest →
      (m = c ∧ rs = allRels g) ∨ Frame.props m rs ∈ rest :=
    fun m rs hm => by simpa using hm
  have hkeep : ∀ x rs, Frame.props x rs ∈ Frame.insts (c :: cs) :: rest →
      Frame.props x rs ∈ Frame.props c (allRels g) :: .insts cs :: rest :=
    fun x rs hm => List.mem_cons_of_mem _ (List.mem_cons_of_mem _ (by simpa using hm))
  constructor
  case sound => exact hsound
  case frames =>
    intro m rs hm
    rcases hS m rs hm with ⟨rfl, -⟩ | hm
    · exact .inr (hsound m hcv)
    · exact hframes m rs (List.mem_cons_of_mem _ hm)
  case rels =>
    intro m rs hm r hr
    rcases hS m rs hm with ⟨rfl, rfl⟩ | hm
    · exact (mem_allRels g r).1 hr
    · exact hrels m rs (List.mem_cons_of_mem _ hm) r hr
  case nodup =>
    show ((s.out ++ [c]) ++ (cs ++ pend rest)).Nodup
    have hnodup : (s.out ++ (c :: cs ++ pend rest)).Nodup := hnodup
    rwa [List.append_assoc, List.singleton_append]
  case cover =>
    intro x
    show x ∈ s.visited ↔ x ∈ s.out ++ [c] ∨ x ∈ cs ++ pend rest
    rw [hcover x, List.mem_append, List.mem_singleton, or_assoc]
    exact or_congr_right List.mem_cons
  case closed =>
    intro x hx r hr hfl d hdv hh
    have hx' : (x = root ∨ x ∈ s.out) ∨ x = c := by
      rcases hx with hx | hx
      · exact .inl (.inl hx)
      · exact (List.mem_append.1 hx).imp .inr List.mem_singleton.1
    rcases hx' with hx' | rfl
    · exact (hclosed x hx' r hr hfl d hdv hh).imp_right fun ⟨rs, hm, hrs⟩ =>
        ⟨rs, hkeep x rs hm, hrs⟩
    · exact .inr ⟨allRels g, List.mem_cons_self .., (mem_allRels g r).2 hr⟩

theorem inv_step (g : Graph) (root : Nat) (s : St) (h : Inv g root s) : Inv g root (step g s) := by
  unfold step
  split
  · exact h
  next n rest hst =>
    refine h.of_stack hst rfl (fun _ _ => List.mem_cons_of_mem _) fun m rs r hm hr => ?_
    rcases List.mem_cons.1 hm with heq | hm
    · cases heq; cases hr
    · exact hm
  next n r rs rest hst =>
    obtain ⟨hvis, hall, hnew, hnd⟩ := expand_spec g (g.vals n r) s.visited
    split
    next hflag =>
      have hI := inv_advance hst hvis (fun _ => hall) (fun c hc => ⟨hflag, hnew c hc⟩) hnd h
      dsimp only
      split
      next hq =>
        rw [List.isEmpty_iff.1 hq] at hI
        exact hI.drop_insts_nil rfl
      · exact hI
    next hflag =>
      exact (inv_advance (q := []) hst (fun x => by simp)
        (fun hf => absurd hf hflag) nofun List.nodup_nil h).drop_insts_nil rfl
  next rest hst => exact h.drop_insts_nil hst
  next c cs rest hst => exact inv_yield hst h

theorem inv_loop (g : Graph) (root : Nat) : ∀ (fuel : Nat) (s s' : St), Inv g root s →
    loop g fuel s = some s' → Inv g root s' ∧ s'.stack = []
  | 0, s, s', h, hl => by
    unfold loop at hl
    split at hl
    next he =>
      cases hl
      exact ⟨h, List.isEmpty_iff.1 he⟩
    · cases hl
  | fuel + 1, s, s', h, hl => by
    unfold loop at hl
    split at hl
    next he =>
      cases hl
      exact ⟨h, List.isEmpty_iff.1 he⟩
    · exact inv_loop g root fuel _ s' (inv_step g root s h) hl

theorem cascade_inv {g : Graph} {fuel root : Nat} {out : List Nat}
    (h : cascade g fuel root = some out) : ∃ s, Inv g root s ∧ s.stack = [] ∧ s.out = out := by
  obtain ⟨s, hl, rfl⟩ := Option.map_eq_some_iff.1 h
  obtain ⟨hinv, hstack⟩ := inv_loop g root fuel _ s (inv_init g root) hl
  exact ⟨s, hinv, hstack, rfl⟩

end SaVerif.Cascade
