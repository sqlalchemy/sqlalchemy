import SaVerif.Lemmas.UrlQuery
import Std.Data.String.ToInt
/-! The scanners of `_parse_url` (`scanUserinfo`, `scanHost`, `parsePort`) on a text of the shape that
`render` writes: a segment, then a delimiter. -/
namespace SaVerif.Url
open SaVerif.Gen.UrlCfg

/-- the body of `beforeLastAt`, which `scanHost` writes out for `]` -/
theorem revCut (ch : Char) (a : Str) {b : Str} (h : ch ∉ b) :
    (((a ++ ch :: b).reverse.dropWhile (· != ch)).drop 1).reverse = a := by
  rw [List.reverse_append, List.reverse_cons, List.append_assoc, List.singleton_append,
    (takeWhile_dropWhile_ne _ (mt List.mem_reverse.1 h)).2, List.drop_one, List.tail_cons, List.reverse_reverse]

/-- what follows the `[^:/]*` run holds no `@`, so the password branch is not taken -/
theorem dropWhile_rest_no_at {p : Char → Bool} {c : Char} {s rest : Str} (h : '@' ∉ s)
    (heq : s.dropWhile p = c :: rest) : rest.contains '@' = false := by
  simp only [List.contains_eq_mem, decide_eq_false_iff_not]
  exact fun hm => h (List.dropWhile_subset _ (heq ▸ List.mem_cons_of_mem _ hm))

theorem scanUserinfo_noAt {s : Str} (h : '@' ∉ s) : scanUserinfo s = (none, none, s) := by
  unfold scanUserinfo
  have hr : (s.takeWhile (fun c => c != ':' && c != '/')).contains '@' = false := by
    simp only [List.contains_eq_mem, decide_eq_false_iff_not]
    exact fun hm => h (List.takeWhile_subset _ hm)
  simp only [hr, Bool.false_eq_true, if_false]
  split
  · rename_i heq
    rw [dropWhile_rest_no_at h heq, if_neg Bool.false_ne_true]
  · rfl

theorem scanUserinfo_userpw {qu qp : Str} (T : Str)
    (hu : ∀ x ∈ qu, x ≠ ':' ∧ x ≠ '/') (hp : '@' ∉ qp) :
    scanUserinfo (qu ++ ':' :: (qp ++ '@' :: T)) = (some qu, some qp, T) := by
  unfold scanUserinfo
  have h1 := takeWhile_append_cons (p := fun c => c != ':' && c != '/') (a := qu) (c := ':')
    (qp ++ '@' :: T) (fun x hx => by simp [hu x hx]) (by simp)
  have hc : (qp ++ '@' :: T).contains '@' = true := by simp
  simp only [h1.1, h1.2, hc, if_true, (takeWhile_dropWhile_ne T hp).1, (takeWhile_dropWhile_ne T hp).2,
    List.drop_one, List.tail_cons]

theorem scanUserinfo_user {qu : Str} {T : Str}
    (hu : ∀ x ∈ qu, x ≠ ':' ∧ x ≠ '/') (hT : '@' ∉ T) :
    scanUserinfo (qu ++ '@' :: T) = (some qu, none, T) := by
  unfold scanUserinfo
  have hq : ∀ x ∈ qu, (x != ':' && x != '/') = true := fun x hx => by simp [hu x hx]
  rw [List.takeWhile_append_of_pos hq, List.dropWhile_append_of_pos hq,
    List.takeWhile_cons_of_pos (by decide), List.dropWhile_cons_of_pos (by decide)]
  have hcont : (qu ++ '@' :: T.takeWhile (fun c => c != ':' && c != '/')).contains '@' = true := by
    simp
  have hcut : beforeLastAt (qu ++ '@' :: T.takeWhile (fun c => c != ':' && c != '/')) = qu :=
    revCut '@' qu (fun hm => hT (List.takeWhile_subset _ hm))
  have hdrop : (qu ++ '@' :: T).drop (qu.length + 1) = T := by simp
  simp only [hcont, if_true, hcut, hdrop]
  split
  · rename_i heq
    rw [dropWhile_rest_no_at hT heq, if_neg Bool.false_ne_true]
  · rfl

def StartsDelim (T : Str) : Prop := ∀ c t, T = c :: t → (c = ':' ∨ c = '/' ∨ c = '?')

theorem StartsDelim.stop {T : Str} (hT : StartsDelim T) :
    ∀ c t, T = c :: t → (c != '/' && c != ':' && c != '?') = false := by
  intro c t he
  rcases hT c t he with h | h | h <;> (subst h; rfl)

theorem scanHost_v4 {h T : Str} (hne : h ≠ []) (hh : ∀ x ∈ h, x ≠ '/' ∧ x ≠ ':' ∧ x ≠ '?')
    (hb : ∀ t, h ≠ '[' :: t) (hT : StartsDelim T) : scanHost (h ++ T) = (some h, none, T) := by
  unfold scanHost
  have htw := ListFacts.takeWhile_dropWhile_append (p := fun c => c != '/' && c != ':' && c != '?') (a := h) (T := T)
    (fun x hx => by simp [hh x hx]) hT.stop
  simp only [htw.1, List.isEmpty_eq_false_iff.2 hne, Bool.false_eq_true, if_false, List.drop_left]
  split
  · rename_i t heq
    cases h with
    | nil => exact absurd rfl hne
    | cons x xs => exact absurd (by rw [(List.cons.inj heq).1]) (hb xs)
  · rfl

theorem scanHost_none {T : Str} (hT : StartsDelim T) : scanHost T = (none, none, T) := by
  unfold scanHost
  have htw := ListFacts.takeWhile_dropWhile_append (p := fun c => c != '/' && c != ':' && c != '?') (a := []) (T := T)
    (fun _ hx => nomatch hx) hT.stop
  rw [List.nil_append] at htw
  simp only [htw.1, List.isEmpty_nil, if_true]
  split
  · rename_i t
    exact absurd (hT.stop _ t rfl) (by decide)
  · rfl

theorem scanHost_v6 {h P R : Str} (hne : h ≠ []) (hh : ∀ x ∈ h, x ≠ '/' ∧ x ≠ '?')
    (hP : ∀ x ∈ P, x ≠ '/' ∧ x ≠ '?' ∧ x ≠ ']')
    (hR : ∀ c t, R = c :: t → (c = '/' ∨ c = '?')) :
    scanHost ('[' :: (h ++ ']' :: (P ++ R))) = (none, some h, P ++ R) := by
  unfold scanHost
  have hrun := ListFacts.takeWhile_dropWhile_append (p := fun c => c != '/' && c != '?') (a := h ++ ']' :: P) (T := R)
    (fun x hx => by
      rcases List.mem_append.1 hx with hx | hx
      · simp [hh x hx]
      · rcases List.mem_cons.1 hx with rfl | hx
        · decide
        · simp [hP x hx])
    (fun c t he => by rcases hR c t he with h | h <;> (subst h; rfl))
  have hcont : (h ++ ']' :: P).contains ']' = true := by simp
  have hdrop : (h ++ ']' :: (P ++ R)).drop (h.length + 1) = P ++ R := by simp
  rw [List.append_assoc, List.cons_append] at hrun
  simp only [hrun.1, hcont, if_true, revCut ']' h (fun hm => (hP _ hm).2.2 rfl), List.isEmpty_eq_false_iff.2 hne,
    Bool.false_eq_true, if_false, hdrop]

theorem port_chars (p : Int) : ∀ c ∈ (toString p).toList, c.isDigit = true ∨ c = '-' := by
  intro c hc
  rw [Int.toString_eq_repr, Int.repr_eq_if] at hc
  split at hc
  · rw [Nat.toList_repr] at hc
    exact Or.inl (Nat.isDigit_of_mem_toDigits (by decide) (by decide) hc)
  · rw [String.toList_append, Nat.toList_repr, String.toList_ofList] at hc
    rcases List.mem_append.1 hc with h | h
    · exact Or.inr (List.mem_singleton.1 h)
    · exact Or.inl (Nat.isDigit_of_mem_toDigits (by decide) (by decide) h)

theorem isWs_le {c : Char} (h : isWs c = true) : c.toNat ≤ 32 := by
  simp only [isWs, Bool.or_eq_true, beq_iff_eq] at h
  rcases h with ((((rfl | rfl) | rfl) | rfl) | h) | h
  iterate 4 decide
  all_goals omega

theorem not_ws_of_port_char {c : Char} (h : c.isDigit = true ∨ c = '-') : isWs c = false := by
  refine Bool.eq_false_iff.2 fun hw => absurd (isWs_le hw) ?_
  rcases h with h | rfl
  · simp only [Char.isDigit, Bool.and_eq_true, decide_eq_true_eq] at h
    exact Nat.not_le.2 (Nat.lt_of_lt_of_le (by decide) h.1)
  · decide

theorem dropWhile_eq_self {α} {p : α → Bool} {l : List α} (h : ∀ x ∈ l, p x = false) : l.dropWhile p = l := by
  cases l with
  | nil => rfl
  | cons a l => simp [h a List.mem_cons_self]

theorem parsePort_toString (p : Int) : parsePort (toString p).toList = some p := by
  unfold parsePort
  have hall : ∀ x ∈ (toString p).toList, isWs x = false :=
    fun x hx => not_ws_of_port_char (port_chars p x hx)
  rw [dropWhile_eq_self hall, dropWhile_eq_self (fun x hx => hall x (List.mem_reverse.1 hx)),
    List.reverse_reverse]
  dsimp only
  split
  · rename_i r heq
    exact absurd (port_chars p '+' (heq ▸ List.mem_cons_self)) (by decide)
  · rw [String.ofList_toList, Int.toString_eq_repr, Int.toInt?_repr]

/-! The segments `render` concatenates after `name://`, and the scanner of each on its segment followed
by the rest. -/

def segU (u : URL) : Str :=
  match u.username with
  | none => []
  | some user =>
    quote safeUser user
      ++ (match u.password with
          | none => []
          | some pw => ':' :: quote safePassword pw)
      ++ ['@']

def segH (u : URL) : Str :=
  match u.host with
  | none => []
  | some h => if h.contains ':' then '[' :: h ++ [']'] else h

def segP (u : URL) : Str :=
  match u.port with
  | none => []
  | some p => ':' :: (toString p).toList

def segD (u : URL) : Str :=
  match u.database with
  | none => []
  | some d => '/' :: quote safeDatabase d

def segQ (u : URL) : Str :=
  if u.query.isEmpty then [] else '?' :: intercalate ['&'] (renderPairs u.query)

theorem render_eq (u : URL) :
    render u = u.drivername ++ ':' :: '/' :: '/' :: (segU u ++ (segH u ++ (segP u ++ (segD u ++ segQ u)))) := by
  unfold render
  rw [String.toList_ofList]
  show _ ++ _ ++ segU u ++ segH u ++ segP u ++ segD u ++ segQ u = _
  simp only [List.append_assoc, List.cons_append, List.nil_append]

/- `user_chars`, `pw_chars`, `db_chars`: `not_mem_quote` asks `qAllowed safe c = false` for the literal `c`, a closed
   Boolean over the regenerated `safe` list, which evaluation decides. -/
theorem user_chars {s : Str} {x : Char} (h : x ∈ quote safeUser s) :
    x ≠ '@' ∧ x ≠ ':' ∧ x ≠ '/' := by
  refine ⟨?_, ?_, ?_⟩ <;> (intro he; subst he; exact not_mem_quote (by decide) h)

theorem pw_chars {s : Str} : '@' ∉ quote safePassword s := not_mem_quote (by decide)

theorem db_chars {s : Str} {x : Char} (h : x ∈ quote safeDatabase s) : x ≠ '?' ∧ x ≠ '@' := by
  refine ⟨?_, ?_⟩ <;> (intro he; subst he; exact not_mem_quote (by decide) h)

theorem port_char_ne {p : Int} {x : Char} (h : x ∈ (toString p).toList) :
    x ≠ '/' ∧ x ≠ '?' ∧ x ≠ ']' ∧ x ≠ '@' := by
  have := port_chars p x h
  refine ⟨?_, ?_, ?_, ?_⟩ <;> (rintro rfl; revert this; decide)

theorem mem_intercalate {sep : Str} {x : Char} : ∀ {l : List Str}, x ∈ intercalate sep l →
    x ∈ sep ∨ ∃ p ∈ l, x ∈ p := by
  intro l
  induction l with
  | nil => intro h; simp [intercalate] at h
  | cons a l ih =>
    intro h
    cases l with
    | nil => exact Or.inr ⟨a, List.mem_cons_self, by simpa [intercalate] using h⟩
    | cons b l =>
      simp only [intercalate, List.mem_append] at h
      rcases h with (h | h) | h
      · exact Or.inr ⟨a, List.mem_cons_self, h⟩
      · exact Or.inl h
      · rcases ih h with h' | ⟨p, hp, hx⟩
        · exact Or.inl h'
        · exact Or.inr ⟨p, List.mem_cons_of_mem _ hp, hx⟩

theorem at_not_in_segQ (u : URL) : '@' ∉ segQ u := by
  unfold segQ
  split
  · exact List.not_mem_nil
  · refine List.not_mem_cons_of_ne_of_not_mem (by decide) fun h => ?_
    rw [renderPairs_eq] at h
    rcases mem_intercalate h with h | ⟨p, hp, hx⟩
    · revert h; decide
    · obtain ⟨kv, _, rfl⟩ := List.mem_map.1 hp
      exact not_mem_pairStr kv (by decide) (by decide) (by decide) hx

theorem at_not_in_segD (u : URL) : '@' ∉ segD u := by
  unfold segD
  split
  · exact List.not_mem_nil
  · exact List.not_mem_cons_of_ne_of_not_mem (by decide) fun h => (db_chars h).2 rfl

theorem segP_chars {u : URL} {x : Char} (h : x ∈ segP u) : x ≠ '/' ∧ x ≠ '?' ∧ x ≠ ']' ∧ x ≠ '@' := by
  unfold segP at h
  split at h
  · cases h
  · rcases List.mem_cons.1 h with rfl | h
    · decide
    · exact port_char_ne h

theorem at_not_in_segP (u : URL) : '@' ∉ segP u := fun h => by
  obtain ⟨_, _, _, hat⟩ := segP_chars h
  exact hat rfl

theorem segQ_head (u : URL) : ∀ c t, segQ u = c :: t → c = '?' := by
  intro c t h
  unfold segQ at h
  split at h
  · cases h
  · exact (List.cons.inj h).1.symm

theorem segDQ_head (u : URL) : ∀ c t, segD u ++ segQ u = c :: t → (c = '/' ∨ c = '?') := by
  intro c t h
  unfold segD at h
  split at h
  · exact Or.inr (segQ_head u c t (by simpa using h))
  · exact Or.inl (List.cons.inj h).1.symm

theorem segPDQ_delim (u : URL) : StartsDelim (segP u ++ (segD u ++ segQ u)) := by
  intro c t h
  unfold segP at h
  split at h
  · rcases segDQ_head u c t (by simpa using h) with h' | h'
    · exact Or.inr (Or.inl h')
    · exact Or.inr (Or.inr h')
  · exact Or.inl (List.cons.inj h).1.symm

theorem scanQuery_segQ (u : URL) :
    scanQuery (segQ u) = if u.query.isEmpty then none else some (intercalate ['&'] (renderPairs u.query)) := by
  unfold segQ
  split <;> rfl

theorem scanDb_seg (u : URL) :
    scanDb (segD u ++ segQ u) = (u.database.map (quote safeDatabase), segQ u) := by
  unfold segD
  cases hd : u.database with
  | none =>
    simp only [List.nil_append, Option.map_none]
    unfold scanDb
    split
    · rename_i t heq
      have := segQ_head u _ _ heq
      exact absurd this (by decide)
    · rfl
  | some d =>
    simp only [Option.map_some, List.cons_append]
    unfold scanDb
    have := ListFacts.takeWhile_dropWhile_append (p := fun x => x != '?') (a := quote safeDatabase d) (T := segQ u)
      (fun x hx => by simpa using (db_chars hx).1)
      (fun c t he => by rw [segQ_head u c t he]; rfl)
    simp only [this.1, this.2]

theorem scanPort_seg (u : URL) :
    scanPort (segP u ++ (segD u ++ segQ u)) = (u.port.map (fun p => (toString p).toList), segD u ++ segQ u) := by
  unfold segP
  cases hp : u.port with
  | none =>
    simp only [List.nil_append, Option.map_none]
    unfold scanPort
    split
    · rename_i t heq
      rcases segDQ_head u _ _ heq with h | h <;> exact absurd h (by decide)
    · rfl
  | some p =>
    simp only [Option.map_some, List.cons_append]
    unfold scanPort
    have := ListFacts.takeWhile_dropWhile_append (p := fun c => c != '/' && c != '?') (a := (toString p).toList)
      (T := segD u ++ segQ u)
      (fun x hx => by
        obtain ⟨hslash, hq, _, _⟩ := port_char_ne hx
        simp [hslash, hq])
      (fun c t he => by rcases segDQ_head u c t he with h | h <;> (subst h; rfl))
    simp only [this.1, this.2]

/-- `(ipv4host, ipv6host)` the regex assigns to a host -/
def hostGroups : Option Str → Option Str × Option Str
  | none => (none, none)
  | some h => if h.contains ':' then (none, some h) else (some h, none)

theorem map_unquote_quote (safe : Str) (hs : '%' ∉ safe) (o : Option Str) :
    (o.map (quote safe)).map unquote = o := by
  cases o with
  | none => rfl
  | some s => simp [unquote_quote safe hs s]

theorem hostGroups_join (h : Option Str) : joinHost (hostGroups h).1 (hostGroups h).2 = h := by
  cases h with
  | none => rfl
  | some s =>
    by_cases hc : ':' ∈ s <;> simp [hostGroups, joinHost, hc]

theorem portOf_render (p : Option Int) : portOf (p.map (fun p => (toString p).toList)) = .ok p := by
  cases p with
  | none => rfl
  | some p =>
    simp only [Option.map_some, portOf]
    rw [parsePort_toString]

theorem keepBlank_true : keepBlank = true := by decide

end SaVerif.Url
