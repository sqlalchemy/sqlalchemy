import SaVerif.Lemmas.SessFrame
/-! `session._new` along the snapshot-restore path of M-ORM/Sess. -/
namespace SaVerif.Sess

@[simp] theorem new_emit (σ : Sess) (e : Ev) (o : Oid) : (emit σ e o).new = σ.new := rfl
@[simp] theorem new_deleted_upd (σ : Sess) (l : List Oid) : ({ σ with deleted := l } : Sess).new = σ.new := rfl

theorem frame_new : Frame (fun _ => True) (fun σ τ => τ.new = σ.new) where
  refl _ := rfl
  trans h1 h2 := h2.trans h1
  ext _ hn _ _ _ _ := hn
  setO _ _ _ _ := rfl
  imap _ _ _ := rfl

theorem frame_new_nil : Frame (fun _ => True) (fun σ τ => σ.new = [] → τ.new = []) where
  refl _ := id
  trans h1 h2 := h2 ∘ h1
  ext _ hn _ _ _ _ := hn ▸ id
  setO _ _ _ _ := id
  imap _ _ _ := id

theorem new_expungeOne (σ : Sess) (o : Oid) : (expungeOne σ o).new = σ.new.filter (· != o) := by
  unfold expungeOne
  split
  · rfl
  · rename_i hc
    have hno : o ∉ σ.new := by simpa using hc
    have : σ.new.filter (· != o) = σ.new :=
      List.filter_eq_self.2 fun a ha => bne_iff_ne.2 fun e => hno (e ▸ ha)
    rw [this]
    split
    · exact frame_new.imSafeDiscard σ o
    · exact frame_new.popTxnDeleted σ o

theorem new_expungeStates (σ : Sess) (os : List Oid) (t : Bool) :
    (expungeStates σ os t).new = σ.new.filter (fun x => !os.contains x) := by
  unfold expungeStates
  rw [frame_new.detachStates _ t fun _ _ => trivial]
  induction os generalizing σ with
  | nil => exact (List.filter_eq_self.2 fun _ _ => rfl).symm
  | cons o os ih =>
    rw [List.foldl_cons, ih, new_expungeOne, List.filter_filter]
    refine List.filter_congr fun x _ => ?_
    rw [List.contains_cons, Bool.not_or, Bool.and_comm]
    rfl

/-- after `_restore_snapshot` of an existing transaction `session._new` is empty, whether or not the
    restoration itself raised -/
theorem new_restoreSnapshot (σ : Sess) (d : Bool) (h : σ.txns ≠ []) : (restoreSnapshot σ d).1.new = [] := by
  obtain ⟨t, ts, ht⟩ := List.exists_cons_of_ne_nil h
  rw [frame_new.restoreSnapshot_tail (fun _ => trivial) ht d, new_expungeStates]
  refine List.filter_eq_nil_iff.2 fun a ha => ?_
  have : a ∈ (t.tnew ++ σ.new).eraseDups := List.mem_eraseDups.2 (List.mem_append_right _ ha)
  simp [this]

theorem new_flushFailed (σ : Sess) (h : σ.txns ≠ []) : (flushFailed σ).new = [] := by
  obtain ⟨t, ts, ht⟩ := List.exists_cons_of_ne_nil h
  -- the first `_restore_snapshot` empties `_new`; a second one finds it empty, or finds no transaction
  refine frame_new_nil.flushFailed_tail (fun τ d hτ => ?_) ht (new_restoreSnapshot _ _ (List.cons_ne_nil _ _))
  cases hτt : τ.txns with
  | nil => unfold restoreSnapshot; rw [hτt]; exact hτ
  | cons _ _ => exact new_restoreSnapshot τ d (hτt ▸ List.cons_ne_nil _ _)

end SaVerif.Sess
