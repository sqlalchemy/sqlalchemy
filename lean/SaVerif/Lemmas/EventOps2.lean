import SaVerif.Lemmas.EventOps
import SaVerif.Lemmas.Lookup
/-! Preservation of `EInv` by `remove`, `update_subclass`, a new instance and a new class; at the end
the equations of `exec`, one per operation. -/
namespace SaVerif.Event

theorem orderOf_drop {n : Nat} {st : St} (h : RegInv n st) {e : RegEntry} (he : e ∈ st.reg)
    (es : List RegEntry) (hsub : ∀ x ∈ es, x ∈ st.reg) (hnd : (es.map (fun x => x.lsn)).Nodup) :
    orderOf (es.filter (notKey e.target e.fn)) =
      if e ∈ es then (orderOf es).erase e.lsn else orderOf es := by
  by_cases hin : e ∈ es
  · rw [if_pos hin, (orderOf_nodup hnd).erase_eq_filter]
    refine orderOf_filter es _ e.lsn fun x hx => ?_
    rw [Bool.eq_iff_iff, notKey_iff h he (hsub x hx), bne_iff_ne]
    exact not_congr ⟨fun hxe => hxe ▸ rfl, Lookup.eq_of_key_eq hnd hin hx⟩
  · rw [if_neg hin]
    exact congrArg orderOf (List.filter_eq_self.2 fun x hx =>
      (notKey_iff h he (hsub x hx)).2 fun hxe => hin (hxe ▸ hx))

theorem relevant_dropKey (st : St) (t : Target) (fn : Nat) (k : Cls) :
    relevant (dropKey st t fn) k = (relevant st k).filter (notKey t fn) := by
  rw [relevant, isClsRel_congr (st := st) (st' := dropKey st t fn) rfl k]
  exact filter_dropKey st t fn _

theorem mem_relevant_of {st : St} {e : RegEntry} {c k : Cls} (he : e ∈ st.reg)
    (hc : e.target = Target.cls c) : e ∈ relevant st k ↔ Rel st c k := by
  rw [mem_relevant]
  constructor
  · rintro ⟨_, c', hc', hr⟩
    cases hc.symm.trans hc'
    exact hr
  · intro hr; exact ⟨he, c, hc, hr⟩

theorem specDeque_dropKey {n : Nat} {st : St} (h : RegInv n st) {e : RegEntry} (he : e ∈ st.reg) (k : Cls) :
    specDeque (dropKey st e.target e.fn) k =
      if e ∈ relevant st k then (specDeque st k).erase e.lsn else specDeque st k := by
  rw [specDeque, relevant_dropKey]
  exact orderOf_drop h he (relevant st k) (fun x hx => (mem_relevant.1 hx).1)
    (relevant_nodup h.clsDistinct k)

theorem specColl_dropKey {n : Nat} {st : St} (h : RegInv n st) {e : RegEntry} (he : e ∈ st.reg) (j : Nat) :
    specColl (dropKey st e.target e.fn) j =
      if e ∈ instEntries st j then (specColl st j).erase e.lsn else specColl st j := by
  rw [specColl, instEntries, filter_dropKey]
  exact orderOf_drop h he (instEntries st j) (fun x hx => (mem_instEntries.1 hx).1)
    (h.instDistinct j)

theorem removeCls_inv {n : Nat} {st : St} (h : EInv n st) (c : Cls) (fn : Nat) (e : RegEntry)
    (hf : findKey st (Target.cls c) fn = some e) :
    EInv n (removeCls (dropKey st (Target.cls c) fn) c e.lsn).1 ∧
    (removeCls (dropKey st (Target.cls c) fn) c e.lsn).2 = false := by
  -- `R`: the result of the loop (`remLoop_spec`); its deques are those of `st` with `e.lsn` erased
  -- where `e` is relevant, which is what `specDeque_dropKey` says of the spec
  obtain ⟨her, het, hef⟩ := findKey_some hf
  have hspec := specDeque_dropKey h.reg her
  rw [het, hef] at hspec
  have hrel : ∀ {k}, Rel (dropKey st (Target.cls c) fn) c k ↔ e ∈ relevant st k :=
    (rel_congr (st := st) (st' := dropKey st (Target.cls c) fn) rfl).trans (mem_relevant_of her het).symm
  have hm : st.clslevel.length = nClasses st := h.base.len
  rw [removeCls_eq, show nClasses (dropKey st (Target.cls c) fn) = nClasses st from rfl]
  obtain ⟨hsame, hflag, hdone, hkeep⟩ := remLoop_spec (dropKey st (Target.cls c) fn) c e.lsn
    (fun k d hr hd => by
      rw [h.base.deq k d hd]
      exact mem_specDeque.2 ⟨e, hrel.1 hr, rfl⟩) (nClasses st) (Nat.le_of_eq hm.symm)
  generalize remLoop (dropKey st (Target.cls c) fn) c e.lsn (nClasses st) = R at *
  refine ⟨?_, hflag⟩
  have hsome : ∀ k, (dequeOf st k).isSome = true → (dequeOf R.1 k).isSome = true := by
    intro k hk
    by_cases hr : e ∈ relevant st k
    · obtain ⟨d, hd⟩ := Option.isSome_iff_exists.1 hk
      rw [hdone k (hm ▸ dequeOf_some_lt hd) (hrel.2 hr), Option.isSome_map]
      exact hk
    · rw [hkeep k (Or.inr fun h' => hr (hrel.1 h'))]
      exact hk
  refine h.withReg hsame.parent hsame.insts hsame.len
    ((h.reg.drop _ fn).mono hsame.reg (Nat.le_of_eq (congrArg _ hsame.lsn.symm))) (fun j => ?inst) ?deq ?tp hsome
  case deq =>
    intro k d' hd'
    rw [specDeque_congr hsame.parent hsame.reg, hspec]
    by_cases hr : e ∈ relevant st k
    · rw [hdone k (Nat.lt_of_lt_of_eq (dequeOf_some_lt hd') (hsame.len.trans hm)) (hrel.2 hr)] at hd'
      obtain ⟨d, hd, rfl⟩ := Option.map_eq_some_iff.1 hd'
      rw [if_pos hr, h.base.deq k d hd]
    · rw [hkeep k (Or.inr fun h' => hr (hrel.1 h'))] at hd'
      rw [if_neg hr]
      exact h.base.deq k d' hd'
  case tp =>
    intro x hx t ht
    exact hsome t (h.base.tp x (List.mem_filter.1 (hsame.reg ▸ hx)).1 t ht)
  case inst =>
    rw [instEntries_congr hsame.reg]
    exact filter_dropKey_self st _ fn _ fun x hx ht => by rw [ht] at hx; cases hx

theorem removeInst_inv {n : Nat} {st : St} (h : EInv n st) (i fn : Nat) (e : RegEntry)
    (hf : findKey st (Target.inst i) fn = some e) :
    (collOf (dropKey st (Target.inst i) fn) i).contains e.lsn = true ∧
    EInv n (setColl (dropKey st (Target.inst i) fn) i
      ((collOf (dropKey st (Target.inst i) fn) i).erase e.lsn)) := by
  obtain ⟨her, het, hef⟩ := findKey_some hf
  have hein : e ∈ instEntries st i := mem_instEntries.2 ⟨her, het⟩
  have hmem : e.lsn ∈ collOf st i := by
    rw [h.inst i, specColl, mem_orderOf]
    exact ⟨e, hein, rfl⟩
  -- an instance that does not exist has no listeners
  have hi : i < st.insts.length := Nat.lt_of_not_le fun hge => by
    rw [collOf_none (List.getElem?_eq_none hge)] at hmem
    cases hmem
  have hspecI := specColl_dropKey h.reg her
  rw [het, hef] at hspecI
  have hcoll1 : ∀ j, collOf (dropKey st (Target.inst i) fn) j = collOf st j := fun j => rfl
  rw [hcoll1]
  constructor
  · exact List.contains_iff_mem.2 hmem
  -- class-level lists do not see an instance key
  have hce : clsEntries (dropKey st (Target.inst i) fn) = clsEntries st :=
    filter_dropKey_self st _ fn isCls fun x hx ht => by rw [isCls_of_inst ht] at hx; cases hx
  refine h.withColl (st0 := dropKey st (Target.inst i) fn) rfl rfl rfl hce (h.reg.drop _ _) hi _ fun j => ?_
  rw [hspecI j]
  by_cases hij : i = j
  · subst hij
    rw [if_pos rfl, if_pos hein, h.inst i]
  · rw [if_neg hij, if_neg (fun hm => hij (Target.inst.inj (het.symm.trans (mem_instEntries.1 hm).2)))]
    exact h.inst j

theorem remove_inv {n : Nat} {st : St} (h : EInv n st) (t : Target) (fn : Nat) :
    EInv n (exec st (.remove t fn)).1 ∧
    (exec st (.remove t fn)).2 = if hasKey st t fn then .done else .noSuchListener := by
  rw [hasKey_eq_isSome]
  dsimp only [exec]
  cases hf : findKey st t fn with
  | none => exact ⟨h, rfl⟩
  | some e =>
    cases t with
    | cls c =>
      obtain ⟨h1, h2⟩ := removeCls_inv h c fn e hf
      dsimp only
      rw [h2]
      exact ⟨h1, rfl⟩
    | inst i =>
      obtain ⟨h1, h2⟩ := removeInst_inv h i fn e hf
      dsimp only
      rw [if_pos h1]
      exact ⟨h2, rfl⟩

theorem updateSubclass_inv {n : Nat} {st : St} (h : EInv n st) (c : Cls)
    (hc : c < nClasses st) (hnone : dequeOf st c = none) :
    EInv n (updateSubclass st c) ∧ (dequeOf (updateSubclass st c) c).isSome = true := by
  have hlen : c < st.clslevel.length := by rw [h.base.len]; exact hc
  have hnt : ∀ {k}, dequeOf st k = none → NoTarget st k := noTarget_of_absent h.base.tp
  have hp : pull st [] (ancestorsOf st c) = specDeque st c := by
    rw [specDeque_noTarget st h.base.wf (hnt hnone)]
    exact pull_ancestors st st h.base.wf (specDeque st) (fun g a hr => specDeque_mono st h.base.wf hr) c
      (fun a _ => h.base.deq a) (fun a _ hk => specDeque_noTarget st h.base.wf (hnt hk))
  have heq : updateSubclass st c = setDeque st c (specDeque st c) := by
    rw [updateSubclass_eq, hnone, Option.getD_none, hp]
  rw [heq]
  constructor
  · have hs := setDeque_same st c (specDeque st c)
    apply h.withDeques hs.parent hs.reg hs.insts (Nat.le_of_eq (congrArg _ hs.lsn.symm)) hs.len
    · intro k d hk
      rw [dequeOf_setDeque] at hk
      split at hk
      · rename_i hh; cases hk; rw [hh.1]
      · exact h.base.deq k d hk
    · intro k hk
      rw [dequeOf_setDeque]
      split
      · rfl
      · exact hk
  · rw [dequeOf_setDeque, if_pos ⟨rfl, hlen⟩]
    rfl

theorem EInv.appendInst {n : Nat} {st : St} (h : EInv n st) (c : Cls) (hsome : (dequeOf st c).isSome = true) :
    EInv n { st with insts := st.insts ++ [{ cls := c, coll := none }] } := by
  refine ⟨h.base.frame rfl rfl rfl h.base.deq (fun _ => id),
    h.reg.mono rfl (Nat.le_refl _),
    fun j => inst_congr (h.inst j) ?_ rfl, fun j x hx => ?_⟩
  · -- an instance that does not exist and one without a collection both have the empty list
    show (match (st.insts ++ [_])[j]? with | some x => _ | none => _) = _
    by_cases hj : j < st.insts.length
    · rw [List.getElem?_append_left hj]
      rfl
    · rw [collOf, List.getElem?_append_right (Nat.le_of_not_lt hj), List.getElem?_eq_none (Nat.le_of_not_lt hj)]
      cases j - st.insts.length <;> rfl
  · show (dequeOf st x.cls).isSome = true
    have hx : (st.insts ++ [_])[j]? = some x := hx
    by_cases hj : j < st.insts.length
    · exact h.instCls j x (List.getElem?_append_left hj ▸ hx)
    · rw [List.getElem?_append_right (Nat.le_of_not_lt hj), List.getElem?_singleton] at hx
      split at hx <;> cases hx
      exact hsome

theorem newinst_inv {n : Nat} {st : St} (h : EInv n st) (c : Cls) (hc : c < nClasses st) :
    EInv n { (if (dequeOf st c).isNone then updateSubclass st c else st) with
      insts := (if (dequeOf st c).isNone then updateSubclass st c else st).insts ++ [{ cls := c, coll := none }] } := by
  -- first access of `obj.dispatch`: the class gets its deque if it has none
  cases hd : dequeOf st c with
  | none =>
    obtain ⟨h1, h2⟩ := updateSubclass_inv h c hc hd
    exact h1.appendInst c h2
  | some d => exact h.appendInst c (hd ▸ rfl)

/-- `type("C", (Parent,), {})`: a new class, no deque yet; the state `exec` returns for `.subclass p` -/
def addClass (st : St) (p : Cls) : St :=
  { st with parent := st.parent ++ [some p], clslevel := st.clslevel ++ [none] }

theorem parentOf_addClass (st : St) (p : Cls) (k : Nat) :
    parentOf (addClass st p) k =
      if k < st.parent.length then parentOf st k else if k = st.parent.length then some p else none := by
  unfold parentOf addClass
  simp only [List.getD_eq_getElem?_getD]
  rcases Nat.lt_trichotomy k st.parent.length with h | h | h
  · rw [List.getElem?_append_left h, if_pos h]
  · subst h; simp
  · rw [List.getElem?_eq_none (by simp; omega)]
    rw [if_neg (by omega), if_neg (by omega)]; rfl

theorem dequeOf_addClass (st : St) (p : Cls) (k : Nat) : dequeOf (addClass st p) k = dequeOf st k := by
  simp only [dequeOf, addClass, List.getD_eq_getElem?_getD, List.getElem?_append, List.getElem?_singleton]
  split
  · rfl
  · rw [List.getElem?_eq_none (Nat.le_of_not_lt ‹_›)]
    split <;> rfl

theorem wf_addClass {st : St} (hw : WFTree st) (p : Cls) (hp : p < st.parent.length) :
    WFTree (addClass st p) := by
  intro k q hq
  rw [parentOf_addClass] at hq
  split at hq
  · exact hw k q hq
  · split at hq
    · rename_i h1 h2; cases hq; rw [h2]; exact hp
    · cases hq

theorem ancestorsOf_addClass {st : St} (hw : WFTree st) (p : Cls) (hp : p < st.parent.length) :
    ∀ (k : Nat), k < st.parent.length → ancestorsOf (addClass st p) k = ancestorsOf st k := by
  have hw' := wf_addClass hw p hp
  intro k
  induction k using Nat.strongRecOn with
  | _ k ih =>
    intro hk
    rw [ancestorsOf_eq _ hw' k, ancestorsOf_eq st hw k, parentOf_addClass, if_pos hk]
    cases hq : parentOf st k with
    | none => rfl
    | some q =>
      have hqk : q < k := hw k q hq
      simp only
      rw [ih q hqk (Nat.lt_trans hqk hk)]

theorem specDeque_addClass {st : St} (hw : WFTree st) (p : Cls) (hp : p < st.parent.length)
    (k : Nat) (hk : k < st.parent.length) : specDeque (addClass st p) k = specDeque st k := by
  unfold specDeque relevant
  rw [isClsRel_of_ancestors (ancestorsOf_addClass hw p hp k hk)]
  rfl

theorem subclass_inv {n : Nat} {st : St} (h : EInv n st) (p : Cls) (hp : p < nClasses st) :
    EInv n (addClass st p) := by
  have hp' : p < st.parent.length := hp
  refine { base := { wf := wf_addClass h.base.wf p hp', len := ?len, deq := ?deq, tp := ?tp },
           reg := h.reg.mono rfl (Nat.le_refl _), inst := h.inst, instCls := ?instCls }
  case len =>
    simp [addClass, h.base.len]
  case deq =>
    intro k d hd
    rw [dequeOf_addClass] at hd
    rw [specDeque_addClass h.base.wf p hp' k (h.base.len ▸ dequeOf_some_lt hd)]
    exact h.base.deq k d hd
  case tp =>
    intro e he c hc
    rw [dequeOf_addClass]
    exact h.base.tp e he c hc
  case instCls =>
    intro i x hx
    rw [dequeOf_addClass]
    exact h.instCls i x hx

/-! `.remove` has no equation: `remove_inv` says what `exec` does on it. -/

theorem exec_listenCls (st : St) (c : Cls) (fn : Nat) (ins : Bool) (wrap : Nat) :
    exec st (.listen (.cls c) fn ins wrap) =
      if c < nClasses st then (listenCls st c fn ins wrap, .done) else (st, .badTarget) := rfl

theorem exec_listenInst (st : St) (i fn : Nat) (ins : Bool) (wrap : Nat) :
    exec st (.listen (.inst i) fn ins wrap) =
      if i < st.insts.length then (listenInst st i fn ins wrap, .done) else (st, .badTarget) := rfl

theorem exec_subclass (st : St) (p : Cls) :
    exec st (.subclass p) = if p < nClasses st then (addClass st p, .done) else (st, .badTarget) := rfl

theorem exec_newinst (st : St) (c : Cls) :
    exec st (.newinst c) =
      if c < nClasses st then
        let st1 := if (dequeOf st c).isNone then updateSubclass st c else st
        ({ st1 with insts := st1.insts ++ [{ cls := c, coll := none }] }, .done)
      else (st, .badTarget) := rfl

theorem exec_fire (st : St) (i : Nat) :
    exec st (.fire i) =
      match st.insts[i]? with
      | none => (st, .badTarget)
      | some x =>
        let (st, cs) := callAll st ((dequeOf st x.cls).getD [] ++ x.coll.getD [])
        (st, .calls cs) := rfl

end SaVerif.Event
