import SaVerif.Lemmas.Event
/-! The two `for cls in walk_subclasses(target)` loops of `_ClsLevelDispatch`
(`_do_insert_or_append`, `remove`) against the spec, both through `walk_spec`. -/
namespace SaVerif.Event

/-- the class-level part of the invariant `EInv` (`Lemmas/EventInv.lean`) -/
structure Base (st : St) : Prop where
  wf : WFTree st
  len : st.clslevel.length = st.parent.length
  deq : ∀ k d, dequeOf st k = some d → d = specDeque st k
  tp : TargetsPresent st

/-- the contents of the deques are free -/
structure SameBut (st st' : St) : Prop where
  parent : st'.parent = st.parent
  reg : st'.reg = st.reg
  lsn : st'.lsn = st.lsn
  insts : st'.insts = st.insts
  len : st'.clslevel.length = st.clslevel.length

theorem SameBut.refl (st : St) : SameBut st st := ⟨rfl, rfl, rfl, rfl, rfl⟩

theorem SameBut.trans {a b c : St} (h1 : SameBut a b) (h2 : SameBut b c) : SameBut a c :=
  ⟨h2.parent.trans h1.parent, h2.reg.trans h1.reg, h2.lsn.trans h1.lsn, h2.insts.trans h1.insts,
   h2.len.trans h1.len⟩

theorem setDeque_same (st : St) (k : Cls) (d : List Lsn) : SameBut st (setDeque st k d) :=
  { SameBut.refl st with len := by simp [setDeque] }

theorem insertInto_eq (c : Cls) (l : Lsn) (ins : Bool) (st : St) (k : Cls)
    (hk : k < st.clslevel.length) :
    insertInto c l ins st k = setDeque st k
      (match dequeOf st k with
      | some d => if ins then l :: d else d ++ [l]
      | none =>
        if k ≠ c then pull st [] (ancestorsOf st k)
        else if ins then l :: pull st [] (ancestorsOf st k) else pull st [] (ancestorsOf st k) ++ [l]) := by
  unfold insertInto
  cases hd : dequeOf st k with
  | some d =>
    simp only [Option.isNone_some, Bool.false_eq_true, and_false, if_false, hd, Option.getD_some]
  | none =>
    have hu : updateSubclass st k = setDeque st k (pull st [] (ancestorsOf st k)) := by
      rw [updateSubclass_eq, hd, Option.getD_none]
    simp only [Option.isNone_none, and_true, if_true]
    split
    · exact hu
    · rw [hu, dequeOf_setDeque, if_pos (And.intro rfl hk), Option.getD_some, setDeque_setDeque]

theorem foldl_walk_succ {σ : Type} (p : Nat → Bool) (f : σ → Nat → σ) (a : σ) (m : Nat) :
    ((List.range (m + 1)).filter p).foldl f a =
      if p m then f (((List.range m).filter p).foldl f a) m else ((List.range m).filter p).foldl f a := by
  rw [List.range_succ, List.filter_append, List.foldl_append]
  cases h : p m <;> simp [h]

/-- The loops over `walk_subclasses` fold a step over the classes `k < m` with `p k`, and step
    `k` writes deque `k` only (`deq` reads a deque off the loop state, `I` is whatever else
    the loop maintains): the deques of the classes with `P` become `G`, the others stay. -/
theorem walk_spec {σ : Type} (deq : σ → Cls → Option (List Lsn)) {p : Nat → Bool} {P : Nat → Prop}
    (hP : ∀ k, p k = true ↔ P k) (f : σ → Nat → σ) (a : σ) (G : Cls → Option (List Lsn))
    (I : σ → Prop) (N : Nat) (h0 : I a)
    (hstep : ∀ s m, m < N → P m → I s → (∀ k, k < m → P k → deq s k = G k) →
      (∀ k, (m ≤ k ∨ ¬ P k) → deq s k = deq a k) →
      I (f s m) ∧ deq (f s m) m = G m ∧ ∀ j, m ≠ j → deq (f s m) j = deq s j) :
    ∀ m, m ≤ N →
      I (((List.range m).filter p).foldl f a) ∧
      (∀ k, k < m → P k → deq (((List.range m).filter p).foldl f a) k = G k) ∧
      (∀ k, (m ≤ k ∨ ¬ P k) → deq (((List.range m).filter p).foldl f a) k = deq a k) := by
  intro m
  induction m with
  | zero => exact fun _ => ⟨h0, fun k hk _ => absurd hk (Nat.not_lt_zero k), fun _ _ => rfl⟩
  | succ m ih =>
    intro hm
    obtain ⟨hI, hdone, hkeep⟩ := ih (Nat.le_of_succ_le hm)
    rw [foldl_walk_succ]
    have hlt : ∀ {k}, k < m + 1 → k ≠ m → k < m := fun hk hkm =>
      Nat.lt_of_le_of_ne (Nat.le_of_lt_succ hk) hkm
    have hle : ∀ {k}, (m + 1 ≤ k ∨ ¬ P k) → (m ≤ k ∨ ¬ P k) := fun hk => hk.imp Nat.le_of_succ_le id
    by_cases hp : P m
    · rw [if_pos ((hP m).2 hp)]
      obtain ⟨hI', hat, hother⟩ := hstep _ m hm hp hI hdone hkeep
      refine ⟨hI', fun k hk hpk => ?_, fun k hk => ?_⟩
      · by_cases hkm : k = m
        · exact hkm ▸ hat
        · rw [hother k (Ne.symm hkm)]
          exact hdone k (hlt hk hkm) hpk
      · rw [hother k (hk.elim (fun h e => Nat.lt_irrefl _ (e ▸ h)) (fun h e => h (e ▸ hp)))]
        exact hkeep k (hle hk)
    · rw [if_neg (fun h => hp ((hP m).1 h))]
      exact ⟨hI, fun k hk hpk => hdone k (hlt hk (fun e => hp (e ▸ hpk))) hpk, fun k hk => hkeep k (hle hk)⟩

/-- the loop of `_do_insert_or_append` over the first `m` classes -/
def insLoop (st : St) (c : Cls) (l : Lsn) (ins : Bool) (m : Nat) : St :=
  ((List.range m).filter (fun k => descOrSelf st c k)).foldl (insertInto c l ins) st

theorem insLoop_spec (st : St) (hb : Base st) (c : Cls) (e : RegEntry)
    (hc : e.target = Target.cls c) :
    ∀ m, m ≤ st.clslevel.length →
      SameBut st (insLoop st c e.lsn e.ins m) ∧
      (∀ k, k < m → Rel st c k →
        dequeOf (insLoop st c e.lsn e.ins m) k = some (specDeque (addReg st e) k)) ∧
      (∀ k, (m ≤ k ∨ ¬ Rel st c k) → dequeOf (insLoop st c e.lsn e.ins m) k = dequeOf st k) := by
  have hw' : WFTree (addReg st e) := hb.wf
  have hne : ∀ {k}, ¬ Rel st c k → e.target ≠ Target.cls k := fun hr h =>
    hr (Target.cls.inj (hc.symm.trans h) ▸ rel_self st c)
  refine walk_spec dequeOf (descOrSelf_iff st c) _ st _ (SameBut st) _ (SameBut.refl st) ?_
  intro F m hmlen hrm hsame hdone hkeep
  rw [← hsame.len] at hmlen
  have hFm : dequeOf F m = dequeOf st m := hkeep m (Or.inl (Nat.le_refl m))
  rw [insertInto_eq c e.lsn e.ins F m hmlen]
  refine ⟨hsame.trans (setDeque_same _ _ _), ?_,
    fun j hj => by rw [dequeOf_setDeque, if_neg (fun h => hj h.1)]⟩
  rw [dequeOf_setDeque, if_pos ⟨rfl, hmlen⟩, hFm]
  congr 1
  cases hd : dequeOf st m with
  | some d =>
    simp only
    rw [hb.deq m d hd, specDeque_addReg st e c hc m, if_pos hrm]
  | none =>
    -- below `m` the deques are the new spec lists already, so the MRO loop yields the parent's
    have hlow : ∀ a ∈ ancestorsOf st m,
        (∀ d, dequeOf F a = some d → d = specDeque (addReg st e) a) ∧
        (dequeOf F a = none → NoTarget (addReg st e) a) := by
      intro a ha
      by_cases hr : Rel st c a
      · rw [hdone a (ancestorsOf_lt st hb.wf m a ha) hr]
        exact ⟨fun d hd => (Option.some.inj hd).symm, nofun⟩
      · rw [hkeep a (Or.inr hr), specDeque_addReg st e c hc a, if_neg hr]
        exact ⟨hb.deq a, fun hn => noTarget_addReg (noTarget_of_absent hb.tp hn) (hne hr)⟩
    have hpull := pull_ancestors st F hb.wf (specDeque (addReg st e))
      (fun g a h => specDeque_mono _ hw' ((rel_congr (st := st) (st' := addReg st e) rfl).2 h)) m
      (fun a ha => (hlow a ha).1) (fun a ha hn => specDeque_noTarget _ hw' ((hlow a ha).2 hn))
    rw [ancestorsOf_congr hsame.parent, hpull]
    have hnt := noTarget_of_absent hb.tp hd
    by_cases hmc : m = c
    · -- the target itself: nothing below it is related, its parent's list is the old one
      subst hmc
      rw [if_neg (fun h => h rfl), specDeque_addReg st e m hc m, if_pos hrm,
        specDeque_noTarget st hb.wf hnt]
      cases hp : parentOf st m with
      | none => rfl
      | some p =>
        dsimp only
        rw [specDeque_addReg st e m hc p,
          if_neg fun hr => Nat.lt_irrefl p (Nat.lt_of_lt_of_le (hb.wf m p hp) (rel_le st hb.wf hr))]
    · rw [if_pos hmc]
      exact (specDeque_noTarget _ hw' (noTarget_addReg hnt fun h =>
        hmc (Target.cls.inj (hc.symm.trans h)).symm)).symm

/-- body of the loop of `_ClsLevelDispatch.remove` -/
def remStep (l : Lsn) (acc : St × Bool) (k : Cls) : St × Bool :=
  match dequeOf acc.1 k with
  | some d => if d.contains l then (setDeque acc.1 k (d.erase l), acc.2) else (acc.1, true)
  | none => acc

def remLoop (st : St) (c : Cls) (l : Lsn) (m : Nat) : St × Bool :=
  ((List.range m).filter (fun k => descOrSelf st c k)).foldl (remStep l) (st, false)

theorem removeCls_eq (st : St) (c : Cls) (l : Lsn) : removeCls st c l = remLoop st c l (nClasses st) := rfl

theorem remLoop_spec (st : St) (c : Cls) (l : Lsn)
    (hmem : ∀ k d, Rel st c k → dequeOf st k = some d → l ∈ d) :
    ∀ m, m ≤ st.clslevel.length →
      SameBut st (remLoop st c l m).1 ∧ (remLoop st c l m).2 = false ∧
      (∀ k, k < m → Rel st c k →
        dequeOf (remLoop st c l m).1 k = (dequeOf st k).map (fun d => d.erase l)) ∧
      (∀ k, (m ≤ k ∨ ¬ Rel st c k) → dequeOf (remLoop st c l m).1 k = dequeOf st k) := by
  have key := walk_spec (fun F : St × Bool => dequeOf F.1) (descOrSelf_iff st c) (remStep l) (st, false)
    (fun k => (dequeOf st k).map (fun d => d.erase l)) (fun F => SameBut st F.1 ∧ F.2 = false) st.clslevel.length
    ⟨SameBut.refl st, rfl⟩ ?_
  · exact fun m hm => and_assoc.1 (key m hm)
  intro F m hmlen hrm ⟨hsame, hflag⟩ hdone hkeep
  rw [← hsame.len] at hmlen
  have hFm : dequeOf F.1 m = dequeOf st m := hkeep m (Or.inl (Nat.le_refl m))
  unfold remStep
  rw [hFm]
  cases hd : dequeOf st m with
  | none => exact ⟨⟨hsame, hflag⟩, hFm.trans hd, fun _ _ => rfl⟩
  | some d =>
    have hcont : d.contains l = true := List.contains_iff_mem.2 (hmem m d hrm hd)
    simp only [hcont, if_true]
    refine ⟨⟨hsame.trans (setDeque_same _ _ _), hflag⟩, ?_, fun j hj => ?_⟩
    · rw [dequeOf_setDeque, if_pos ⟨rfl, hmlen⟩]
      rfl
    · rw [dequeOf_setDeque, if_neg (fun h => hj h.1)]

end SaVerif.Event
