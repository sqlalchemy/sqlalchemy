/-! Facts about core list functions that several models need. -/
namespace SaVerif.ListFacts

theorem sum_map_set {α : Type} (f : α → Nat) {l : List α} {i : Nat} {old : α} (new : α)
    (h : l[i]? = some old) : ((l.set i new).map f).sum + f old = (l.map f).sum + f new := by
  induction l generalizing i with
  | nil => cases h
  | cons x xs ih =>
    cases i with
    | zero =>
      cases h
      show f new + (xs.map f).sum + f old = f old + (xs.map f).sum + f new
      rw [Nat.add_right_comm, Nat.add_right_comm (f old), Nat.add_comm (f old)]
    | succ i =>
      show f x + ((xs.set i new).map f).sum + f old = f x + (xs.map f).sum + f new
      rw [Nat.add_assoc, ih h, Nat.add_assoc]

theorem le_sum_map_of_mem {α : Type} (f : α → Nat) {l : List α} {a : α} (h : a ∈ l) :
    f a ≤ (l.map f).sum := by
  induction l with
  | nil => cases h
  | cons b l ih =>
    rw [List.map_cons, List.sum_cons]
    rcases List.mem_cons.1 h with rfl | h
    · exact Nat.le_add_right _ _
    · exact Nat.le_trans (ih h) (Nat.le_add_left _ _)

theorem sum_map_eq_zero {α : Type} {f : α → Nat} {l : List α} (h : ∀ a ∈ l, f a = 0) :
    (l.map f).sum = 0 :=
  List.sum_eq_zero_iff_forall_eq_nat.2 (List.forall_mem_map.2 h)

theorem nodup_snoc {α : Type} {l : List α} {x : α} (h : l.Nodup) (hx : x ∉ l) : (l ++ [x]).Nodup :=
  (List.perm_append_singleton x l).nodup_iff.2 (List.nodup_cons.2 ⟨hx, h⟩)

theorem nodup_map_snoc {α κ : Type} (key : α → κ) {l : List α} {x : α} (h : (l.map key).Nodup)
    (hx : key x ∉ l.map key) : ((l ++ [x]).map key).Nodup := by
  rw [List.map_append]
  exact nodup_snoc h hx

/-- `hall` asks both directions, so that `R` need not be symmetric -/
theorem pairwise_set {α : Type} {R : α → α → Prop} (e : α) (l : List α) (i : Nat)
    (hp : l.Pairwise R) (hall : ∀ j x, l[j]? = some x → j ≠ i → R x e ∧ R e x) :
    (l.set i e).Pairwise R := by
  rw [List.pairwise_iff_getElem] at hp ⊢
  intro a b ha hb hab
  rw [List.length_set] at ha hb
  rw [List.getElem_set, List.getElem_set]
  split
  · rw [if_neg (by omega)]
    exact (hall b _ (List.getElem?_eq_getElem hb) (by omega)).2
  · split
    · exact (hall a _ (List.getElem?_eq_getElem ha) (by omega)).1
    · exact hp a b ha hb hab

theorem nodup_set {α : Type} {l : List α} {e : α} (h : l.Nodup) (he : e ∉ l) (k : Nat) :
    (l.set k e).Nodup :=
  pairwise_set e l k h fun _ _ hx _ =>
    have := List.mem_of_getElem? hx
    ⟨fun c => he (c ▸ this), fun c => he (c ▸ this)⟩

theorem takeWhile_dropWhile_append {α} {p : α → Bool} {a T : List α} (ha : ∀ x ∈ a, p x = true)
    (hT : ∀ c t, T = c :: t → p c = false) :
    (a ++ T).takeWhile p = a ∧ (a ++ T).dropWhile p = T := by
  rw [List.takeWhile_append_of_pos ha, List.dropWhile_append_of_pos ha]
  cases T with
  | nil => simp
  | cons c t => simp [hT c t rfl]

theorem getD_map {α β} {f : α → β} {l : List α} {i : Nat} (hi : i < l.length) (a : α) (d : β) :
    (l.map f).getD i d = f (l.getD i a) := by
  simp only [List.getD_eq_getElem?_getD, List.getElem?_map, List.getElem?_eq_getElem hi,
    Option.map_some, Option.getD_some]

theorem getD_set {α} (l : List α) (i j : Nat) (v d : α) :
    (l.set i v).getD j d = if i = j ∧ i < l.length then v else l.getD j d := by
  simp only [List.getD_eq_getElem?_getD, List.getElem?_set]
  by_cases h : i = j
  · subst h
    by_cases hl : i < l.length <;> simp [hl]
  · simp [h]

theorem getD_set_same {α β} (f : α → β) {l : List α} {i : Nat} {v d : α} (hv : f v = f (l.getD i d))
    (j : Nat) : f ((l.set i v).getD j d) = f (l.getD j d) := by
  rw [getD_set]
  split
  · rename_i hh
    rw [hv, hh.1]
  · rfl

theorem getD_of_length_le {α} {l : List α} {i : Nat} (h : l.length ≤ i) (d : α) : l.getD i d = d := by
  rw [List.getD_eq_getElem?_getD, List.getElem?_eq_none h, Option.getD_none]

theorem getD_append_default {α} (l : List α) (d : α) (i : Nat) : (l ++ [d]).getD i d = l.getD i d := by
  rcases Nat.lt_or_ge i l.length with h | h
  · rw [List.getD_eq_getElem?_getD, List.getD_eq_getElem?_getD, List.getElem?_append_left h]
  · rw [getD_of_length_le h, List.getD_eq_getElem?_getD, List.getElem?_append_right h]
    cases i - l.length <;> rfl

theorem not_contains_iff {α} [BEq α] [LawfulBEq α] {l : List α} {a : α} :
    (!l.contains a) = true ↔ a ∉ l := by
  rw [Bool.not_eq_true', ← Bool.not_eq_true, List.contains_iff_mem]

end SaVerif.ListFacts
