import SaVerif.Model.Evaluator
import SaVerif.Lemmas.LikePlain
import SaVerif.Lemmas.Spell
import SaVerif.Lemmas.ListFacts
/-! The evaluator of `orm/evaluator.py` against SQL's three-valued semantics.  One induction
    (`agrees`) gives exact agreement under all guards and agreement up to None-for-FALSE without
    the AND-order guard; then the SET loop against simultaneous assignment (`applySeqObj_eq_sim`),
    results on partially expired objects (`evalPyB_upto`), bulk UPDATE by primary key. -/
namespace SaVerif.Eval
open SaVerif.Like SaVerif.Gen.EvalOps

theorem supported_eq (name : String) :
    supported name = (visitNames.map Spell.key).contains (Spell.key name) :=
  (Spell.contains_map Spell.key_inj _ _).symm

/-- What the regenerated visitor table lacks.  The names are compared through the injective code
    of `Lemmas/Spell`, so that the kernel evaluates no `String`. -/
theorem visitor_table :
    supported "visit_floordiv_binary_op" = false ∧
    supported "visit_between_op_binary_op" = false ∧
    supported "visit_add_clauselist_op" = false ∧
    supported "visit_mul_clauselist_op" = false ∧
    supported "visit_concat_op_clauselist_op" = false ∧
    ∀ icase neg : Bool, supported (likeVisit .contains icase neg) = false ∧
      supported (likeVisit .startswith icase neg) = (!icase && !neg) ∧
      supported (likeVisit .endswith icase neg) = (!icase && !neg) := by
  -- `delta`: the equation lemmas of `likeVisit` are dear to generate (a failing `rfl` through `String`)
  delta likeVisit
  -- `String.toList_ofList` rewrites `"ab".toList` because the literal unifies with `String.ofList ['a', 'b']`
  simp only [supported_eq, Spell.key, String.toList_append, apply_ite String.toList]
  repeat rewrite [String.toList_ofList]
  rw [Spell.names_eq _ _ (by repeat' constructor)]
  decide +kernel

theorem supported_likeVisit (k : Kind) (icase neg : Bool) :
    supported (likeVisit k icase neg) = (k != .contains && !icase && !neg) := by
  have h := visitor_table.2.2.2.2.2 icase neg
  cases k
  · exact h.1
  · exact h.2.1
  · exact h.2.2

theorem isEmpty_append {α : Type} (a b : List α) : (a ++ b).isEmpty = (a.isEmpty && b.isEmpty) := by
  cases a <;> simp

theorem isEmpty_guard (c : Bool) (s : String) : (if c then [s] else []).isEmpty = !c := by
  cases c <;> rfl

theorem straight_val {α β γ : Type} (g : α → β → γ) (x : Option α) (y : Option β) :
    straight (fun a b => Py.val (some (g a b))) (.val x) (.val y) =
      .val (lift2 (fun a b => some (g a b)) x y) := by
  cases x <;> cases y <;> rfl

theorem modOk_fmod (a b : Int) (h : modOk a b = true) : b ≠ 0 ∧ Int.fmod a b = Int.tmod a b := by
  simp only [modOk, Bool.and_eq_true, Bool.or_eq_true, decide_eq_true_eq, bne_iff_ne, ne_eq,
    ← Int.dvd_iff_emod_eq_zero] at h
  refine ⟨h.1, ?_⟩
  rcases h.2 with (hd | h2) | h3
  · rw [Int.fmod_eq_tmod, if_pos hd, Int.add_zero]
  · exact Int.fmod_eq_tmod_of_nonneg h2.1 h2.2
  · rw [Int.fmod_eq_tmod, if_neg (Int.not_le.2 h3.1), if_neg (Int.not_le.2 h3.2),
      Int.toNat_eq_zero.2 (Int.le_of_lt h3.2)]
    -- what is left, `a.tmod b + (if b ∣ a then 0 else 2 * ↑0) = a.tmod b`, has 0 in both branches
    simp

theorem safeI_bin (r : Row) (a b : IExp) (h : (violatedI r a ++ violatedI r b).isEmpty = true) :
    safeI r a = true ∧ safeI r b = true := by
  rwa [isEmpty_append, Bool.and_eq_true] at h

theorem getI_loaded (o : Obj) (hx : o.xi = []) (i : Nat) : getI o i = .val (o.row.ints.getD i none) := by
  simp [getI, hx]

theorem getS_loaded (o : Obj) (hx : o.xs = []) (i : Nat) : getS o i = .val (o.row.strs.getD i none) := by
  simp [getS, hx]

theorem evalI_eq (o : Obj) (hx : o.xi = []) :
    ∀ e : IExp, evaluableI e = true → safeI o.row e = true → evalPyI o e = .val (evalSqlI o.row e) := by
  intro e
  induction e with
  | col i => intro _ _; exact getI_loaded o hx i
  | lit v => intro _ _; rfl
  | add a b iha ihb | sub a b iha ihb | mul a b iha ihb =>
    intro he hs
    simp only [evaluableI, Bool.and_eq_true] at he
    have hs := safeI_bin o.row a b hs
    simp only [evalPyI, evalSqlI, iha he.1.2 hs.1, ihb he.2 hs.2, straight_val]
  | mod a b iha ihb =>
    intro he hs
    simp only [evaluableI, Bool.and_eq_true] at he
    simp only [safeI, violatedI, isEmpty_append, Bool.and_eq_true] at hs
    simp only [evalPyI, evalSqlI, iha he.1.2 hs.1.1, ihb he.2 hs.1.2]
    have hg := hs.2
    cases hxa : evalSqlI o.row a with
    | none => cases evalSqlI o.row b <;> rfl
    | some x =>
      cases hyb : evalSqlI o.row b with
      | none => rfl
      | some y =>
        cases hm : modOk x y
        · by_cases hy : y = 0 <;> simp [hxa, hyb, hy, hm] at hg
        · have := modOk_fmod x y hm
          show pyMod x y = .val (sqlMod x y)
          rw [pyMod, sqlMod, if_neg this.1, if_neg this.1, this.2]
  | floordiv a b _ _ =>
    intro he _
    simp [evaluableI, visitor_table.1] at he
  | neg a _ => intro he _; simp [evaluableI] at he

theorem evalS_eq (o : Obj) (hx : o.xs = []) :
    ∀ e : SExp, evaluableS e = true → evalPyS o e = .val (evalSqlS o.row e) := by
  intro e
  induction e with
  | col i => intro _; exact getS_loaded o hx i
  | lit v => intro _; rfl
  | concat a b iha ihb =>
    intro he
    simp only [evaluableS, Bool.and_eq_true] at he
    simp only [evalPyS, evalSqlS, iha he.1.2, ihb he.2, straight_val]

theorem likeOk_pyTest (k : Kind) (escape : Option Char) (auto : Bool) (other col : List Char)
    (h : likeOk other escape auto = true) :
    evalSqlite false ⟨k, false, false⟩ escape auto other col =
      pyTest k (effective escape auto other).1 col := by
  simp only [likeOk, Bool.and_eq_true, bne_iff_ne, ne_eq, List.all_eq_true] at h
  rw [evalSqlite_Lit ⟨k, false, false⟩ escape auto other col (hc := rfl) (hA := (mAll_eq_percent _).2 h.1)
    (h := Lit_self _ _ fun c hc => ⟨(h.2 c hc).1.1, (h.2 c hc).1.2, (h.2 c hc).2⟩)]
  -- the right side is `pyTest … != op.neg`, and the operator is not negated
  exact Bool.bne_false _

theorem and3_true (x : Option Bool) : and3 (some true) x = x := by
  rcases x with _ | _ | _ <;> rfl

theorem or3_false (x : Option Bool) : or3 (some false) x = x := by
  rcases x with _ | _ | _ <;> rfl

theorem or3_mask {a : Option Bool} (ha : a ≠ some true) (x : Option Bool) : or3 a (or3 none x) = or3 none x := by
  rcases a with _ | _ | _
  · rcases x with _ | _ | _ <;> rfl
  · exact or3_false _
  · exact absurd rfl ha

theorem or3_true_mask (a x : Option Bool) : or3 a (or3 (some true) x) = some true := by
  rcases a with _ | _ | _ <;> rfl

theorem quot_val (x y : Option Int) (hy : (y == some 0) = false) :
    straight pyQuot (.val x) (.val y) =
      .val (lift2 (fun x y => if y = 0 then none else some (x, y)) x y) := by
  cases y with
  | none => cases x <;> rfl
  | some y =>
    have hy0 : y ≠ 0 := fun h0 => by simp [h0] at hy
    cases x with
    | none => rfl
    | some x =>
      show pyQuot x y = .val (if y = 0 then none else some (x, y))
      rw [pyQuot, if_neg hy0, if_neg hy0]

theorem sqlIn_guarded (x : Option Int) (l : List (Option Int)) (hn : l.contains none = false)
    (he : (l.isEmpty && x.isNone) = false) : sqlIn x l = x.map fun v => l.contains (some v) := by
  cases l with
  | nil =>
    cases x with
    | none => simp at he
    | some v => rfl
  | cons a l =>
    cases x with
    | none => rfl
    | some v =>
      simp only [sqlIn, List.isEmpty_cons, Bool.false_eq_true, if_false, hn, Option.map_some]
      cases (a :: l).contains (some v) <;> rfl

def Rel (p : Py Bool) (s : Option Bool) : Prop := p = .val s ∨ (p = .val none ∧ s = some false)

/-- `Rel` without the AND-order guard, equality with it -/
inductive RelIf : Bool → Py Bool → Option Bool → Prop
  | of_eq {strict : Bool} {p : Py Bool} {s : Option Bool} (h : p = .val s) : RelIf strict p s
  | none_false {p : Py Bool} {s : Option Bool} (hp : p = .val none) (hs : s = some false) : RelIf false p s

theorem RelIf.eq {p : Py Bool} {s : Option Bool} (h : RelIf true p s) : p = .val s := by
  cases h with
  | of_eq h => exact h

theorem RelIf.rel {strict : Bool} {p : Py Bool} {s : Option Bool} (h : RelIf strict p s) : Rel p s := by
  cases h with
  | of_eq h => exact .inl h
  | none_false hp hs => exact .inr ⟨hp, hs⟩

theorem rel_or_weaken (res : Py Bool) (h : Bool) (x : Option Bool) (hr : RelIf false res (or3 none x)) :
    RelIf false res (or3 (if h then none else some false) x) := by
  cases h
  · rw [if_neg Bool.false_ne_true, or3_false]
    rcases x with _ | _ | _
    · exact hr
    · -- `x` FALSE: `res` is None (`NULL OR FALSE`), to be related to FALSE (`FALSE OR FALSE`)
      cases hr with
      | of_eq hr => exact .none_false hr rfl
      | none_false _ hc => cases hc
    · exact hr
  · exact hr

theorem violatedB_leaf_strict (r : Row) (e : BExp) (h : ∀ l, e ≠ .and l) (h' : ∀ l, e ≠ .or l)
    (h'' : ∀ a, e ≠ .not a) : violatedB true r e = violatedB false r e := by
  cases e with
  | and l => exact absurd rfl (h l)
  | or l => exact absurd rfl (h' l)
  | not a => exact absurd rfl (h'' a)
  | _ => rfl

theorem BExp.induct {P : BExp → Prop}
    (icmp : ∀ op a b, P (.icmp op a b)) (scmp : ∀ op a b, P (.scmp op a b))
    (qcmp : ∀ op a b c, P (.qcmp op a b c)) (inull : ∀ neg a, P (.inull neg a))
    (snull : ∀ neg a, P (.snull neg a)) (iin : ∀ neg a l, P (.iin neg a l))
    (like : ∀ k icase neg a other escape auto, P (.like k icase neg a other escape auto))
    (between : ∀ a lo hi, P (.between a lo hi))
    (and : ∀ l, (∀ e ∈ l, P e) → P (.and l)) (or : ∀ l, (∀ e ∈ l, P e) → P (.or l))
    (not : ∀ a, P a → P (.not a)) (const : ∀ v, P (.const v)) (e : BExp) : P e :=
  BExp.rec (motive_2 := fun l => ∀ e ∈ l, P e) icmp scmp qcmp inull snull iin like between
    and or not const nofun (fun _ _ h t => List.forall_mem_cons.2 ⟨h, t⟩) e

def Agrees (strict : Bool) (o : Obj) (e : BExp) : Prop :=
  evaluableB e = true → (strict = false → notFree e = true) → safeB strict o.row e = true →
    RelIf strict (evalPyB o e) (evalSqlB o.row e)

theorem andLoop_rel (strict : Bool) (o : Obj) (l : List BExp) : (∀ e ∈ l, Agrees strict o e) →
    evaluableL l = true → (strict = false → notFreeL l = true) →
    (violatedAnd strict o.row l).isEmpty = true → RelIf strict (andLoop o l) (andSql o.row l) := by
  induction l with
  | nil => intros; exact .of_eq rfl
  | cons e es ihl =>
    intro ih he hn hs
    simp only [evaluableL, Bool.and_eq_true] at he
    simp only [notFreeL, Bool.and_eq_true] at hn
    simp only [violatedAnd, isEmpty_append, Bool.and_eq_true] at hs
    have ih1 := ih e (List.mem_cons_self ..) he.1 (fun h => (hn h).1) hs.1.1
    have ih2 := ihl (fun e h => ih e (List.mem_cons_of_mem _ h)) he.2 (fun h => (hn h).2) hs.1.2
    simp only [andLoop, andSql]
    cases ih1 with
    | of_eq h1 =>
      rw [h1]
      cases hv : evalSqlB o.row e with
      | none =>
        cases hr : andSql o.row es with
        | none => exact .of_eq rfl
        | some b =>
          cases b
          · -- NULL before FALSE: None against SQL's FALSE, which the AND-order guard excludes
            cases strict
            · exact .none_false rfl rfl
            · simp [hv, hr] at hs
          · exact .of_eq rfl
      | some b =>
        cases b
        · exact .of_eq rfl
        · simpa only [and3_true] using ih2
    | none_false h1 h2 =>
      -- the conjunct is None for SQL's FALSE: the loop stops with None, SQL's AND is FALSE
      rw [h1, h2]
      exact .none_false rfl rfl

/-- The flag `has_null` of the OR loop stands for a NULL disjunct already seen: the loop's result is
    the SQL value of `NULL OR rest` (resp. `FALSE OR rest`). -/
theorem orLoop_rel (strict : Bool) (o : Obj) (l : List BExp) : (∀ e ∈ l, Agrees strict o e) →
    evaluableL l = true → (strict = false → notFreeL l = true) →
    (violatedL strict o.row l).isEmpty = true → ∀ hasNull,
    RelIf strict (orLoop o l hasNull) (or3 (if hasNull then none else some false) (orSql o.row l)) := by
  induction l with
  | nil => intro _ _ _ _ hasNull; cases hasNull <;> exact .of_eq rfl
  | cons e es ihl =>
    intro ih he hn hs hasNull
    simp only [evaluableL, Bool.and_eq_true] at he
    simp only [notFreeL, Bool.and_eq_true] at hn
    simp only [violatedL, isEmpty_append, Bool.and_eq_true] at hs
    have ih1 := ih e (List.mem_cons_self ..) he.1 (fun h => (hn h).1) hs.1
    have ih2 := ihl (fun e h => ih e (List.mem_cons_of_mem _ h)) he.2 (fun h => (hn h).2) hs.2
    simp only [orLoop, orSql]
    cases ih1 with
    | of_eq h1 =>
      rw [h1]
      cases evalSqlB o.row e with
      | none =>
        have hne : (if hasNull then none else some false) ≠ some true := by cases hasNull <;> nofun
        rw [or3_mask hne]
        exact ih2 true
      | some b =>
        cases b
        · rw [or3_false]; exact ih2 hasNull
        · rw [or3_true_mask]; exact .of_eq rfl
    | none_false h1 h2 =>
      -- the disjunct is None for SQL's FALSE: the loop goes on with `has_null` set
      rw [h1, h2, or3_false]
      exact rel_or_weaken _ hasNull _ (ih2 true)

section loaded
variable (o : Obj) (hxi : o.xi = []) (hxs : o.xs = [])
include hxi hxs

theorem agrees (strict : Bool) (e : BExp) : Agrees strict o e := by
  induction e using BExp.induct
  all_goals intro he hn hs; simp only [evaluableB, Bool.and_eq_true] at he
  case icmp op a b =>
    have hs := safeI_bin o.row a b hs
    simp only [evalPyB, evalSqlB, evalI_eq o hxi a he.1.2 hs.1, evalI_eq o hxi b he.2 hs.2, straight_val]
    exact .of_eq rfl
  case scmp op a b =>
    simp only [evalPyB, evalSqlB, evalS_eq o hxs a he.1.2, evalS_eq o hxs b he.2, straight_val]
    exact .of_eq rfl
  case qcmp op a b c =>
    simp only [safeB, violatedB, isEmpty_append, isEmpty_guard, Bool.and_eq_true,
      Bool.not_eq_true'] at hs
    simp only [evalPyB, evalSqlB, evalI_eq o hxi a he.1.1.2 hs.1.1.1, evalI_eq o hxi b he.1.2 hs.1.1.2,
      evalI_eq o hxi c he.2 hs.1.2, quot_val _ _ hs.2, straight_val]
    exact .of_eq rfl
  case inull neg a =>
    simp only [evalPyB, evalSqlB, evalI_eq o hxi a he.2 hs]
    exact .of_eq rfl
  case snull neg a =>
    simp only [evalPyB, evalSqlB, evalS_eq o hxs a he.2]
    exact .of_eq rfl
  case iin neg a l =>
    simp only [safeB, violatedB, isEmpty_append, isEmpty_guard] at hs
    simp only [Bool.and_eq_true, Bool.not_eq_true'] at hs
    simp only [evalPyB, evalSqlB, evalI_eq o hxi a he.2 hs.1.1, sqlIn_guarded _ l hs.1.2 hs.2]
    cases evalSqlI o.row a <;> cases neg <;> exact .of_eq rfl
  case like k icase neg a other escape auto =>
    simp only [supported_likeVisit, Bool.and_eq_true, Bool.not_eq_true'] at he
    obtain ⟨⟨⟨_, rfl⟩, rfl⟩, he⟩ := he
    have hok : likeOk other escape auto = true := by
      cases h : likeOk other escape auto
      · simp [safeB, violatedB, h] at hs
      · rfl
    simp only [evalPyB, evalSqlB, evalS_eq o hxs a he]
    cases evalSqlS o.row a with
    | none => exact .of_eq rfl
    | some col => exact .of_eq (congrArg (Py.val ∘ some) (likeOk_pyTest k escape auto other col hok).symm)
  case between a lo hi => simp [visitor_table.2.1] at he
  case const v => exact .of_eq rfl
  -- `notFree` and the violations of `.and l`, `.or l` are by definition those of the list
  case and l ih =>
    exact andLoop_rel strict o l ih he.2 (show strict = false → notFreeL l = true from hn)
      (show (violatedAnd strict o.row l).isEmpty = true from hs)
  case or l ih =>
    have := orLoop_rel strict o l ih he.2 (show strict = false → notFreeL l = true from hn)
      (show (violatedL strict o.row l).isEmpty = true from hs) false
    rwa [if_neg Bool.false_ne_true, or3_false] at this
  case not a ih =>
    -- NOT turns None-for-FALSE into None-for-TRUE: exact agreement is needed below it
    cases strict
    · simp [notFree] at hn
    · have := (ih he.2 nofun hs).eq
      simp only [evalPyB, evalSqlB, this]
      cases evalSqlB o.row a <;> exact .of_eq rfl

theorem andLoop_eq : ∀ l : List BExp, evaluableL l = true → (violatedAnd true o.row l).isEmpty = true →
    andLoop o l = .val (andSql o.row l) :=
  fun l he hs => (andLoop_rel true o l (fun e _ => agrees o hxi hxs true e) he nofun hs).eq

theorem orLoop_eq : ∀ (l : List BExp) (hasNull : Bool), evaluableL l = true →
    (violatedL true o.row l).isEmpty = true →
    orLoop o l hasNull = .val (or3 (if hasNull then none else some false) (orSql o.row l)) :=
  fun l hasNull he hs =>
    (orLoop_rel true o l (fun e _ => agrees o hxi hxs true e) he nofun hs hasNull).eq

/-! without NOT the AND-order guard is not needed: Python may say None where SQL says FALSE -/

theorem relB (e : BExp) (he : evaluableB e = true) (hn : notFree e = true)
    (hs : safeB false o.row e = true) : Rel (evalPyB o e) (evalSqlB o.row e) :=
  (agrees o hxi hxs false e he (fun _ => hn) hs).rel

theorem relAnd : ∀ l : List BExp, evaluableL l = true → notFreeL l = true →
    (violatedAnd false o.row l).isEmpty = true → Rel (andLoop o l) (andSql o.row l) :=
  fun l he hn hs =>
    (andLoop_rel false o l (fun e _ => agrees o hxi hxs false e) he (fun _ => hn) hs).rel

theorem relOr : ∀ (l : List BExp) (hasNull : Bool), evaluableL l = true → notFreeL l = true →
    (violatedL false o.row l).isEmpty = true →
    Rel (orLoop o l hasNull) (or3 (if hasNull then none else some false) (orSql o.row l)) :=
  fun l hasNull he hn hs =>
    (orLoop_rel false o l (fun e _ => agrees o hxi hxs false e) he (fun _ => hn) hs hasNull).rel

end loaded

theorem matched_of_rel (o : Obj) (w : BExp) (h : Rel (evalPyB o w) (evalSqlB o.row w)) :
    matchedPy o w = some (matchedSql o.row w) := by
  unfold matchedPy matchedSql
  rcases h with h | ⟨h1, h2⟩
  · rw [h]
    rcases evalSqlB o.row w with _ | _ | _ <;> rfl
  · rw [h1, h2]; rfl

theorem syncUpdateEvaluate_val (w : BExp) (sets : List (Nat × IExp)) (o : Obj) {v : Option Bool}
    (h : evalPyB o w = .val v) :
    syncUpdateEvaluate w sets o = if v == some true then syncSets sets o else .ok o := by
  rw [syncUpdateEvaluate, h]
  rcases v with _ | _ | _ <;> rfl

theorem syncDeleteEvaluate_val (w : BExp) (o : Obj) {v : Option Bool} (h : evalPyB o w = .val v) :
    syncDeleteEvaluate w o = if v == some true then .removed else .kept := by
  rw [syncDeleteEvaluate, h]
  rcases v with _ | _ | _ <;> rfl

theorem getD_setAt (l : List (Option Int)) (i j : Nat) (v : Option Int) :
    (setAt l i v).getD j none = if i = j ∧ i < l.length then v else l.getD j none :=
  ListFacts.getD_set l i j v none

theorem setAt_unread (r : Row) (i : Nat) (v : Option Int) (e : IExp) (h : readsI i e = false) :
    evalSqlI { r with ints := setAt r.ints i v } e = evalSqlI r e ∧
      violatedI { r with ints := setAt r.ints i v } e = violatedI r e := by
  induction e with
  | col j => exact ⟨(getD_setAt ..).trans (if_neg fun hh => by simp [readsI, hh.1] at h), rfl⟩
  | lit v => exact ⟨rfl, rfl⟩
  | add a b iha ihb | sub a b iha ihb | mul a b iha ihb | mod a b iha ihb | floordiv a b iha ihb =>
    simp only [readsI, Bool.or_eq_false_iff] at h
    simp only [evalSqlI, violatedI, iha h.1, ihb h.2, and_self]
  | neg a iha => simp only [evalSqlI, violatedI, iha h, and_self]

/-- under independence, the loop that reads the dict it writes computes the simultaneous
    assignment (`r0` = the row before the statement) -/
theorem applySeqObj_eq_sim (r0 : Row) : ∀ (sets : List (Nat × IExp)) (r : Row) (xs : List Nat),
    (∀ p ∈ sets, evalSqlI r p.2 = evalSqlI r0 p.2 ∧ evaluableI p.2 = true ∧ safeI r p.2 = true) →
    setsIndependent sets = true →
    applySeqObj sets ⟨r, [], xs⟩ =
      .ok ⟨{ r with ints := sets.foldl (fun acc p => setAt acc p.1 (evalSqlI r0 p.2)) r.ints }, [], xs⟩
  | [], r, xs, _, _ => by simp [applySeqObj]
  | (i, e) :: rest, r, xs, hp, hi => by
    obtain ⟨hsame, heval, hsafe⟩ := hp (i, e) (by simp)
    simp only [setsIndependent, Bool.and_eq_true, List.all_eq_true, Bool.not_eq_true',
      bne_iff_ne, ne_eq] at hi
    have hev := evalI_eq ⟨r, [], xs⟩ rfl e heval hsafe
    simp only [applySeqObj, List.contains_nil, Bool.false_eq_true, if_false, hev, hsame, List.foldl_cons]
    have := applySeqObj_eq_sim r0 rest { r with ints := setAt r.ints i (evalSqlI r0 e) } xs
      (by
        intro p hpm
        have hr := setAt_unread r i (evalSqlI r0 e) p.2 (hi.1.1 p hpm).1
        have h2 := hp p (by simp [hpm])
        exact ⟨hr.1.trans h2.1, h2.2.1, (congrArg List.isEmpty hr.2).trans h2.2.2⟩)
      hi.2
    simpa using this

theorem syncSets_eq_sim (sets : List (Nat × IExp)) (r : Row) (xs : List Nat)
    (hset : ∀ p ∈ sets, evaluableI p.2 = true ∧ safeI r p.2 = true)
    (hind : setsIndependent sets = true) :
    syncSets sets ⟨r, [], xs⟩ = .ok ⟨applySim sets r, [], xs⟩ := by
  have h1 : sets.filter (fun p => evaluableI p.2) = sets :=
    List.filter_eq_self.2 fun p hp => (hset p hp).1
  have h2 : sets.filter (fun p => !evaluableI p.2) = [] :=
    List.filter_eq_nil_iff.2 fun p hp => by simp [(hset p hp).1]
  have := applySeqObj_eq_sim r sets r xs (fun p hp => ⟨rfl, (hset p hp).1, (hset p hp).2⟩) hind
  simp only [syncSets, h1, h2, this, List.map_nil, List.append_nil]
  rfl

theorem applySim_eq_foldl (sets : List (Nat × IExp)) (r : Row) :
    applySim sets r = { r with ints := sets.foldl (fun acc p => setAt acc p.1 (evalSqlI r p.2)) r.ints } := rfl

def Upto {α : Type} (a a' : Py α) : Prop := a ≠ .expired → a' = a

theorem Upto.rfl {α : Type} {a : Py α} : Upto a a := fun _ => Eq.refl a

theorem straight_upto {α β γ : Type} (op : α → β → Py γ) {a a' : Py α} {b b' : Py β}
    (ha : Upto a a') (hb : Upto b b') : Upto (straight op a b) (straight op a' b') := by
  intro h
  cases a with
  | zerodiv =>
    rw [ha (by simp)]
    cases b' <;> rfl
  | expired =>
    cases b with
    | zerodiv =>
      -- the one case where `a'` is anything: `straight` looks for `zerodiv` on both sides before all else
      rw [hb (by simp)]
      cases a' with
      | val x => cases x <;> rfl
      | expired => rfl
      | zerodiv => rfl
    | expired => exact absurd rfl h
    | val y => cases y <;> exact absurd rfl h
  | val x =>
    rw [ha (by simp)]
    cases b with
    | zerodiv => rw [hb (by simp)]
    | expired => cases x <;> exact absurd rfl h
    | val y => rw [hb (by simp)]

theorem andLoop_upto (o o' : Obj) (l : List BExp)
    (ih : ∀ e ∈ l, Upto (evalPyB o e) (evalPyB o' e)) : Upto (andLoop o l) (andLoop o' l) := by
  induction l with
  | nil => intro _; rfl
  | cons e es ihl =>
    intro h
    simp only [andLoop] at h ⊢
    rw [ih e (List.mem_cons_self ..) fun hx => h (by rw [hx])]
    revert h
    cases evalPyB o e with
    | val v =>
      cases v with
      | none => intro _; rfl
      | some b =>
        cases b
        · intro _; rfl
        · exact ihl fun e h => ih e (List.mem_cons_of_mem _ h)
    | _ => intro _; rfl

theorem orLoop_upto (o o' : Obj) (l : List BExp)
    (ih : ∀ e ∈ l, Upto (evalPyB o e) (evalPyB o' e)) (hn : Bool) :
    Upto (orLoop o l hn) (orLoop o' l hn) := by
  induction l generalizing hn with
  | nil => intro _; rfl
  | cons e es ihl =>
    intro h
    simp only [orLoop] at h ⊢
    rw [ih e (List.mem_cons_self ..) fun hx => h (by rw [hx])]
    revert h
    cases evalPyB o e with
    | val v =>
      cases v with
      | none => exact ihl (fun e h => ih e (List.mem_cons_of_mem _ h)) true
      | some b =>
        cases b
        · exact ihl (fun e h => ih e (List.mem_cons_of_mem _ h)) hn
        · intro _; rfl
    | _ => intro _; rfl

section
variable {o o' : Obj} (hI : ∀ i, Upto (getI o i) (getI o' i)) (hS : ∀ i, Upto (getS o i) (getS o' i))
include hI hS

omit hS in
theorem evalPyI_upto : ∀ e : IExp, Upto (evalPyI o e) (evalPyI o' e)
  | .col i => hI i
  | .add a b | .sub a b | .mul a b | .mod a b => straight_upto _ (evalPyI_upto a) (evalPyI_upto b)
  | .lit _ | .floordiv .. | .neg _ => .rfl

omit hI in
theorem evalPyS_upto : ∀ e : SExp, Upto (evalPyS o e) (evalPyS o' e)
  | .col i => hS i
  | .lit _ => .rfl
  | .concat a b => straight_upto _ (evalPyS_upto a) (evalPyS_upto b)

theorem evalPyB_upto (e : BExp) : Upto (evalPyB o e) (evalPyB o' e) := by
  have I := evalPyI_upto hI
  have S := evalPyS_upto hS
  induction e using BExp.induct with
  | icmp op a b => exact straight_upto _ (I a) (I b)
  | scmp op a b => exact straight_upto _ (S a) (S b)
  | qcmp op a b c => exact straight_upto _ (straight_upto _ (I a) (I b)) (I c)
  | inull neg a =>
    intro h
    simp only [evalPyB] at h ⊢
    rw [I a fun hx => h (by rw [hx])]
  | snull neg a =>
    intro h
    simp only [evalPyB] at h ⊢
    rw [S a fun hx => h (by rw [hx])]
  | iin neg a l => exact straight_upto _ (I a) .rfl
  | like k ic ng a ot es au => exact straight_upto _ (S a) .rfl
  | and l ih => exact andLoop_upto o o' l ih
  | or l ih => exact orLoop_upto o o' l ih false
  | not a ih =>
    intro h
    simp only [evalPyB] at h ⊢
    rw [ih fun hx => h (by rw [hx])]
  | _ => exact .rfl

end

/-- the shape of `getI o i` and `getS o i`: an `if` on the expired columns -/
theorem read_upto {α : Type} {c : Bool} {a a' : Option α} (h : c = false → a' = a) :
    Upto (if c then Py.expired else .val a) (.val a') := by
  intro hne
  cases c
  · exact congrArg Py.val (h rfl)
  · exact absurd rfl hne

section expired
variable (o : Obj) (r' : Row)
  (hi : ∀ i, o.xi.contains i = false → r'.ints.getD i none = o.row.ints.getD i none)
  (hs : ∀ i, o.xs.contains i = false → r'.strs.getD i none = o.row.strs.getD i none)
include hi hs

theorem expired_sound_B (e : BExp) (h : evalPyB o e ≠ .expired) :
    evalPyB ⟨r', [], []⟩ e = evalPyB o e :=
  evalPyB_upto (o := o) (o' := ⟨r', [], []⟩) (fun i => read_upto (hi i)) (fun i => read_upto (hs i)) e h

theorem expired_sound_and : ∀ l : List BExp, andLoop o l ≠ .expired → andLoop ⟨r', [], []⟩ l = andLoop o l :=
  fun l => andLoop_upto o _ l fun e _ => expired_sound_B o r' hi hs e

theorem expired_sound_or : ∀ (l : List BExp) (hn : Bool), orLoop o l hn ≠ .expired →
    orLoop ⟨r', [], []⟩ l hn = orLoop o l hn :=
  fun l => orLoop_upto o _ l fun e _ => expired_sound_B o r' hi hs e

end expired

theorem applyCols_sync (skip : List Nat) :
    ∀ (cols : List (Nat × Option Int)) (r1 r2 : List (Option Int)), r1.length = r2.length →
      (∀ c, skip.contains c = true ∨ r1.getD c none = r2.getD c none) →
      (applyCols cols skip r1).length = (applyCols cols [] r2).length ∧
      ∀ c, skip.contains c = true ∨
        (applyCols cols skip r1).getD c none = (applyCols cols [] r2).getD c none
  | [], _, _, hl, h => ⟨hl, h⟩
  | (k, v) :: rest, r1, r2, hl, h => by
    simp only [applyCols, List.foldl_cons, List.contains_nil, Bool.false_eq_true, if_false]
    by_cases hk : skip.contains k = true
    · rw [if_pos hk]
      refine applyCols_sync skip rest r1 (setAt r2 k v) (by simp [setAt, hl]) fun c => ?_
      by_cases hkc : k = c
      · exact .inl (hkc ▸ hk)
      · rw [getD_setAt, if_neg fun hh => hkc hh.1]
        exact h c
    · rw [if_neg hk]
      refine applyCols_sync skip rest (setAt r1 k v) (setAt r2 k v) (by simp [setAt, hl]) fun c => ?_
      exact (h c).imp_right fun e => by rw [getD_setAt, getD_setAt, hl, e]

/-- `Slot.inSync` as a proposition, over every column (past the end both sides read `none`) and with
    the loaded values as long as the row, so that `setAt` writes the same columns on both (`applyCols_sync`) -/
def SlotOk (s : Slot) : Prop :=
  ∀ o, s.sess = some o → o.1.length = s.db.length ∧
    ∀ c, o.2.contains c = true ∨ o.1.getD c none = s.db.getD c none

theorem bulkStep_ok (p : BulkParam) (slots : List Slot) (h : ∀ s ∈ slots, SlotOk s) :
    ∀ s ∈ bulkStep p slots, SlotOk s := by
  intro s hs
  obtain ⟨s0, hs0, rfl⟩ := List.mem_map.1 hs
  have h0 := h s0 hs0
  by_cases hp : (s0.pk == p.1) = true
  · simp only [hp, if_true]
    intro o ho
    cases hse : s0.sess with
    | none => simp [hse] at ho
    | some o0 =>
      simp only [hse, Option.map_some, Option.some.injEq] at ho
      subst ho
      obtain ⟨hl, hc⟩ := h0 o0 hse
      exact applyCols_sync o0.2 p.2 o0.1 s0.db hl hc
  · simp only [hp]; exact h0

end SaVerif.Eval
