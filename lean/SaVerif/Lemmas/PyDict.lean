import SaVerif.Lemmas.PySeq
import SaVerif.Model.PySetDict
import SaVerif.Lemmas.ImmDict
namespace SaVerif.PySeq

def dKeys (d : Dict) : List Key := d.map (·.1)
def dVals (d : Dict) : List Item := d.map (·.2)

def DWf (d : Dict) : Prop := (dKeys d).Nodup

theorem dGet_nil (k : Key) : dGet [] k = none := rfl

-- `dGet` and `dKeys` are `Coll.kvGet` and `Coll.kvKeys` written out again, `dHas` is the test in `Coll.kvSet`
theorem dGet_cons (e : Key × Item) (d : Dict) (k : Key) :
    dGet (e :: d) k = if e.1 = k then some e.2 else dGet d k := Coll.kvGet_cons e d k

theorem dHas_iff_mem {d : Dict} {k : Key} : dHas d k = true ↔ k ∈ dKeys d := Coll.any_key_iff

theorem dGet_none_iff {d : Dict} {k : Key} : dGet d k = none ↔ k ∉ dKeys d := Coll.kvGet_eq_none_iff

theorem dHas_eq_isSome (d : Dict) (k : Key) : dHas d k = (dGet d k).isSome := by
  rw [Bool.eq_iff_iff, dHas_iff_mem, Option.isSome_iff_ne_none, Ne, dGet_none_iff, Decidable.not_not]

theorem wf_cons {e : Key × Item} {d : Dict} (h : DWf (e :: d)) : e.1 ∉ dKeys d ∧ DWf d :=
  List.nodup_cons.1 h

theorem dSet_cons_self {e : Key × Item} {d : Dict} {k : Key} (v : Item) (h : e.1 = k)
    (hn : k ∉ dKeys d) : dSet (e :: d) k v = (k, v) :: d := by
  have hd : d.map (fun x => if x.1 == k then (k, v) else x) = d :=
    (List.map_congr_left fun x hx =>
      if_neg fun (hxk : (x.1 == k) = true) => hn (beq_iff_eq.1 hxk ▸ List.mem_map_of_mem hx)).trans
      (List.map_id d)
  unfold dSet
  rw [if_pos (dHas_iff_mem.2 (h ▸ List.mem_cons_self ..)), List.map_cons, hd, if_pos (beq_iff_eq.2 h)]

theorem dSet_cons_ne {e : Key × Item} (d : Dict) {k : Key} (v : Item) (h : e.1 ≠ k) :
    dSet (e :: d) k v = e :: dSet d k v := by
  have hb : (e.1 == k) = false := beq_eq_false_iff_ne.2 h
  have hhas : dHas (e :: d) k = dHas d k := by
    unfold dHas; rw [List.any_cons, hb, Bool.false_or]
  unfold dSet
  rw [hhas]
  split
  · rw [List.map_cons, hb]; rfl
  · rfl

theorem dDel_cons_self {e : Key × Item} {d : Dict} {k : Key} (h : e.1 = k) (hn : k ∉ dKeys d) :
    dDel (e :: d) k = d := by
  unfold dDel
  rw [List.filter_cons, if_neg (by simp [h]), List.filter_eq_self]
  intro x hx
  exact bne_iff_ne.2 fun hxk => hn (hxk ▸ List.mem_map_of_mem hx)

theorem dDel_cons_ne {e : Key × Item} (d : Dict) {k : Key} (h : e.1 ≠ k) :
    dDel (e :: d) k = e :: dDel d k := by
  unfold dDel
  rw [List.filter_cons, if_pos (bne_iff_ne.2 h)]

theorem not_mem_keys_cons {e : Key × Item} {A : Dict} {k : Key} (h : k ∉ dKeys (e :: A)) :
    e.1 ≠ k ∧ k ∉ dKeys A :=
  ⟨fun he => h (he ▸ List.mem_cons_self ..), fun hm => h (List.mem_cons_of_mem _ hm)⟩

theorem dGet_append_of_not_mem {A : Dict} {k : Key} (hA : k ∉ dKeys A) (d : Dict) :
    dGet (A ++ d) k = dGet d k :=
  (Coll.kvGet_append A d k).trans (congrArg (·.or (dGet d k)) (dGet_none_iff.2 hA))

theorem exists_cut {d : Dict} {k : Key} {old : Item} (hw : DWf d) (hg : dGet d k = some old) :
    ∃ A C, d = A ++ (k, old) :: C ∧ k ∉ dKeys A ∧ k ∉ dKeys C := by
  induction d with
  | nil => cases hg
  | cons e d ih =>
    obtain ⟨he, hwd⟩ := wf_cons hw
    rw [dGet_cons] at hg
    by_cases h : e.1 = k
    · rw [if_pos h] at hg
      cases hg
      exact ⟨[], d, by rw [← h]; rfl, List.not_mem_nil, h ▸ he⟩
    · rw [if_neg h] at hg
      obtain ⟨A, C, rfl, hA, hC⟩ := ih hwd hg
      exact ⟨e :: A, C, rfl, fun hm => (List.mem_cons.1 hm).elim (fun e' => h e'.symm) hA, hC⟩

theorem dDel_cut {A C : Dict} {k : Key} (v : Item) (hA : k ∉ dKeys A) (hC : k ∉ dKeys C) :
    dDel (A ++ (k, v) :: C) k = A ++ C := by
  induction A with
  | nil => exact dDel_cons_self rfl hC
  | cons e A ih =>
    obtain ⟨he, hA'⟩ := not_mem_keys_cons hA
    rw [List.cons_append, dDel_cons_ne _ he, ih hA', List.cons_append]

theorem dSet_cut {A C : Dict} {k : Key} (v w : Item) (hA : k ∉ dKeys A) (hC : k ∉ dKeys C) :
    dSet (A ++ (k, v) :: C) k w = A ++ (k, w) :: C := by
  induction A with
  | nil => exact dSet_cons_self w rfl hC
  | cons e A ih =>
    obtain ⟨he, hA'⟩ := not_mem_keys_cons hA
    rw [List.cons_append, dSet_cons_ne _ w he, ih hA', List.cons_append]

theorem dVals_append (A B : Dict) : dVals (A ++ B) = dVals A ++ dVals B := List.map_append

theorem dDel_wf_acc {d : Dict} (hw : DWf d) {k : Key} {old : Item} (hg : dGet d k = some old) :
    DWf (dDel d k) ∧ Accounts (dVals d) [.rem old] (dVals (dDel d k)) := by
  refine ⟨hw.sublist (List.filter_sublist.map _), ?_⟩
  obtain ⟨A, C, rfl, hA, hC⟩ := exists_cut hw hg
  rw [dDel_cut old hA hC, dVals_append, dVals_append]
  exact acc_cut_out _ [old] _

theorem dSet_wf_acc {d : Dict} (hw : DWf d) (k : Key) (v : Item) :
    DWf (dSet d k v) ∧
    (∀ old, dGet d k = some old → Accounts (dVals d) [.rem old, .app v] (dVals (dSet d k v))) ∧
    (dGet d k = none → Accounts (dVals d) [.app v] (dVals (dSet d k v))) := by
  -- `dSet d k v` unfolds to `Coll.kvUpdate d [(k, v)]`
  refine ⟨Coll.kvUpdate_wf hw [(k, v)], ?_⟩
  cases hg : dGet d k with
  | some old =>
    obtain ⟨A, C, rfl, hA, hC⟩ := exists_cut hw hg
    rw [dSet_cut old v hA hC, dVals_append, dVals_append]
    exact ⟨fun _ h => Option.some.inj h ▸ acc_trans (acc_cut_out _ [old] _) (acc_cut_in _ [v] _), nofun⟩
  | none =>
    rw [show dSet d k v = d ++ [(k, v)] from if_neg (mt dHas_iff_mem.1 (dGet_none_iff.1 hg))]
    exact ⟨nofun, fun _ => acc_apps (xs := [v]) (by rw [dVals_append]; rfl)⟩

theorem dGet_last {pre : Dict} {k : Key} {v : Item} (hw : DWf (pre ++ [(k, v)])) :
    dGet (pre ++ [(k, v)]) k = some v := by
  have hk : k ∉ dKeys pre := fun h => by
    unfold DWf dKeys at hw
    rw [List.map_append, List.nodup_append] at hw
    exact hw.2.2 k h k (List.mem_singleton_self k) rfl
  rw [dGet_append_of_not_mem hk, dGet_cons, if_pos rfl]

theorem DictI.setitem_ret (d : Dict) (k : Key) (v : Item) : (DictI.setitem d k v).ret = .none := by
  unfold DictI.setitem
  split <;> rfl

theorem dSet_same {d : Dict} (hw : DWf d) {k : Key} {v : Item} (hg : dGet d k = some v) :
    dSet d k v = d := by
  obtain ⟨A, C, rfl, hA, hC⟩ := exists_cut hw hg
  exact dSet_cut v v hA hC

end SaVerif.PySeq
