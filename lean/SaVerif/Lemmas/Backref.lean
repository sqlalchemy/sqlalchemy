import SaVerif.Model.Backref
import SaVerif.Lemmas.ListFacts
/-! Helper lemmas about M-BACKREF: the symmetry invariant and its preservation by every operation.

Every collection operation on a parent `p` is a run of events (`appendEvent`, `removeEvent`) and
stores into `p`'s list; in between, `p`'s list and the children pointing to `p` disagree while
every other parent stays in agreement.  `Open p l S` is the invariant with that hole at `p`
(`l` = `p`'s list, `S` = the children pointing to `p`): an operation opens the invariant at `p`,
follows its events through `l` and `S`, and pays the obligation at `p` (`l` duplicate-free with
exactly the members `S`) at `close`. -/
namespace SaVerif.Backref

structure Inv (st : St) : Prop where
  sym : ∀ p c, c ∈ st.kids p ↔ st.par c = some p
  nodup : ∀ p, (st.kids p).Nodup

theorem setKids_kids (st : St) (p : Nat) (l : List Nat) (q : Nat) :
    (setKids st p l).kids q = if q = p then l else st.kids q := rfl
theorem setKids_par (st : St) (p : Nat) (l : List Nat) (d : Nat) :
    (setKids st p l).par d = st.par d := rfl
theorem setPar_par (st : St) (c : Nat) (x : Option Nat) (d : Nat) :
    (setPar st c x).par d = if d = c then x else st.par d := rfl
theorem setPar_kids (st : St) (c : Nat) (x : Option Nat) (q : Nat) :
    (setPar st c x).kids q = st.kids q := rfl

variable {st s : St} {c p q r x : Nat} {S T : Nat → Prop}

theorem popKid_kids : (popKid st q c).kids r = if q = r then (st.kids r).erase c else st.kids r := by
  unfold popKid
  rw [setKids_kids]
  split
  · next e => rw [e, if_pos rfl]
  · next e => rw [if_neg (Ne.symm e)]

structure Open (p : Nat) (l : List Nat) (S : Nat → Prop) (s : St) : Prop where
  kp : s.kids p = l
  other : ∀ q, q ≠ p → ∀ x, x ∈ s.kids q ↔ s.par x = some q
  nodup : ∀ q, q ≠ p → (s.kids q).Nodup
  mine : ∀ x, s.par x = some p ↔ S x

variable {l : List Nat}

theorem Inv.openAt (h : Inv st) (p : Nat) : Open p (st.kids p) (· ∈ st.kids p) st where
  kp := rfl
  other q _ := h.sym q
  nodup q _ := h.nodup q
  mine x := (h.sym p x).symm

theorem Open.close (o : Open p l S s) (hn : l.Nodup) (hm : ∀ x, x ∈ l ↔ S x) : Inv s := by
  refine ⟨fun q x => ?_, fun q => ?_⟩ <;> by_cases hq : q = p
  · rw [hq, o.kp, hm, o.mine]
  · exact o.other q hq x
  · exact hq ▸ o.kp ▸ hn
  · exact o.nodup q hq

theorem Open.congr (o : Open p l S s) (h : ∀ x, S x ↔ T x) : Open p l T s :=
  { o with mine := fun x => (o.mine x).trans (h x) }

theorem Open.setKids (o : Open p l S s) (f : List Nat → List Nat) :
    Open p (f l) S (setKids s p (f (s.kids p))) where
  kp := o.kp ▸ if_pos rfl
  other q hq x := by rw [setKids_kids, if_neg hq]; exact o.other q hq x
  nodup q hq := by rw [setKids_kids, if_neg hq]; exact o.nodup q hq
  mine := o.mine

theorem hasDupes_of_nodup {l : List Nat} (h : l.Nodup) (c : Nat) : hasDupes l c = false :=
  decide_eq_false (Nat.not_lt.2 (List.nodup_iff_count.1 h c))

theorem removeEvent_of_nodup {l : List Nat} (hn : l.Nodup) :
    removeEvent st p c l = if st.par c = some p then setPar st c none else st := by
  unfold removeEvent
  rw [hasDupes_of_nodup hn c]
  rfl

theorem Open.removeEvent (o : Open p l S s) (hn : l.Nodup) (c : Nat) :
    Open p l (fun x => S x ∧ x ≠ c) (removeEvent s p c (s.kids p)) := by
  rw [removeEvent_of_nodup (o.kp ▸ hn)]
  split
  · next hp =>
    refine { o with other := fun q hq x => ?_, mine := fun x => ?_ } <;> rw [setPar_par]
    · rw [setPar_kids, o.other q hq]
      split
      · next e => exact ⟨fun h => absurd (Option.some.inj ((e ▸ hp).symm.trans h)) (Ne.symm hq), nofun⟩
      · rfl
    · split
      · next e => exact ⟨nofun, fun h => absurd e h.2⟩
      · next e => exact (o.mine x).trans ⟨fun h => ⟨h, e⟩, And.left⟩
  · next hp => exact o.congr fun x => ⟨fun h => ⟨h, fun e => hp (e ▸ (o.mine x).2 h)⟩, And.left⟩

theorem appendEvent_of_ne (hne : s.par c ≠ some p) :
    appendEvent s p c = setPar (match s.par c with | some q => popKid s q c | none => s) c (some p) :=
  if_neg hne

theorem appendEvent_kids (hne : s.par c ≠ some p) (r : Nat) :
    (appendEvent s p c).kids r = if s.par c = some r then (s.kids r).erase c else s.kids r := by
  rw [appendEvent_of_ne hne, setPar_kids]
  cases hq : s.par c with
  | none => rfl
  | some q =>
    rw [popKid_kids]
    split
    · next e => rw [e, if_pos rfl]
    · next e => rw [if_neg fun e' => e (Option.some.inj e')]

theorem appendEvent_par (hne : s.par c ≠ some p) (x : Nat) :
    (appendEvent s p c).par x = if x = c then some p else s.par x := by
  rw [appendEvent_of_ne hne, setPar_par]
  split
  · rfl
  · cases s.par c <;> rfl

theorem Open.appendEvent (o : Open p l S s) (c : Nat) :
    Open p l (fun x => S x ∨ x = c) (appendEvent s p c) := by
  by_cases hne : s.par c = some p
  · rw [show Backref.appendEvent s p c = s from if_pos hne]
    exact o.congr fun x => ⟨.inl, fun h => h.elim id fun e => (o.mine x).1 (e ▸ hne)⟩
  · refine ⟨?_, fun q hq x => ?_, fun q hq => ?_, fun x => ?_⟩
    · rw [appendEvent_kids hne, if_neg hne, o.kp]
    · -- `c` leaves the list of its old parent, and only that one
      rw [appendEvent_kids hne, appendEvent_par hne]
      by_cases hx : x = c
      · -- `c` points to `p ≠ q`; it is erased from `q`'s list, which held it once, or was not there
        subst hx
        rw [if_pos rfl]
        refine iff_of_false (fun hm => ?_) fun e => hq (Option.some.inj e).symm
        split at hm
        · exact ((o.nodup q hq).mem_erase_iff.1 hm).1 rfl
        · next e => exact e ((o.other q hq x).1 hm)
      · -- another child stays where it is
        rw [if_neg hx, ← o.other q hq x]
        split
        · exact (o.nodup q hq).mem_erase_iff.trans (and_iff_right hx)
        · rfl
    · rw [appendEvent_kids hne]
      split
      · exact (o.nodup q hq).erase c
      · exact o.nodup q hq
    · rw [appendEvent_par hne, ← o.mine]
      by_cases hx : x = c <;> simp [hx]

theorem Open.append (o : Open p l S s) (c : Nat) :
    Open p (l ++ [c]) (fun x => S x ∨ x = c) (append s p c) :=
  (o.appendEvent c).setKids (· ++ [c])

theorem inv_append (h : Inv st) (p c : Nat) (hc : c ∉ st.kids p) : Inv (append st p c) :=
  ((h.openAt p).append c).close (ListFacts.nodup_snoc (h.nodup p) hc)
    fun x => by rw [List.mem_append, List.mem_singleton]

/-- what `remove`, `pop` and `del` come to: the child has been told, the list lost it -/
theorem Open.close_erase (o : Open p (l.erase c) (fun x => x ∈ l ∧ x ≠ c) s) (hl : l.Nodup) : Inv s :=
  o.close (hl.erase c) fun x => by rw [hl.mem_erase_iff, and_comm]

theorem inv_removeFound (h : Inv st) (p c : Nat) :
    Inv (setKids (removeEvent st p c (st.kids p)) p (((removeEvent st p c (st.kids p)).kids p).erase c)) :=
  (((h.openAt p).removeEvent (h.nodup p) c).setKids (·.erase c)).close_erase (h.nodup p)

theorem inv_remove (h : Inv st) (p c : Nat) : Inv (remove st p c).1 := by
  unfold remove
  split
  · exact inv_removeFound h p c
  · exact h

theorem setPar_setKids (st : St) (c : Nat) (x : Option Nat) (p : Nat) (l : List Nat) :
    setPar (setKids st p l) c x = setKids (setPar st c x) p l := rfl

theorem setParent_some (hne : st.par c ≠ some p) : setParent st c (some p) = append st p c := by
  unfold append
  rw [appendEvent_of_ne hne, ← setPar_setKids]
  exact if_neg hne

theorem setParent_none (hn : (st.kids q).Nodup) (hq : st.par c = some q) :
    setParent st c none =
      setKids (removeEvent st q c (st.kids q)) q (((removeEvent st q c (st.kids q)).kids q).erase c) := by
  rw [removeEvent_of_nodup hn, if_pos hq, ← setPar_setKids]
  unfold setParent scalarSet
  rw [hq]
  rfl

theorem inv_setParent (h : Inv st) (c : Nat) (new : Option Nat) : Inv (setParent st c new) := by
  by_cases he : st.par c = new
  · rw [show setParent st c new = st from if_pos he]
    exact h
  · -- the scalar side comes to `append` on the new parent, `remove` on the old one
    cases new with
    | some p =>
      rw [setParent_some he]
      exact inv_append h p c fun hc => he ((h.sym p c).1 hc)
    | none =>
      cases hq : st.par c with
      | none => exact absurd hq he
      | some q =>
        rw [setParent_none (h.nodup q) hq]
        exact inv_removeFound h q c

theorem normIdx_lt {n : Nat} {i : Int} {k : Nat} (h : normIdx n i = some k) : k < n := by
  unfold normIdx at h
  split at h <;> split at h <;> cases h <;> omega

theorem eraseIdx_of_getElem? {l : List Nat} {k : Nat} (hn : l.Nodup) (hc : l[k]? = some c) :
    c ∈ l ∧ l.eraseIdx k = l.erase c := by
  obtain ⟨hk, rfl⟩ := List.getElem?_eq_some_iff.1 hc
  exact ⟨List.getElem_mem hk, (List.erase_eq_eraseIdx_of_idxOf (hn.idxOf_getElem k hk)).symm⟩

theorem inv_delItem (h : Inv st) (p : Nat) (i : Int) : Inv (delItem st p i).1 := by
  unfold delItem
  split
  · exact h
  · next k _ =>
    split
    · exact h
    · next c hc =>
      have o := ((h.openAt p).removeEvent (h.nodup p) c).setKids (·.eraseIdx k)
      rw [(eraseIdx_of_getElem? (h.nodup p) hc).2] at o
      exact o.close_erase (h.nodup p)

theorem inv_pop (h : Inv st) (p : Nat) (i : Int) : Inv (pop st p i).1 := by
  unfold pop
  split
  · exact h
  · next k _ =>
    split
    · exact h
    · next c hc =>
      dsimp only
      rw [(eraseIdx_of_getElem? (h.nodup p) hc).2]
      exact (((h.openAt p).setKids (·.erase c)).removeEvent ((h.nodup p).erase c) c).close_erase (h.nodup p)

theorem set_perm {l : List Nat} {k : Nat} (hk : k < l.length) (c : Nat) :
    (l.set k c).Perm (c :: l.eraseIdx k) := by
  rw [List.set_eq_take_append_cons_drop, if_pos hk, List.eraseIdx_eq_take_drop_succ]
  exact List.perm_middle

theorem inv_setItem (h : Inv st) (p : Nat) (i : Int) (c : Nat)
    (g : ∀ k, normIdx (st.kids p).length i = some k → c ∉ st.kids p ∨ (st.kids p)[k]? = some c) :
    Inv (setItem st p i c).1 := by
  unfold setItem
  split
  · exact h
  · next k hk =>
    split
    · exact h
    · next e he =>
      obtain ⟨hm, hee⟩ := eraseIdx_of_getElem? (h.nodup p) he
      have hg : c ∉ st.kids p ∨ e = c := (g k hk).imp_right fun hc => Option.some.inj (he.symm.trans hc)
      -- the list at the end is, up to order, `c` in front of the old list without `e`
      have hp := (set_perm (List.getElem?_eq_some_iff.1 he).1 c).trans (.of_eq (congrArg (c :: ·) hee))
      refine ((((h.openAt p).removeEvent (h.nodup p) e).appendEvent c).setKids (·.set k c)).close ?_ fun x => ?_
      · refine hp.nodup_iff.2 (List.nodup_cons.2 ⟨fun hc => ?_, (h.nodup p).erase e⟩)
        have := (h.nodup p).mem_erase_iff.1 hc
        exact hg.elim (fun hg => hg this.2) fun hg => this.1 hg.symm
      · rw [hp.mem_iff, List.mem_cons, (h.nodup p).mem_erase_iff, or_comm, and_comm]

theorem foldRemove_open (hl : l.Nodup) : ∀ (cs : List Nat) {S : Nat → Prop} {s : St}, Open p l S s →
    Open p l (fun x => S x ∧ x ∉ cs) (cs.foldl (fun s c => removeEvent s p c (s.kids p)) s)
  | [], _, _, o => o.congr fun x => by simp
  | c :: cs, _, s, o =>
    (foldRemove_open hl cs (o.removeEvent hl c)).congr fun x => by simp [and_assoc]

theorem inv_clear (h : Inv st) (p : Nat) : Inv (clear st p) :=
  ((foldRemove_open (h.nodup p) (st.kids p) (h.openAt p)).setKids fun _ => []).close List.nodup_nil
    fun x => by simp

/-- one round of the first loop of `bulk_replace`: a constant is stored silently, an addition is
    appended with its event -/
theorem replace_step {old done : List Nat} (o : Open p done (fun x => x ∈ old ∨ x ∈ done) s) (c : Nat) :
    Open p (done ++ [c]) (fun x => x ∈ old ∨ x ∈ done ++ [c])
      (if old.contains c then setKids s p (s.kids p ++ [c]) else append s p c) := by
  split
  · next ho =>
    have ho : c ∈ old := by simpa using ho
    refine (o.setKids (· ++ [c])).congr fun x => ?_
    rw [List.mem_append, List.mem_singleton]
    exact ⟨.imp_right .inl, fun h => h.elim .inl fun h => h.elim .inr fun e => .inl (e ▸ ho)⟩
  · exact (o.append c).congr fun x => by rw [List.mem_append, List.mem_singleton, or_assoc]

theorem replace_loop (old : List Nat) : ∀ (rest : List Nat) {done : List Nat} {s : St},
    Open p done (fun x => x ∈ old ∨ x ∈ done) s →
      Open p (done ++ rest) (fun x => x ∈ old ∨ x ∈ done ++ rest) (rest.foldl (fun s c =>
        if old.contains c then setKids s p (s.kids p ++ [c]) else append s p c) s)
  | [], done, _, o => (List.append_nil done).symm ▸ o
  | c :: rest, done, _, o => List.append_cons done c rest ▸ replace_loop old rest (replace_step o c)

theorem inv_replace (h : Inv st) (p : Nat) (new : List Nat) (hnew : new.Nodup) :
    Inv (replace st p new) := by
  have o1 := replace_loop (st.kids p) new (((h.openAt p).setKids fun _ => []).congr fun x => by simp)
  rw [List.nil_append] at o1
  -- the removals see the new list, which holds no duplicates
  have o2 := foldRemove_open hnew ((st.kids p).filter (fun c => !new.contains c)).eraseDups o1
  show Inv (List.foldl _ (List.foldl (fun s c => if (st.kids p).contains c then _ else append s p c) _ new) _)
  refine o2.close hnew fun x => ?_
  -- the removals are the old children that are not among the new ones
  have hr : x ∈ ((st.kids p).filter (fun c => !new.contains c)).eraseDups ↔ x ∈ st.kids p ∧ x ∉ new := by
    simp [List.mem_eraseDups]
  rw [hr]
  by_cases hn : x ∈ new
  · exact iff_of_true hn ⟨.inr hn, fun g => g.2 hn⟩
  · exact iff_of_false hn fun g => g.1.elim (fun ho => g.2 ⟨ho, hn⟩) hn

end SaVerif.Backref
