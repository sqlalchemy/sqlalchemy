import SaVerif.Model.Naming
import SaVerif.Lemmas.Literal
import SaVerif.Lemmas.Lookup
/-! Invariants of the three memo loops behind `Props/C21`: `_truncated_identifier` (`Shape`, `Inj`,
`Pos`), `_generate_columns_plus_names` (`GInv`) and `prefix_anon_map` (`AInv`).  `run_spec` and
`amRun_spec` say that every request is served from the final memo, in which the invariant holds.  Then the label
length check of a connection (`LabelOK`, `connectStep`). -/
namespace SaVerif.Naming
open SaVerif.Ident

def hexDigitVal (c : Nat) : Nat := if c < 58 then c - 48 else c - 87
def hexVal (l : Str) : Nat := l.foldl (fun a c => a * 16 + hexDigitVal c) 0

theorem hexDigitVal_hexDigit (d : Nat) (h : d < 16) : hexDigitVal (hexDigit d) = d := by
  unfold hexDigit hexDigitVal
  by_cases h10 : d < 10
  · rw [if_pos h10, if_pos (Nat.add_lt_add_left h10 48), Nat.add_sub_cancel_left]
  · rw [if_neg h10, if_neg (by omega), Nat.add_sub_cancel_left]

theorem hexStr_spec (n : Nat) : hexVal (hexStr n) = n ∧ 1 ≤ (hexStr n).length ∧
    ∀ k, n < 16 ^ k → 1 ≤ k → (hexStr n).length ≤ k := by
  obtain ⟨cs, hcs, hne, _, hval, hlen⟩ := Literal.digitLoop_spec (b := 16) (by omega) hexDigit hexDigitVal
    hexDigitVal_hexDigit hexAux (hF := fun _ _ _ => rfl) (f := n + 1) n (acc := [])
    (Literal.lt_pow_succ (by omega) n) (by omega)
  rw [hexStr, hcs, List.append_nil]
  exact ⟨hval, List.length_pos_iff.2 hne, hlen⟩

theorem hexStr_inj (a b : Nat) (h : hexStr a = hexStr b) : a = b :=
  Function.LeftInverse.injective (fun n => (hexStr_spec n).1) h

theorem last4_len (s : Str) (h : 4 ≤ s.length) : (last4 s).length = 4 := by
  simp [last4]; omega

def truncForm (L : Nat) (name : Str) (k : Nat) : Str := name.take (L - 6) ++ 95 :: hexStr k

/-- what the memo may hold: a short name itself, a long one as `truncForm` with a counter already passed -/
def Shape (L : Nat) (st : TState) : Prop :=
  ∀ c n r, st.names.lookup (c, n) = some r →
    (r = n ∧ ¬ ((n.length : Int) > (L : Int) - 6)) ∨
    ((n.length : Int) > (L : Int) - 6 ∧ ∃ k, 1 ≤ k ∧ k < getCounter st c ∧ r = truncForm L n k)

def Inj (st : TState) : Prop :=
  ∀ c n1 n2 r, st.names.lookup (c, n1) = some r → st.names.lookup (c, n2) = some r → n1 = n2

theorem truncForm_len (L : Nat) (n : Str) (k : Nat) (h : (n.length : Int) > (L : Int) - 6) :
    (truncForm L n k).length = (L - 6) + 1 + (hexStr k).length ∧ (n.take (L - 6)).length = L - 6 := by
  have : L - 6 ≤ n.length := by omega
  simp [truncForm, List.length_take, Nat.min_eq_left this]; omega

theorem truncForm_counter_eq (L : Nat) (n1 n2 : Str) (k1 k2 : Nat)
    (h1 : (n1.length : Int) > (L : Int) - 6) (h2 : (n2.length : Int) > (L : Int) - 6)
    (h : truncForm L n1 k1 = truncForm L n2 k2) : k1 = k2 := by
  have l1 := (truncForm_len L n1 k1 h1).2
  have l2 := (truncForm_len L n2 k2 h2).2
  unfold truncForm at h
  have := List.append_inj h (by rw [l1, l2])
  have h3 := this.2
  simp only [List.cons.injEq, true_and] at h3
  exact hexStr_inj _ _ h3

theorem getCounter_cons (st : TState) (c c' v : Nat) (nm : List ((Nat × Str) × Str)) :
    getCounter { names := nm, counters := (c, v) :: st.counters } c'
      = if c' = c then v else getCounter st c' := by
  simp only [getCounter, Lookup.lookup_cons_eq]
  split <;> rfl

theorem getCounter_cons_self (st : TState) (c v : Nat) (nm : List ((Nat × Str) × Str)) :
    getCounter { names := nm, counters := (c, v) :: st.counters } c = v := by
  rw [getCounter_cons, if_pos rfl]

theorem getCounter_cons_ne (st : TState) (c c' v : Nat) (nm : List ((Nat × Str) × Str)) (h : c' ≠ c) :
    getCounter { names := nm, counters := (c, v) :: st.counters } c' = getCounter st c' := by
  rw [getCounter_cons, if_neg h]

def Pos (st : TState) : Prop := ∀ c, 1 ≤ getCounter st c
def Ext (st st' : TState) : Prop := ∀ k r, st.names.lookup k = some r → st'.names.lookup k = some r

theorem getCounter_empty (c : Nat) : getCounter TState.empty c = 1 := rfl

theorem pos_empty : Pos TState.empty := fun _ => Nat.le_refl 1
theorem shape_empty (L : Nat) : Shape L TState.empty := fun _ _ _ h => nomatch h
theorem inj_empty : Inj TState.empty := fun _ _ _ _ h => nomatch h

theorem untrunc_ne_trunc (L : Nat) (n n2 : Str) (k : Nat)
    (h1 : ¬ ((n.length : Int) > (L : Int) - 6)) (h2 : (n2.length : Int) > (L : Int) - 6) :
    n ≠ truncForm L n2 k := by
  intro e
  have hl := (truncForm_len L n2 k h2).1
  rw [← e] at hl
  omega

theorem shape_cons {L : Nat} {st st' : TState} (hS : Shape L st) {cls : Nat} {name r : Str}
    (hnames : st'.names = ((cls, name), r) :: st.names) (hmono : ∀ c, getCounter st c ≤ getCounter st' c)
    (hnew : (r = name ∧ ¬ ((name.length : Int) > (L : Int) - 6)) ∨
      ((name.length : Int) > (L : Int) - 6 ∧ ∃ k, 1 ≤ k ∧ k < getCounter st' cls ∧ r = truncForm L name k)) :
    Shape L st' := by
  intro c n r' h
  rw [hnames, Lookup.lookup_cons_eq] at h
  split at h
  · rename_i e
    cases e
    cases h
    exact hnew
  · rcases hS c n r' h with hshort | ⟨hn, k, hk1, hk2, e⟩
    · exact .inl hshort
    · exact .inr ⟨hn, k, hk1, Nat.lt_of_lt_of_le hk2 (hmono c), e⟩

theorem key_of_new_result {L : Nat} {st : TState} (hS : Shape L st) {cls : Nat} {name r : Str}
    (hr : (r = name ∧ ¬ ((name.length : Int) > (L : Int) - 6)) ∨
      ((name.length : Int) > (L : Int) - 6 ∧ r = truncForm L name (getCounter st cls)))
    {n2 : Str} (h : st.names.lookup (cls, n2) = some r) : n2 = name := by
  rcases hS cls n2 r h with ⟨e, hn⟩ | ⟨hn, k, _, hk2, e⟩
  · rcases hr with ⟨e', _⟩ | ⟨hn', e'⟩
    · exact e.symm.trans e'
    · exact absurd (e.symm.trans e') (untrunc_ne_trunc L n2 name _ hn hn')
  · rcases hr with ⟨e', hn'⟩ | ⟨hn', e'⟩
    · exact absurd (e'.symm.trans e) (untrunc_ne_trunc L name n2 k hn' hn)
    · -- the counter in a stored name is below that of its class, the new name carries the counter itself
      have := truncForm_counter_eq L n2 name k _ hn hn' (e.symm.trans e')
      omega

theorem inj_cons {st : TState} (hI : Inj st) {cls : Nat} {name r : Str} {cs : List (Nat × Nat)}
    (hfresh : ∀ n2, st.names.lookup (cls, n2) = some r → n2 = name) :
    Inj ⟨((cls, name), r) :: st.names, cs⟩ := by
  intro c n1 n2 r' h1 h2
  rw [Lookup.lookup_cons_eq] at h1 h2
  split at h1 <;> split at h2
  · rename_i e1 e2; cases e1; cases e2; rfl
  · rename_i e1 _
    cases e1
    cases h1
    exact (hfresh n2 h2).symm
  · rename_i _ e2
    cases e2
    cases h2
    exact hfresh n1 h1
  · exact hI c n1 n2 r' h1 h2

theorem ext_cons {st : TState} {key : Nat × Str} (hl : st.names.lookup key = none) (r : Str)
    (cs : List (Nat × Nat)) : Ext st ⟨(key, r) :: st.names, cs⟩ := by
  intro k r' h
  rw [Lookup.lookup_cons_eq, if_neg]
  · exact h
  · intro e; rw [e, hl] at h; cases h

theorem truncIdent_spec (L : Nat) (st : TState) (hS : Shape L st) (hI : Inj st) (hP : Pos st)
    (cls : Nat) (name : Str) :
    Shape L (truncIdent L st cls name).2 ∧ Inj (truncIdent L st cls name).2 ∧
    Pos (truncIdent L st cls name).2 ∧ Ext st (truncIdent L st cls name).2 ∧
    (truncIdent L st cls name).2.names.lookup (cls, name) = some (truncIdent L st cls name).1 ∧
    (∀ c, getCounter (truncIdent L st cls name).2 c ≤ getCounter st c + 1) := by
  unfold truncIdent
  cases hl : st.names.lookup (cls, name) with
  | some r => exact ⟨hS, hI, hP, fun _ _ h => h, hl, fun c => Nat.le_succ _⟩
  | none =>
    dsimp only
    split
    · rename_i ht
      have hcnt : ∀ nm c, getCounter st c ≤ getCounter ⟨nm, (cls, getCounter st cls + 1) :: st.counters⟩ c ∧
          getCounter ⟨nm, (cls, getCounter st cls + 1) :: st.counters⟩ c ≤ getCounter st c + 1 := by
        intro nm c
        rw [getCounter_cons]
        split
        · rename_i e; subst e; omega
        · omega
      exact ⟨shape_cons hS rfl (fun c => (hcnt _ c).1)
          (.inr ⟨ht, _, hP cls, by rw [getCounter_cons_self]; omega, rfl⟩),
        inj_cons hI fun _ => key_of_new_result hS (.inr ⟨ht, rfl⟩),
        fun c => Nat.le_trans (hP c) (hcnt _ c).1, ext_cons hl _ _, List.lookup_cons_self, fun c => (hcnt _ c).2⟩
    · rename_i ht
      exact ⟨shape_cons hS rfl (fun c => Nat.le_refl _) (.inl ⟨rfl, ht⟩),
        inj_cons hI fun _ => key_of_new_result hS (.inl ⟨rfl, ht⟩),
        hP, ext_cons hl _ _, List.lookup_cons_self, fun c => Nat.le_succ _⟩

theorem run_spec (L : Nat) : ∀ (reqs : List (Nat × Str)) (st : TState), Shape L st → Inj st → Pos st →
    (runIdents L st reqs).length = reqs.length ∧
    ∃ st', Shape L st' ∧ Inj st' ∧ Pos st' ∧ Ext st st' ∧
      (∀ c, getCounter st' c ≤ getCounter st c + reqs.length) ∧
      ∀ (i : Nat) q r, reqs[i]? = some q → (runIdents L st reqs)[i]? = some r →
        st'.names.lookup q = some r := by
  intro reqs
  induction reqs with
  | nil =>
    intro st hS hI hP
    refine ⟨rfl, st, hS, hI, hP, fun _ _ h => h, fun c => by simp, ?_⟩
    intro i q r h
    simp at h
  | cons q rest ih =>
    intro st hS hI hP
    obtain ⟨cls, name⟩ := q
    obtain ⟨s1, s2, s3, s4, s5, s6⟩ := truncIdent_spec L st hS hI hP cls name
    obtain ⟨hlen, st', t1, t2, t3, t4, t5, t6⟩ := ih (truncIdent L st cls name).2 s1 s2 s3
    refine ⟨by simp [runIdents, hlen], st', t1, t2, t3, fun k r h => t4 k r (s4 k r h), ?_, ?_⟩
    · intro c
      have := t5 c; have := s6 c
      simp only [List.length_cons]; omega
    · intro i q r hq hr
      cases i with
      | zero =>
        cases hq
        cases hr
        exact t4 _ _ s5
      | succ j => exact t6 j q r hq hr

def LabelOK (st : DState) : Prop := effLabel st ≤ st.maxIdent

theorem connectStep_fst (st : DState) (lim : Option Nat) :
    (connectStep st lim).1 = { st with maxIdent := newMaxIdent st lim } := by
  unfold connectStep
  dsimp only
  split
  · split <;> rfl
  · rfl

theorem connectStep_connected {st : DState} {lim : Option Nat} (h : (connectStep st lim).2 = .connected)
    {ll : Nat} (hl : st.labelLength = some ll) : ll = 0 ∨ ll ≤ newMaxIdent st lim := by
  unfold connectStep at h
  simp only [hl] at h
  split at h
  · cases h
  · rename_i hc
    simp only [Bool.and_eq_true, bne_iff_ne, ne_eq, decide_eq_true_eq, not_and, Nat.not_lt] at hc
    exact Decidable.or_iff_not_imp_left.2 hc

theorem connect_ok_labelOK (st : DState) (lim : Option Nat) (h : (connectStep st lim).2 = .connected) :
    LabelOK (connectStep st lim).1 := by
  rw [connectStep_fst, LabelOK, effLabel]
  cases hl : st.labelLength with
  | none => exact Nat.le_refl _
  | some ll =>
    dsimp only
    rcases connectStep_connected h hl with rfl | hle
    · exact Nat.le_refl _
    · split
      · exact Nat.le_refl _
      · exact hle

theorem lifeStep_fmt_state (md5 : Str → Str) (st : DState) (op : LOp)
    (h : ∀ lim, op ≠ .connect lim) : (lifeStep md5 st op).1 = st := by
  cases op with
  | connect lim => exact absurd rfl (h lim)
  | fmtIndex _ _ => rfl
  | fmtConstraint _ _ => rfl
  | label _ => rfl

/-- invariant of the `_generate_columns_plus_names` loop (with `anon_for_dupe_key`); `em` holds the labels
    emitted so far.  `keys` is why `dedupe st.dh` is new: it is no key of `names`, and `emitted` puts every
    other dedupe label below `dh`. -/
structure GInv (st : GState) (em : List Lab) : Prop where
  emitted : ∀ l ∈ em, (st.names.lookup l).isSome = true ∨ ∃ i c t, l = .dedupe i c t ∧ i < st.dh
  keys : ∀ l c, st.names.lookup l = some c → ∀ i c' t, l ≠ .dedupe i c' t

theorem ginv_insert (st : GState) (em : List Lab) (h : GInv st em) (l : Lab) (c : Col)
    (hnone : st.names.lookup l = none) (hnd : ∀ i c' t, l ≠ .dedupe i c' t) :
    l ∉ em ∧ GInv { st with names := (l, c) :: st.names } (l :: em) := by
  refine ⟨fun hm => ?_, fun l' hl' => ?_, fun l' c' hl' i c'' t => ?_⟩
  · rcases h.emitted l hm with h1 | ⟨i, c', t, e, _⟩
    · rw [hnone] at h1; cases h1
    · exact hnd i c' t e
  · rw [Lookup.lookup_cons_eq]
    split
    · exact .inl rfl
    · exact h.emitted l' ((List.mem_cons.1 hl').resolve_left ‹_›)
  · rw [Lookup.lookup_cons_eq] at hl'
    split at hl'
    · rename_i e; subst e; exact hnd i c'' t
    · exact h.keys l' c' hl' i c'' t

theorem ginv_dedupe (st : GState) (em : List Lab) (h : GInv st em) (c : Col) (t : Bool) :
    Lab.dedupe st.dh c t ∉ em ∧ GInv { st with dh := st.dh + 1 } (Lab.dedupe st.dh c t :: em) := by
  refine ⟨fun hm => ?_, fun l' hl' => ?_, h.keys⟩
  · rcases h.emitted _ hm with h1 | ⟨i, c', t', e, hi⟩
    · obtain ⟨c0, hl⟩ := Option.isSome_iff_exists.1 h1
      exact h.keys _ c0 hl st.dh c t rfl
    · cases e
      exact Nat.lt_irrefl _ hi
  · rcases List.mem_cons.1 hl' with rfl | hl'
    · exact .inr ⟨st.dh, c, t, rfl, Nat.lt_succ_self _⟩
    · exact (h.emitted l' hl').imp_right fun ⟨i, c', t', e, hi⟩ => ⟨i, c', t', e, Nat.lt_succ_of_lt hi⟩

theorem genStep_fresh (tq : Bool) (st : GState) (em : List Lab) (h : GInv st em) (c : Col) :
    (genStep tq true st c).2 ∉ em ∧ GInv (genStep tq true st c).1 ((genStep tq true st c).2 :: em) := by
  unfold genStep
  simp only
  cases hl : st.names.lookup (Lab.plain (if tq = true then tqLabel c else c.name)) with
  | none =>
    simp only
    exact ginv_insert st em h _ c hl (by intro i c' t e; cases e)
  | some c0 =>
    simp only
    by_cases hid : (c0.id != c.id) = true
    · simp only [hid, if_true, Bool.true_and]
      cases hr : st.names.lookup (Lab.anon c tq) with
      | none =>
        simp only [Option.isSome_none, Bool.false_eq_true, if_false]
        exact ginv_insert st em h _ c hr (by intro i c' t e; cases e)
      | some c1 =>
        simp only [Option.isSome_some, if_true]
        exact ginv_dedupe st em h c tq
    · simp only [hid, Bool.false_eq_true, if_false, if_true]
      exact ginv_dedupe st em h c tq

theorem genRun_nodup (tq : Bool) : ∀ (cols : List Col) (st : GState) (em : List Lab), GInv st em →
    (genRun tq true st cols).Nodup ∧ ∀ l ∈ genRun tq true st cols, l ∉ em := by
  intro cols
  induction cols with
  | nil => intro st em _; simp [genRun]
  | cons c rest ih =>
    intro st em h
    obtain ⟨hf, hinv⟩ := genStep_fresh tq st em h c
    obtain ⟨hnd, hdis⟩ := ih _ _ hinv
    simp only [genRun]
    refine ⟨List.nodup_cons.2 ⟨fun hm => hdis _ hm List.mem_cons_self, hnd⟩, fun l hl => ?_⟩
    rcases List.mem_cons.1 hl with rfl | hl
    · exact hf
    · exact fun hm => hdis l hl (List.mem_cons_of_mem _ hm)

theorem derive_keys_nodup (tmpl : Bind) (hu : tmpl.unique = true) (ids : List Nat) (hn : ids.Nodup) :
    ((deriveText tmpl false ids).map (·.key)).Nodup := by
  rw [deriveText, List.map_map, List.Nodup, List.pairwise_map]
  refine hn.imp fun hne e => hne ?_
  simp only [Function.comp, cloneBind, hu, Bool.not_false, Bool.true_and, if_true, BKey.anon.injEq] at e
  exact e.1

theorem underscore_split (d1 d2 ds1 ds2 : Str) (h1 : ∀ c ∈ ds1, Literal.isDigit c = true)
    (h2 : ∀ c ∈ ds2, Literal.isDigit c = true) (h : d1 ++ 95 :: ds1 = d2 ++ 95 :: ds2) :
    d1 = d2 ∧ ds1 = ds2 := by
  have no95 : ∀ {ds a b : Str}, (∀ c ∈ ds, Literal.isDigit c = true) → ds ≠ a ++ 95 :: b :=
    fun hd e => absurd (hd 95 (e ▸ List.mem_append_right _ List.mem_cons_self)) (by decide)
  rcases List.append_eq_append_iff.1 h with ⟨a, rfl, hb⟩ | ⟨a, rfl, hb⟩
  · cases a with
    | nil => exact ⟨(List.append_nil d1).symm, (List.cons.inj hb).2⟩
    | cons x a => exact absurd (List.cons.inj hb).2 (no95 h1)
  · cases a with
    | nil => exact ⟨List.append_nil d2, (List.cons.inj hb).2.symm⟩
    | cons x a => exact absurd (List.cons.inj hb).2 (no95 h2)

/-- the counter `amGet` reads for `derived` (it writes the expression inline) -/
def amCounter (m : AMap) (d : Str) : Nat := (m.idx.lookup d).getD 1

structure AInv (m : AMap) : Prop where
  shape : ∀ k v, m.vals.lookup k = some v → ∃ c, v = k.2 ++ 95 :: Literal.natStr c ∧ c < amCounter m k.2
  inj : ∀ k1 k2 v, m.vals.lookup k1 = some v → m.vals.lookup k2 = some v → k1 = k2

theorem ainv_empty : AInv AMap.empty := by
  constructor <;> intro k <;> simp [AMap.empty]

theorem amCounter_cons (m : AMap) (vals : List ((Nat × Str) × Str)) (d0 : Str) (cnt : Nat) (d : Str) :
    amCounter { vals := vals, idx := (d0, cnt) :: m.idx } d = if d = d0 then cnt else amCounter m d := by
  simp only [amCounter, Lookup.lookup_cons_eq]
  split <;> simp

theorem amGet_spec (m : AMap) (h : AInv m) (k : Nat × Str) :
    AInv (amGet m k).2 ∧ (amGet m k).2.vals.lookup k = some (amGet m k).1 ∧
    (∀ k' v, m.vals.lookup k' = some v → (amGet m k).2.vals.lookup k' = some v) := by
  unfold amGet
  cases hl : m.vals.lookup k with
  | some v => exact ⟨h, hl, fun _ _ hh => hh⟩
  | none =>
    have hnew : ∀ k', m.vals.lookup k' ≠ some (k.2 ++ 95 :: Literal.natStr (amCounter m k.2)) := by
      intro k' hk'
      obtain ⟨c, hc1, hc2⟩ := h.shape k' _ hk'
      obtain ⟨hd, hs⟩ := underscore_split _ _ _ _ (Literal.natStr_isDigit _) (Literal.natStr_isDigit _) hc1
      rw [← hd, Literal.natStr_inj _ _ hs] at hc2
      exact Nat.lt_irrefl _ hc2
    refine ⟨⟨fun k' v hv => ?_, fun k1 k2 v h1 h2 => ?_⟩,
      List.lookup_cons_self,
      fun k' v hv => ?_⟩
    · rw [Lookup.lookup_cons_eq] at hv
      split at hv
      · rename_i e
        cases e
        cases hv
        exact ⟨_, rfl, by rw [amCounter_cons, if_pos rfl]; exact Nat.lt_succ_self _⟩
      · obtain ⟨c, hc1, hc2⟩ := h.shape k' v hv
        refine ⟨c, hc1, ?_⟩
        rw [amCounter_cons]
        split
        · rename_i e; exact Nat.lt_succ_of_lt (e ▸ hc2)
        · exact hc2
    · rw [Lookup.lookup_cons_eq] at h1 h2
      split at h1 <;> split at h2
      · rename_i e1 e2; rw [e1, e2]
      · cases h1; exact absurd h2 (hnew k2)
      · cases h2; exact absurd h1 (hnew k1)
      · exact h.inj k1 k2 v h1 h2
    · rw [Lookup.lookup_cons_eq, if_neg fun e => by rw [e, hl] at hv; cases hv]
      exact hv

def amRun : AMap → List (Nat × Str) → List Str
  | _, [] => []
  | m, k :: rest => (amGet m k).1 :: amRun (amGet m k).2 rest

theorem amRun_spec : ∀ (ks : List (Nat × Str)) (m : AMap), AInv m →
    ∃ m', AInv m' ∧ (∀ k v, m.vals.lookup k = some v → m'.vals.lookup k = some v) ∧
      ∀ (i : Nat) k v, ks[i]? = some k → (amRun m ks)[i]? = some v → m'.vals.lookup k = some v := by
  intro ks
  induction ks with
  | nil => intro m h; exact ⟨m, h, fun _ _ hh => hh, fun i k v hk => by simp at hk⟩
  | cons k rest ih =>
    intro m h
    obtain ⟨s1, s2, s3⟩ := amGet_spec m h k
    obtain ⟨m', t1, t2, t3⟩ := ih _ s1
    refine ⟨m', t1, fun k' v hv => t2 k' v (s3 k' v hv), ?_⟩
    intro i k' v hk hv
    cases i with
    | zero =>
      cases hk
      cases hv
      exact t2 _ _ s2
    | succ j => exact t3 j k' v hk hv

end SaVerif.Naming
