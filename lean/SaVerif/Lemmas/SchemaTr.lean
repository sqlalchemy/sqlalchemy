import SaVerif.Model.SchemaTr
import SaVerif.Lemmas.Bind
/-!
The scanner of `_render_schema_translates` (`tokensS`, `Model/SchemaTr.lean`) finds in a
rendered statement exactly the `__[SCHEMA_name]` tokens rendered into it (`tokensS_render`),
when literal text nowhere starts `__[SCHEMA_` (`quietS`) and names are non-empty without `]`
(`goodName`): the argument of `Bind.tokens_render`, for one pattern.
-/
namespace SaVerif.SchemaTr
open SaVerif.Bind

theorem scanName_length {acc s n r : Str} (h : scanName acc s = some (n, r)) :
    r.length < s.length := by
  fun_induction scanName acc s with
  | case3 => cases h; exact Nat.lt_succ_self _                -- `]` after a non-empty name
  | case4 _ _ _ _ ih => exact Nat.lt_succ_of_lt (ih h)        -- not `]`: one step on
  | _ => cases h

theorem matchS_length {s n r : Str} (h : matchS s = some (n, r)) : r.length < s.length := by
  unfold matchS at h
  split at h
  · cases h
  · next hs =>
    have h1 := stripPrefix_length hs
    have h2 := scanName_length h
    omega

theorem tokensAuxS_fuel {f1 f2 : Nat} {s : Str} (h1 : s.length < f1) (h2 : s.length < f2) :
    tokensAuxS f1 s = tokensAuxS f2 s := by
  induction f1 generalizing f2 s with
  | zero => cases h1
  | succ n ih =>
    cases f2 with
    | zero => cases h2
    | succ k =>
      cases s with
      | nil => rfl
      | cons c cs =>
        have h1 := Nat.lt_of_succ_lt_succ h1
        have h2 := Nat.lt_of_succ_lt_succ h2
        unfold tokensAuxS
        cases hm : matchS (c :: cs) with
        | none => exact congrArg _ (ih h1 h2)
        | some p =>
          have hl := Nat.le_of_lt_succ (matchS_length hm)
          exact congrArg _ (ih (Nat.lt_of_le_of_lt hl h1) (Nat.lt_of_le_of_lt hl h2))

theorem tokensS_nil : tokensS [] = [] := rfl

theorem tokensS_cons_none {c : Char} {cs : Str} (h : matchS (c :: cs) = none) :
    tokensS (c :: cs) = STok.lit c :: tokensS cs := by
  unfold tokensS
  simp only [List.length_cons, tokensAuxS, h]

theorem tokensS_hit {s r n : Str} (hm : matchS s = some (n, r)) :
    tokensS s = STok.sch n :: tokensS r := by
  have hl := matchS_length hm
  cases s with
  | nil => cases hl
  | cons c cs =>
    unfold tokensS
    simp only [List.length_cons, tokensAuxS, hm]
    rw [tokensAuxS_fuel (f1 := cs.length + 1) hl (Nat.lt_succ_self _)]

theorem scanName_exact (n R : Str) (hn : ']' ∉ n) :
    ∀ acc, scanName acc (n ++ ']' :: R) =
      if (acc ++ n).isEmpty then none else some (acc ++ n, R) := by
  induction n with
  | nil =>
    intro acc
    rw [List.append_nil, List.nil_append, scanName, if_pos rfl]
  | cons c n ih =>
    intro acc
    rw [List.mem_cons, not_or] at hn
    rw [List.cons_append, scanName, if_neg (Ne.symm hn.1), ih hn.2 (acc ++ [c]), List.append_assoc]
    rfl

/-- schema names the scanner recovers exactly -/
def goodName (n : Str) : Prop := n ≠ [] ∧ ']' ∉ n

instance (n : Str) : Decidable (goodName n) := by unfold goodName; infer_instance

theorem matchS_exact {n : Str} (h : goodName n) (R : Str) :
    matchS (token n ++ R) = some (n, R) := by
  unfold matchS token
  rw [List.append_assoc, List.append_assoc, stripPrefix_append]
  exact (scanName_exact n R h.2 []).trans (if_neg (by simpa using h.1))

inductive SPiece
  | lit (t : Str)
  | tok (n : Str)
  deriving DecidableEq, Repr

def SPiece.render : SPiece → Str
  | .lit t => t
  | .tok n => token n

def renderSP : List SPiece → Str
  | [] => []
  | p :: ps => p.render ++ renderSP ps

def spToks : List SPiece → List STok
  | [] => []
  | .lit t :: ps => t.map STok.lit ++ spToks ps
  | .tok n :: ps => STok.sch n :: spToks ps

/-- what `SafeSP` (the NoSchemaToken guard) asks of one text `t` followed by `R`: at no position inside `t`
    does the literal `__[SCHEMA_` begin -/
def quietS : Str → Str → Bool
  | [], _ => true
  | c :: t, R => (stripPrefix schemaPrefix (c :: t ++ R)).isNone && quietS t R

def SafeSP : List SPiece → Prop
  | [] => True
  | .lit t :: ps => quietS t (renderSP ps) = true ∧ SafeSP ps
  | .tok n :: ps => goodName n ∧ SafeSP ps

def decSafeSP : (ps : List SPiece) → Decidable (SafeSP ps)
  | [] => isTrue trivial
  | .lit t :: ps =>
    have := decSafeSP ps
    by unfold SafeSP; infer_instance
  | .tok n :: ps =>
    have := decSafeSP ps
    by unfold SafeSP; infer_instance

instance (ps : List SPiece) : Decidable (SafeSP ps) := decSafeSP ps

theorem matchS_none_of_prefix {s : Str} (h : (stripPrefix schemaPrefix s).isNone = true) :
    matchS s = none := by
  unfold matchS
  cases hs : stripPrefix schemaPrefix s with
  | none => rfl
  | some r => simp [hs] at h

theorem tokensS_quiet (R : Str) :
    ∀ t : Str, quietS t R = true → tokensS (t ++ R) = t.map STok.lit ++ tokensS R := by
  intro t
  induction t with
  | nil => intro _; rfl
  | cons c t ih =>
    intro h
    simp only [quietS, Bool.and_eq_true] at h
    have h1 := matchS_none_of_prefix h.1
    rw [List.cons_append] at h1
    rw [List.cons_append, tokensS_cons_none h1, ih h.2]
    rfl

theorem tokensS_render :
    ∀ ps : List SPiece, SafeSP ps → tokensS (renderSP ps) = spToks ps := by
  intro ps
  induction ps with
  | nil => intro _; rfl
  | cons p ps ih =>
    intro h
    cases p with
    | lit t => exact (tokensS_quiet _ t h.1).trans (congrArg _ (ih h.2))
    | tok n => exact (tokensS_hit (matchS_exact h.1 _)).trans (congrArg _ (ih h.2))

theorem mlookup_mset_ne (k k' : Option Str) (v : Option Str) (m : SMap) (h : k' ≠ k) :
    mlookup k (mset k' v m) = mlookup k m := by
  induction m with
  | nil => exact if_neg h
  | cons x m ih =>
    rw [mset]
    split
    · rw [mlookup, mlookup, ‹x.1 = k'›, if_neg h, if_neg h]
    · rw [mlookup, mlookup, ih]

theorem mlookup_mset_self (k : Option Str) (v : Option Str) (m : SMap) :
    mlookup k (mset k v m) = some v := by
  induction m with
  | nil => exact if_pos rfl
  | cons x m ih =>
    rw [mset]
    split
    · exact if_pos ‹_›
    · exact (if_neg ‹_›).trans ih

end SaVerif.SchemaTr
