import SaVerif.Lemmas.ExprCompat
import SaVerif.Lemmas.ExprRender
/-!
Where the two sides meet: a well grouped element of the fragment renders to a token tree that is
`Pratt.ok g` for every grammar `g` compatible with the precedence table (`ok_render`, from `render_spec`
and `Disc.ok`), so its re-associated tree is well bracketed (`wb_render`); the same for the renderings of
a list of operands.
-/
namespace SaVerif.Expr
open SaVerif.Expr.Gen SaVerif.Pratt

/-- the hypothesis about concatenations: the grammar reads every bare operand of `||` as
    SQLAlchemy intends (PostgreSQL), or the element avoids the F1 cells -/
def CSH (g : Grammar) (d : Dialect) (e : SaExpr) : Prop := concatFull g = true ∨ ConcatSafe d e = true

def CSHL (g : Grammar) (d : Dialect) (es : List SaExpr) : Prop :=
  concatFull g = true ∨ ConcatSafeList d es = true

theorem ok_render (g : Grammar) (C : Compat g) (d : Dialect) :
    ∀ e : SaExpr, Core e = true → WG e = true → CSH g d e → ok g (render d true e) = true :=
  fun e hc hw hs => ((render_spec d _ e hc).disc hw hs).ok C id

theorem wb_render (g : Grammar) (hg : coreCompat g = true) (d : Dialect) (e : SaExpr)
    (hC : Core e = true) (hW : WG e = true) (hS : CSH g d e) : wb g (render d true e).norm = true :=
  wb_norm_of_ok g _ (ok_render g (compat_of_bool g hg) d e hC hW hS)

theorem allExp_render (d : Dialect) (P : Sym → Bool)
    (hP : ∀ o ∈ coreInfix, btwOp o = false → P (symOf o) = true) :
    ∀ e : SaExpr, Core e = true → allExp P (render d true e) = true :=
  fun e hc => (exp_render d hc (above_bottom e)).allExp P hP

theorem allExp_renderList (d : Dialect) (P : Sym → Bool)
    (hP : ∀ o ∈ coreInfix, btwOp o = false → P (symOf o) = true)
    (hP' : ∀ u ∈ corePrefix, P (symOf u) = true) :
    ∀ cs : List SaExpr, CoreList cs = true → ∀ x ∈ renderList d true cs, allExp P x = true :=
  fun _ hc => forall_renderList.2 fun c hm => allExp_render d P hP c (coreList_iff.1 hc c hm)

theorem ok_renderList (g : Grammar) (C : Compat g) (hpt : prefixNoTern g) (d : Dialect)
    (op : Op) (hi : op ∈ coreInfix) (lbp rbp : Nat) (hb : g.infixBp (symOf op) = some (lbp, rbp)) :
    ∀ cs : List SaExpr, CoreList cs = true → WGList op cs = true → CSHL g d cs →
      (∀ c ∈ cs, op ≠ .concat_op ∨ concatFull g = true ∨ catOpnd c = true) →
      ∀ x ∈ renderList d true cs, ok g x = true ∧
        (rootIs (symOf op) x = true ∨
          (tight g rbp x = true ∧ allExp (notMidOf g (some (symOf op))) x = true)) :=
  fun _ hc hw hs hcc => forall_renderList.2 fun c hm =>
    have hcc' := coreList_iff.1 hc c hm
    have ⟨hg, hwc⟩ := wgList_iff.1 hw c hm
    ⟨ok_render g C d c hcc' hwc (cs_mem hs c hm),
      ((opnd_render hi hcc' hwc hg (hcc c hm) fun _ => exp_render d hcc').fits C id hi hb).imp
        (·.2) (·.2)⟩

theorem sepOpnd_renderAll (g : Grammar) (C : Compat g) (hpt : prefixNoTern g) (d : Dialect) (sr : Nat)
    (hi : ∀ o ∈ coreInfix, sr ≤ infBase g o) (hp : ∀ u ∈ corePrefix, sr ≤ preBase g u) :
    ∀ cs : List SaExpr, CoreList cs = true → WGAll cs = true → CSHL g d cs →
      ∀ x ∈ renderList d true cs, SepOpnd g sr x :=
  fun _ hc hw hs => forall_renderList.2 fun c hm =>
    have hcc := coreList_iff.1 hc c hm
    have e := exp_render d hcc (above_bottom c)
    ⟨ok_render g C d c hcc (wgAll_iff.1 hw c hm) (cs_mem hs c hm),
      e.tight C (fun o ho _ => hi o ho) (fun u hu _ => hp u hu),
      fun s hs => e.notMid C (by rintro rfl; cases hs)⟩

end SaVerif.Expr
