import SaVerif.Model.Literal
import SaVerif.Lemmas.Ident
/-! The side condition `wfLit` on a literal configuration under which `Props/C05` holds, the rendered
string literal in the code `Ident.dup` (`renderString_dup`), and what the backend string lexer and the `%(`
search do to that form. -/
namespace SaVerif.Literal
open SaVerif.Ident

def qOps : List (Str × Str) := [([39], [39, 39])]
def qpOps : List (Str × Str) := [([39], [39, 39]), ([37], [37, 37])]
def bsOps : List (Str × Str) := [([92], [92, 92])]

/-- the processor doubles `'` (and `%` under `format`/`pyformat`), wraps the value in `'…'` or
    `N'…'`, and the compiler's pass over the result is absent or doubles backslashes -/
def wfLit (c : Cfg) : Bool :=
  (c.strOps == qOps || c.strOps == qpOps) && (c.pre == [39] || c.pre == [78, 39])
  && c.post == [39] && (c.outerOps == [] || c.outerOps == bsOps)

def dblLit (c : Cfg) : Bool := c.strOps == qpOps
def bsLit (c : Cfg) : Bool := c.outerOps == bsOps
def npreLit (c : Cfg) : Bool := c.pre == [78, 39]

structure WfLit (c : Cfg) : Prop where
  strOps : c.strOps = qOps ∨ c.strOps = qpOps
  pre : c.pre = [39] ∨ c.pre = [78, 39]
  post : c.post = [39]
  outerOps : c.outerOps = [] ∨ c.outerOps = bsOps

theorem wfLit_sound {c : Cfg} (h : wfLit c = true) : WfLit c := by
  simp only [wfLit, Bool.and_eq_true, Bool.or_eq_true, beq_iff_eq] at h
  obtain ⟨⟨⟨strOps, pre⟩, post⟩, outerOps⟩ := h
  exact ⟨strOps, pre, post, outerOps⟩

theorem renderString_dup (c : Cfg) (h : wfLit c = true) (s : Str) :
    renderString c s = c.pre ++
      s.flatMap (dup (39 :: ((if dblLit c then [37] else []) ++ if bsLit c then [92] else []))) ++ [39] := by
  have hw := wfLit_sound h
  have hs : c.strOps = dupOps (39 :: if dblLit c then [37] else []) := by
    rcases hw.strOps with e | e <;> simp [dblLit, e, qOps, qpOps, dupOps]
  have ho : c.outerOps = dupOps (if bsLit c then [92] else []) := by
    rcases hw.outerOps with e | e <;> simp [bsLit, e, bsOps, dupOps]
  have hbody : applyOps c.strOps s = s.flatMap (dup (39 :: if dblLit c then [37] else [])) := by
    rw [hs]; exact applyOps_dupOps _ (by cases dblLit c <;> decide) s
  have hpre : ∀ x ∈ c.pre, x ∉ (if bsLit c then [92] else []) := by
    rcases hw.pre with e | e <;> rw [e] <;> cases bsLit c <;> decide
  have hpost : ∀ x ∈ [39], x ∉ (if bsLit c then [92] else []) := by cases bsLit c <;> decide
  have hdisj : ∀ x ∈ (39 :: if dblLit c then [37] else []), x ∉ (if bsLit c then [92] else []) := by
    cases dblLit c <;> cases bsLit c <;> decide
  rw [renderString, hbody, ho, applyOps_dupOps _ (by cases bsLit c <;> decide), List.flatMap_append,
    List.flatMap_append, dup_dup hdisj, flatMap_dup_id hpre, hw.post, flatMap_dup_id hpost]
  rfl

theorem decodeEsc_bs (mode : Nat) : decodeEsc mode 92 = [92] := by
  unfold decodeEsc
  cases mode == 1 <;> rfl

-- `bs` and not `mode != 0` in the statement: the callers have `bsLit c` there and their own `hm`
theorem lexStrAux_dup (mode : Nat) (bs : Bool) (hm : bs = (mode != 0))
    (s rest : Str) (hr : ∀ c t, rest = c :: t → c ≠ 39) :
    lexStrAux mode (s.flatMap (dup (39 :: if bs then [92] else [])) ++ 39 :: rest) 0 = some (s, rest) := by
  have hl : ∀ c, c ∈ (39 :: if bs then [92] else []) ↔ c = 39 ∨ (c = 92 ∧ mode ≠ 0) := fun x => by
    by_cases h0 : mode = 0 <;> simp [hm, h0]
  -- membership in the list goes through `hl`, so that `simp` does not split the `if` at every use
  generalize (39 :: if bs then [92] else []) = l at hl
  induction s with
  | nil =>
    cases rest with
    | nil => simp [lexStrAux]
    | cons d t =>
      have : (d == 39) = false := by simpa using hr d t rfl
      simp [lexStrAux, this]
  | cons c t ih =>
    by_cases h1 : c = 39
    · -- `''`: state 0 → 1 → 0
      subst h1
      simp [dup_of_mem ((hl 39).2 (.inl rfl)), lexStrAux, ih]
    · have hc39 : (c == 39) = false := by simpa using h1
      by_cases h3 : c = 92
      · subst h3
        by_cases h0 : mode = 0
        · -- `\` without backslash escapes: not doubled, stays in state 0
          subst h0; simp [dup_of_not_mem (mt (hl 92).1 (by simp)), lexStrAux, ih]
        · -- `\\`: state 0 → 2 → 0, decoded to one `\`
          simp [dup_of_mem ((hl 92).2 (.inr ⟨rfl, h0⟩)), lexStrAux, h0, ih, decodeEsc_bs]
      · -- any other character: not doubled, stays in state 0
        have hc92 : (c == 92) = false := by simpa using h3
        simp [dup_of_not_mem (mt (hl c).1 (by simp [h1, h3])), lexStrAux, hc39, hc92, ih]

theorem lt_pow_succ {b : Nat} (hb : 1 < b) (n : Nat) : n < b ^ (n + 1) :=
  Nat.lt_trans (Nat.lt_succ_self n) (Nat.lt_pow_self hb)

/-- `F` is the fuel loop `natDigitsAux` (base 10) or `Naming.hexAux` (base 16) -/
theorem digitLoop_spec {b : Nat} (hb : 2 ≤ b) (dig val : Nat → Nat) (hv : ∀ d < b, val (dig d) = d)
    (F : Nat → Nat → Str → Str)
    (hF : ∀ f n acc, F (f + 1) n acc = if n < b then dig n :: acc else F f (n / b) (dig (n % b) :: acc)) :
    ∀ f n acc, n < b ^ f → 1 ≤ f → ∃ cs, F f n acc = cs ++ acc ∧ cs ≠ [] ∧
      (∀ c ∈ cs, ∃ d < b, c = dig d) ∧ cs.foldl (fun a c => a * b + val c) 0 = n ∧
      ∀ k, n < b ^ k → 1 ≤ k → cs.length ≤ k := by
  intro f
  induction f with
  | zero => intro n acc _ h; omega
  | succ g ih =>
    intro n acc hn _
    rw [hF]
    by_cases hlt : n < b
    · rw [if_pos hlt]
      refine ⟨[dig n], rfl, List.cons_ne_nil _ _, fun c hc => ⟨n, hlt, List.mem_singleton.1 hc⟩, ?_,
        fun k _ hk => hk⟩
      rw [List.foldl_cons, List.foldl_nil, hv n hlt, Nat.zero_mul, Nat.zero_add]
    · rw [if_neg hlt]
      have hdiv : ∀ k, n < b ^ (k + 1) → n / b < b ^ k := fun k h =>
        Nat.div_lt_of_lt_mul (by rwa [Nat.pow_succ, Nat.mul_comm] at h)
      have hg1 : 1 ≤ g := by
        rcases g with _ | g
        · exact absurd (by simpa using hn) hlt
        · omega
      obtain ⟨cs, hcs, _, hdig, hval, hlen⟩ := ih (n / b) (dig (n % b) :: acc) (hdiv g hn) hg1
      have hmod := Nat.mod_lt n (show b > 0 by omega)
      refine ⟨cs ++ [dig (n % b)], by rw [hcs, List.append_assoc]; rfl, by simp, ?_, ?_, ?_⟩
      · intro c hc
        rcases List.mem_append.1 hc with hc | hc
        · exact hdig c hc
        · exact ⟨n % b, hmod, List.mem_singleton.1 hc⟩
      · rw [List.foldl_append, hval, List.foldl_cons, List.foldl_nil, hv _ hmod, Nat.mul_comm]
        exact Nat.div_add_mod n b
      · intro k hk hk1
        rcases k with _ | _ | k
        · omega
        · exact absurd (by simpa using hk) hlt
        · have := hlen (k + 1) (hdiv _ hk) (by omega)
          rw [List.length_append, List.length_singleton]; omega

theorem natStr_spec (n : Nat) :
    natStr n ≠ [] ∧ (∀ c ∈ natStr n, isDigit c = true) ∧ digitsVal (natStr n) = n := by
  obtain ⟨cs, hcs, hne, hdig, hval, _⟩ := digitLoop_spec (b := 10) (by omega) (48 + ·) (· - 48)
    (fun d _ => by omega) natDigitsAux (hF := fun _ _ _ => rfl) (f := n + 1) n [] (lt_pow_succ (by omega) n)
    (by omega)
  rw [natStr, hcs, List.append_nil]
  refine ⟨hne, fun c hc => ?_, hval⟩
  obtain ⟨d, hd, rfl⟩ := hdig c hc
  simp only [isDigit, Bool.and_eq_true, decide_eq_true_eq]; omega

theorem natStr_isDigit (n : Nat) : ∀ c ∈ natStr n, isDigit c = true := (natStr_spec n).2.1

theorem digitsVal_natStr (n : Nat) : digitsVal (natStr n) = n := (natStr_spec n).2.2

theorem natStr_inj (a b : Nat) (h : natStr a = natStr b) : a = b :=
  Function.LeftInverse.injective digitsVal_natStr h

theorem matchPyformat_none (t : Str) (h : hasPctParen t = false) : matchPyformat t = none := by
  unfold matchPyformat
  split
  · simp [hasPctParen] at h
  · rfl

theorem hasPctParen_cons (c : Nat) (X : Str) :
    hasPctParen (c :: X) = ((c == 37 && X.head? == some 40) || hasPctParen X) := by
  cases X with
  | nil => simp [hasPctParen]
  | cons d Y =>
    by_cases h : c = 37 ∧ d = 40
    · obtain ⟨rfl, rfl⟩ := h
      rfl
    · have : (c == 37 && (d :: Y).head? == some 40) = false := by simpa using h
      rw [this, Bool.false_or, hasPctParen]
      exact fun u e1 e2 => h ⟨e1, (List.cons.inj e2).1⟩

theorem head_flatMap_dup (l : List Nat) (s tail : Str) :
    (s.flatMap (dup l) ++ tail).head? = (s ++ tail).head? := by
  cases s with
  | nil => rfl
  | cons c t =>
    rw [List.flatMap_cons]
    by_cases hc : c ∈ l
    · rw [dup_of_mem hc]; rfl
    · rw [dup_of_not_mem hc]; rfl

theorem hasPctParen_dup {l : List Nat} (h : 37 ∉ l) (s tail : Str) :
    hasPctParen (s.flatMap (dup l) ++ tail) = hasPctParen (s ++ tail) := by
  induction s with
  | nil => rfl
  | cons c t ih =>
    rw [List.flatMap_cons]
    by_cases hc : c ∈ l
    · have h37 : (c == 37) = false := beq_eq_false_iff_ne.2 fun e => h (e ▸ hc)
      simp only [dup_of_mem hc, List.cons_append, List.nil_append, hasPctParen_cons, ih, h37, Bool.false_and,
        Bool.false_or]
    · simp only [dup_of_not_mem hc, List.cons_append, List.nil_append, hasPctParen_cons, ih, head_flatMap_dup]

theorem hasPctParen_snoc {x : Nat} (hx : x ≠ 40) (t : Str) : hasPctParen (t ++ [x]) = hasPctParen t := by
  induction t with
  | nil => simp [hasPctParen_cons]
  | cons a u ih =>
    rw [List.cons_append, hasPctParen_cons, hasPctParen_cons, ih]
    cases u <;> simp [hx]

/-- the characters of ISO date/time text -/
def isPlain (c : Nat) : Bool := isDigit c || c == 45 || c == 58 || c == 46 || c == 32

theorem plain_ne {c d : Nat} (h : isPlain c = true) (hd : isPlain d = false) : c ≠ d := fun e => by
  rw [e, hd] at h
  cases h

theorem pad_plain (w n : Nat) : ∀ c ∈ pad w n, isPlain c = true := by
  intro c hc
  simp only [pad, List.mem_append, List.mem_replicate] at hc
  rcases hc with ⟨_, hc⟩ | hc
  · subst hc; decide
  · simp [isPlain, natStr_isDigit n c hc]

theorem isoDate_plain (y m d : Nat) : ∀ c ∈ isoDate y m d, isPlain c = true := by
  unfold isoDate
  simp only [List.forall_mem_append, List.forall_mem_cons]
  exact ⟨⟨pad_plain 4 y, by decide, pad_plain 2 m⟩, by decide, pad_plain 2 d⟩

theorem isoTime_plain (h mi s us : Nat) : ∀ c ∈ isoTime h mi s us, isPlain c = true := by
  unfold isoTime
  simp only [List.forall_mem_append, List.forall_mem_cons]
  refine ⟨⟨⟨pad_plain 2 h, by decide, pad_plain 2 mi⟩, by decide, pad_plain 2 s⟩, ?_⟩
  split
  · exact fun c hc => nomatch hc
  · exact List.forall_mem_cons.2 ⟨by decide, pad_plain 6 us⟩

theorem plain_literal (c : Cfg) (h : wfLit c = true) (mode : Nat) (hm : bsLit c = (mode != 0))
    (body rest : Str) (hb : ∀ x ∈ body, isPlain x = true)
    (hr : ∀ x t, rest = x :: t → x ≠ 39) :
    lexString mode false (applyOps c.outerOps (39 :: body ++ [39]) ++ rest) = some (body, rest) ∧
    37 ∉ applyOps c.outerOps (39 :: body ++ [39]) := by
  have hid : applyOps c.outerOps (39 :: body ++ [39]) = 39 :: body ++ [39] := by
    rcases (wfLit_sound h).outerOps with h4 | h4
    · rw [h4]; rfl
    · rw [h4, show bsOps = dupOps [92] from rfl, applyOps_dupOps _ (by decide)]
      refine flatMap_dup_id fun a ha e => ?_
      have h92 : 92 ∈ body := by simpa using (List.mem_singleton.1 e ▸ ha : 92 ∈ 39 :: body ++ [39])
      exact plain_ne (hb 92 h92) (by decide) rfl
  rw [hid]
  refine ⟨?_, fun hmem => ?_⟩
  · have := lexStrAux_dup mode (bsLit c) hm body rest hr
    rw [flatMap_dup_id fun x hx => by
      have h1 : x ≠ 39 := plain_ne (hb x hx) (by decide)
      have h2 : x ≠ 92 := plain_ne (hb x hx) (by decide)
      cases bsLit c <;> simp [h1, h2]] at this
    simpa [lexString] using this
  · have h37 : 37 ∈ body := by simpa using hmem
    exact plain_ne (hb 37 h37) (by decide) rfl

end SaVerif.Literal
