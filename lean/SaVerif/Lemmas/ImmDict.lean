import SaVerif.Model.ImmDict
import SaVerif.Lemmas.OrderedSet
/-! immutabledict as an association list with unique keys (`KVWf`): `kvGet` after `kvSet` and
`kvUpdate`; the plain left-to-right merge `mergeSpec`; and what the scan of `_union_other`
(`scanOnlyOne`) found, in terms of the argument list (`scan_spec`).  `Props/C54` compares the two. -/
namespace SaVerif.Coll

def kvKeys (d : KV) : List Nat := d.map (·.1)

def KVWf (d : KV) : Prop := (kvKeys d).Nodup

theorem kvGet_nil (k : Nat) : kvGet [] k = none := rfl

theorem kvGet_cons (e : Nat × Nat) (d : KV) (k : Nat) :
    kvGet (e :: d) k = if e.1 = k then some e.2 else kvGet d k := by
  unfold kvGet
  rw [List.find?_cons]
  by_cases h : e.1 = k
  · rw [beq_iff_eq.2 h, if_pos h]
    rfl
  · rw [beq_eq_false_iff_ne.2 h, if_neg h]

theorem kvGet_append (d d' : KV) (k : Nat) : kvGet (d ++ d') k = (kvGet d k).or (kvGet d' k) := by
  unfold kvGet
  rw [List.find?_append, Option.map_or]

theorem any_key_iff {d : KV} {k : Nat} : d.any (fun e => e.1 == k) = true ↔ k ∈ (kvKeys d) := by
  simp [kvKeys, List.any_eq_true]

theorem kvGet_eq_none_iff {d : KV} {k : Nat} : kvGet d k = none ↔ k ∉ (kvKeys d) := by
  unfold kvGet
  rw [Option.map_eq_none_iff, List.find?_eq_none, ← any_key_iff, List.any_eq_true]
  simp only [not_exists, not_and]

theorem kvSet_of_not_mem {d : KV} {k : Nat} (h : k ∉ kvKeys d) (v : Nat) :
    kvSet d k v = d ++ [(k, v)] :=
  if_neg (mt any_key_iff.1 h)

theorem kvSet_keys (d : KV) (k v : Nat) : kvKeys (kvSet d k v) = dictSet (kvKeys d) k := by
  have hc : d.any (fun e => e.1 == k) = (kvKeys d).contains k := by
    rw [Bool.eq_iff_iff, any_key_iff, List.contains_iff_mem]
  unfold kvSet dictSet
  rw [hc]
  split
  · unfold kvKeys
    rw [List.map_map]
    refine List.map_congr_left fun e _ => ?_
    show (if e.1 == k then (k, v) else e).1 = e.1
    split
    next he => exact (beq_iff_eq.1 he).symm
    · rfl
  · exact List.map_append

theorem kvGet_map_set_ne (d : KV) {k k' : Nat} (v : Nat) (hk : k' ≠ k) :
    kvGet (d.map (fun e => if e.1 == k then (k, v) else e)) k' = kvGet d k' := by
  induction d with
  | nil => rfl
  | cons e d ih =>
    rw [List.map_cons, kvGet_cons, kvGet_cons, ih]
    by_cases he : e.1 = k
    · rw [if_pos (beq_iff_eq.2 he), if_neg (Ne.symm hk), if_neg (he ▸ Ne.symm hk)]
    · rw [if_neg (mt beq_iff_eq.1 he)]

theorem kvGet_map_set_self {d : KV} {k : Nat} (v : Nat) (h : d.any (fun e => e.1 == k) = true) :
    kvGet (d.map (fun e => if e.1 == k then (k, v) else e)) k = some v := by
  induction d with
  | nil => cases h
  | cons e d ih =>
    rw [List.map_cons, kvGet_cons]
    by_cases he : e.1 = k
    · rw [if_pos (beq_iff_eq.2 he), if_pos rfl]
    · rw [if_neg (mt beq_iff_eq.1 he), if_neg he]
      rw [List.any_cons, beq_eq_false_iff_ne.2 he, Bool.false_or] at h
      exact ih h

theorem kvGet_kvSet (d : KV) (k v k' : Nat) :
    kvGet (kvSet d k v) k' = if k' = k then some v else kvGet d k' := by
  unfold kvSet
  by_cases hk : k' = k
  · rw [if_pos hk, hk]
    split
    next h => exact kvGet_map_set_self v h
    next h =>
      rw [kvGet_append, kvGet_eq_none_iff.2 (mt any_key_iff.2 h), Option.none_or, kvGet_cons,
        if_pos rfl]
  · rw [if_neg hk]
    split
    · exact kvGet_map_set_ne d v hk
    · rw [kvGet_append, kvGet_cons, if_neg (Ne.symm hk), kvGet_nil, Option.or_none]

theorem kvUpdate_keys (o d : KV) : kvKeys (kvUpdate d o) = dictUpdate (kvKeys d) (kvKeys o) :=
  (List.foldl_map.trans (List.foldl_hom kvKeys fun d e => (kvSet_keys d e.1 e.2).symm)).symm

theorem KVWf.of_keys {d d' : KV} {ks : List Nat} (h : KVWf d)
    (hk : kvKeys d' = dictUpdate (kvKeys d) ks) : KVWf d' := by
  unfold KVWf
  rw [hk]
  exact nodup_dictUpdate h ks

theorem kvUpdate_wf {d : KV} (h : (KVWf d)) (o : KV) : KVWf (kvUpdate d o) :=
  h.of_keys (kvUpdate_keys o d)

theorem kvGet_kvUpdate {o : KV} (ho : KVWf o) : ∀ (d : KV) (k : Nat),
    kvGet (kvUpdate d o) k = (kvGet o k).or (kvGet d k) := by
  induction o with
  | nil => intro d k; rfl
  | cons e o ih =>
    intro d k
    have hw := List.nodup_cons.1 ho
    show kvGet (kvUpdate (kvSet d e.1 e.2) o) k = _
    rw [ih hw.2, kvGet_kvSet, kvGet_cons]
    by_cases hk : k = e.1
    · rw [hk, kvGet_eq_none_iff.2 hw.1, if_pos rfl, if_pos rfl]
      rfl
    · rw [if_neg hk, if_neg (Ne.symm hk)]

theorem kvUpdate_append {o : KV} (ho : KVWf o) : ∀ pre : KV, (∀ k ∈ kvKeys o, k ∉ kvKeys pre) →
    kvUpdate pre o = pre ++ o := by
  induction o with
  | nil => intro pre _; exact (List.append_nil pre).symm
  | cons e o ih =>
    intro pre hpre
    have hw := List.nodup_cons.1 ho
    show kvUpdate (kvSet pre e.1 e.2) o = _
    rw [kvSet_of_not_mem (hpre e.1 List.mem_cons_self), ih hw.2, List.append_assoc]
    · rfl
    · intro k hk hm
      rw [kvKeys, List.map_append, List.mem_append] at hm
      rcases hm with h | h
      · exact hpre k (List.mem_cons_of_mem _ hk) h
      · exact hw.1 (List.mem_singleton.1 h ▸ hk)

theorem kvUpdate_nil_eq {o : KV} (ho : KVWf o) : kvUpdate [] o = o :=
  (kvUpdate_append ho [] fun _ _ => List.not_mem_nil).trans (List.nil_append o)

/-- reference: merge left to right, later mappings win, `None` contributes nothing -/
def mergeSpec (self : KV) (others : List DArg) : KV :=
  others.foldl (fun r d => kvUpdate r d.items) self

theorem falsy_items {d : DArg} (h : d.falsy = true) : d.items = [] := by
  unfold DArg.falsy at h
  exact List.isEmpty_iff.1 h

theorem mergeSpec_all_falsy {ds : List DArg} (h : ∀ d ∈ ds, d.falsy = true) (r : KV) :
    mergeSpec r ds = r :=
  List.foldlRecOn (motive := (· = r)) ds _ rfl fun b hb d hd => by
    rw [hb, falsy_items (h d hd)]
    rfl

theorem fresh_fold_eq (others : List DArg) (r : KV) :
    others.foldl (fun res d => if d.falsy then res else kvUpdate res d.items) r
      = mergeSpec r others :=
  List.foldl_rel (r := Eq) rfl fun d _ _ _ h => by
    subst h
    split
    next hd =>
      rw [falsy_items hd]
      rfl
    · rfl

theorem scan_spec (ds : List DArg) : ∀ (oo : OnlyOne) (i : Nat),
    match scanOnlyOne oo i ds with
    | .isFalse => oo = .isFalse ∧ ∀ d ∈ ds, d.falsy = true
    | .isSelf => oo = .isSelf ∧ ∀ d ∈ ds, d.falsy = true
    | .isArg j =>
        (oo = .isArg j ∧ ∀ d ∈ ds, d.falsy = true) ∨
        (oo = .isFalse ∧ ∃ pre kv post, ds = pre ++ DArg.imm kv :: post ∧
            (∀ d ∈ pre, d.falsy = true) ∧ (∀ d ∈ post, d.falsy = true) ∧ j = i + pre.length)
    | .isNone => True := by
  induction ds with
  | nil => intro oo i; cases oo <;> simp [scanOnlyOne]
  | cons d ds ih =>
    intro oo i
    unfold scanOnlyOne
    by_cases hd : d.falsy = true
    · -- a falsy argument is skipped: it joins the falsy prefix
      rw [if_pos hd]
      have := ih oo (i + 1)
      split at this
      · exact ⟨this.1, List.forall_mem_cons.2 ⟨hd, this.2⟩⟩
      · exact ⟨this.1, List.forall_mem_cons.2 ⟨hd, this.2⟩⟩
      · rcases this with ⟨h1, h2⟩ | ⟨h1, pre, kv, post, h2, h3, h4, h5⟩
        · exact .inl ⟨h1, List.forall_mem_cons.2 ⟨hd, h2⟩⟩
        · exact .inr ⟨h1, d :: pre, kv, post, congrArg _ h2, List.forall_mem_cons.2 ⟨hd, h3⟩, h4,
            h5.trans (by rw [List.length_cons]; omega)⟩
      · trivial
    · rw [if_neg hd]
      cases oo with
      | isFalse =>
        cases d with
        | imm kv =>
          -- from `isArg i` on, the scan either keeps `isArg i` over falsy arguments or gives up
          have := ih (.isArg i) (i + 1)
          show match scanOnlyOne (.isArg i) (i + 1) ds with
            | .isFalse => _ | .isSelf => _ | .isArg j => _ | .isNone => _
          split at this
          · cases this.1
          · cases this.1
          · rcases this with ⟨h1, h2⟩ | ⟨h1, _⟩
            · cases h1
              exact .inr ⟨rfl, [], kv, ds, rfl, nofun, h2, rfl⟩
            · cases h1
          · trivial
        | _ => trivial
      | _ => trivial

end SaVerif.Coll
