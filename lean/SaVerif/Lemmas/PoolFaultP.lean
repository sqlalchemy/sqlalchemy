import SaVerif.Lemmas.PoolFault
import SaVerif.Lemmas.ListFacts
/-! `PInv c fl st`, the pool-level invariant of the fault machine; `fl` is the one record travelling
between queue and fairy.  `liveConn` says that no connection leaks: every record with one is in the
queue, in use or in flight.  `qLe` is what the not-full branch of `doReturn` keeps, and the second
half of `C26.counters_sane`.  `Inv` is `GR` and `PInv` together. -/
namespace SaVerif.PoolFault

def b2n (b : Bool) : Nat := if b then 1 else 0

/-- number of records with `fairy_ref is not None` -/
def inUseCount (recs : List Rec) : Nat := (recs.map (fun x => b2n x.inUse)).sum

theorem inUseCount_set (recs : List Rec) (r : Nat) (x : Rec) (h : r < recs.length) :
    inUseCount (recs.set r x) + b2n (inUseOf recs r) = inUseCount recs + b2n x.inUse :=
  ListFacts.sum_map_set (fun y : Rec => b2n y.inUse) (old := recs.getD r blankRec) x
    (by rw [List.getD_eq_getElem?_getD, List.getElem?_eq_getElem h]; rfl)

theorem inUseCount_append_blank (recs : List Rec) : inUseCount (recs ++ [blankRec]) = inUseCount recs := by
  simp [inUseCount, blankRec, b2n]

theorem inUseCount_zero_of_all (recs : List Rec) (h : ∀ x ∈ recs, x.inUse = false) : inUseCount recs = 0 :=
  ListFacts.sum_map_eq_zero fun x hx => by rw [h x hx]; rfl

def Live (fl : Option Nat) (st : St) (r : Nat) : Prop :=
  r ∈ st.queue ∨ inUseOf st.recs r = true ∨ fl = some r

theorem Live.queued {fl : Option Nat} {st : St} {r : Nat} (h : r ∈ st.queue) : Live fl st r := .inl h

theorem Live.inUse {fl : Option Nat} {st : St} {r : Nat} (h : inUseOf st.recs r = true) : Live fl st r :=
  .inr (.inl h)

theorem Live.flight {st : St} {r : Nat} : Live (some r) st r := .inr (.inr rfl)

theorem Live.frame {fl : Option Nat} {st st' : St} {r r' : Nat} (hf : FrameR r st st')
    (h : Live fl st r') : Live fl st' r' :=
  h.imp (hf.queue ▸ ·) (Or.imp_left ((hf.inUse r').trans ·))

structure PInv (c : Cfg) (fl : Option Nat) (st : St) : Prop where
  acct : st.overflow + c.size = st.queue.length + inUseCount st.recs + (if fl.isSome then 1 else 0)
  qValid : ∀ r ∈ st.queue, r < st.recs.length
  qIdle : ∀ r ∈ st.queue, inUseOf st.recs r = false
  qNodup : st.queue.Nodup
  flOk : ∀ r, fl = some r → r < st.recs.length ∧ r ∉ st.queue ∧ inUseOf st.recs r = false
  liveConn : ∀ r c, connOf st.recs r = some c → Live fl st r
  fValid : ∀ (h : Nat) (x : Fairy), st.fairies[h]? = some (some x) → x.rid < st.recs.length
  qLe : 0 < c.size → st.queue.length ≤ c.size

theorem PInv.acct_none {c : Cfg} {st : St} (h : PInv c none st) :
    st.overflow + c.size = st.queue.length + inUseCount st.recs :=
  h.acct.trans (Int.add_zero _)

theorem PInv.acct_some {c : Cfg} {st : St} {r : Nat} (h : PInv c (some r) st) :
    st.overflow + c.size = st.queue.length + inUseCount st.recs + 1 :=
  h.acct

theorem inUseCount_congr {a b : List Rec} (hl : b.length = a.length)
    (h : ∀ r, inUseOf b r = inUseOf a r) : inUseCount b = inUseCount a := by
  unfold inUseCount
  congr 1
  apply List.ext_getElem
  · simp [hl]
  · intro i h1 h2
    simp at h1 h2
    have := h i
    simp [inUseOf, List.getD_eq_getElem?_getD, List.getElem?_eq_getElem h1,
      List.getElem?_eq_getElem h2] at this
    simp [this]

/-- `hl`: so that a connection `r` acquires is not a leak -/
theorem PInv.frame {c : Cfg} {fl : Option Nat} {st st' : St} {r : Nat} (h : PInv c fl st)
    (hf : FrameR r st st')
    (hl : Live fl st r ∨ (∀ c', connOf st'.recs r = some c' → connOf st.recs r = some c')) :
    PInv c fl st' := by
  have hcnt := inUseCount_congr hf.len hf.inUse
  constructor
  case acct => rw [hf.overflow, hf.queue, hcnt]; exact h.acct
  case qValid => intro r' hr'; rw [hf.queue] at hr'; rw [hf.len]; exact h.qValid r' hr'
  case qIdle => intro r' hr'; rw [hf.queue] at hr'; rw [hf.inUse]; exact h.qIdle r' hr'
  case qNodup => rw [hf.queue]; exact h.qNodup
  case flOk =>
    intro r' hr'
    have := h.flOk r' hr'
    rw [hf.len, hf.queue, hf.inUse]; exact this
  case liveConn =>
    intro r' c' hc'
    refine Live.frame hf ?_
    by_cases e : r' = r
    · subst e
      exact hl.elim id fun hl => h.liveConn r' c' (hl c' hc')
    · rw [hf.conn r' e] at hc'
      exact h.liveConn r' c' hc'
  case fValid =>
    intro k x hk
    rw [hf.fairies] at hk
    rw [hf.len]; exact h.fValid k x hk
  case qLe => rw [hf.queue]; exact h.qLe

theorem PInv.invalidate {c fl st} (h : PInv c fl st) (r : Nat) (b : Bool) :
    PInv c fl (invalidate st r b) :=
  h.frame (invalidate_keep r b st).frame (.inr (invalidate_keep r b st).conn)

theorem checkedout_eq_inUse {c : Cfg} {st : St} (h : PInv c none st) :
    checkedout c st = inUseCount st.recs := by
  have := h.acct_none
  unfold checkedout
  omega

structure Inv (c : Cfg) (fl : Option Nat) (st : St) : Prop where
  g : GR st
  p : PInv c fl st

theorem Inv.keep {c : Cfg} {fl : Option Nat} {st st' : St} {r : Nat} (h : Inv c fl st)
    (hs : RecKeep r st st') : Inv c fl st' :=
  ⟨hs.gr h.g, h.p.frame hs.frame (.inr hs.conn)⟩

theorem Inv.recStep {c : Cfg} {fl : Option Nat} {st st' : St} {r : Nat} (h : Inv c fl st)
    (hs : RecStep r st st') (hr : r < st.recs.length) (hl : Live fl st r) : Inv c fl st' :=
  ⟨hs.gr hr h.g, h.p.frame hs.frame (.inl hl)⟩

theorem PInv.giveBack {c : Cfg} {st : St} {r : Nat} (h : PInv c (some r) st)
    (hn : connOf st.recs r = none) {ov : Int} (hov : ov = st.overflow - 1) :
    PInv c none { st with overflow := ov } := by
  -- `ov`: `doReturn` closes the record and then writes the `overflow` of the state before the
  -- close, minus one, equal to this state's but not the same term
  refine { h with acct := ?acct, flOk := nofun, liveConn := ?liveConn }
  case acct =>
    have := h.acct_some
    show ov + (c.size : Int) = st.queue.length + inUseCount st.recs + 0
    omega
  case liveConn =>
    intro r' c' hc'
    rcases h.liveConn r' c' hc' with hl | hl | hl
    · exact .queued hl
    · exact .inUse hl
    · cases hl; rw [hn] at hc'; cases hc'

theorem doReturn_inv {c : Cfg} {st : St} {r : Nat} (h : Inv c (some r) st) :
    Inv c none (doReturn c st r) := by
  obtain ⟨hlt, hnq, hnu⟩ := h.p.flOk r rfl
  unfold doReturn
  split
  · -- Full: close the record, give the slot back
    have h1 := h.keep (closeRec_keep r st)
    exact ⟨h1.g.congr rfl rfl rfl (Nat.le_refl _),
      h1.p.giveBack (closeRec_connOf st r) (by rw [(closeRec_keep r st).frame.overflow])⟩
  · rename_i hfull
    have hp := h.p
    -- not full: the record in flight joins the queue
    refine ⟨h.g.congr rfl rfl rfl (Nat.le_refl _), {
      acct := ?acct
      qValid := List.forall_mem_append.2 ⟨hp.qValid, fun _ e => List.mem_singleton.1 e ▸ hlt⟩
      qIdle := List.forall_mem_append.2 ⟨hp.qIdle, fun _ e => List.mem_singleton.1 e ▸ hnu⟩
      qNodup := List.nodup_append.2 ⟨hp.qNodup, List.pairwise_singleton _ _,
        fun a ha b hb e => hnq (by rw [← List.mem_singleton.1 hb, ← e]; exact ha)⟩
      flOk := nofun
      liveConn := ?liveConn
      fValid := hp.fValid
      qLe := ?qLe }⟩
    case acct =>
      have := hp.acct_some
      show st.overflow + (c.size : Int) = (st.queue ++ [r]).length + inUseCount st.recs + 0
      rw [List.length_append, List.length_singleton]
      omega
    case liveConn =>
      intro r' c' hc'
      rcases hp.liveConn r' c' hc' with hl | hl | hl
      · exact .queued (by simp [hl])
      · exact .inUse hl
      · cases hl; exact .queued (by simp)
    case qLe =>
      intro hs
      have := hp.qLe hs
      simp [full, hs] at hfull
      simp [List.length_append]; omega

/-- writing `fairy_ref` moves record `r` between "in flight" and "in use": `b = true` is
    `markInUse` (the fairy exists), `b = false` is the `self.fairy_ref = None` of `checkin` -/
theorem setInUse_PInv {c : Cfg} {st : St} {r : Nat} (b : Bool)
    (h : PInv c (if b then some r else none) st) (hu : inUseOf st.recs r = !b)
    (hlt : r < st.recs.length) (hnq : r ∉ st.queue) :
    PInv c (if b then none else some r) (setRec st r { getRec st r with inUse := b }) := by
  have hcnt := inUseCount_set st.recs r { getRec st r with inUse := b } hlt
  have hconn := connOf_set_same (x := { getRec st r with inUse := b }) (getRec_conn st r)
  have hiu : inUseOf (setRec st r { getRec st r with inUse := b }).recs r = b := inUseOf_set_self _ hlt
  refine ⟨?acct, ?qValid, ?qIdle, h.qNodup, ?flOk, ?liveConn, ?fValid, h.qLe⟩
  case acct =>
    have := h.acct
    rw [hu] at hcnt
    show st.overflow + c.size = st.queue.length + inUseCount (st.recs.set r _) + _
    cases b <;> simp [b2n] at hcnt this ⊢ <;> omega
  case qValid => intro r' hr'; rw [setRec_length]; exact h.qValid r' hr'
  case qIdle =>
    intro r' hr'
    rw [setRec_recs, inUseOf_set_ne _ fun e : r' = r => hnq (e ▸ hr')]
    exact h.qIdle r' hr'
  case flOk =>
    intro r' hr'
    cases b
    · cases hr'; exact ⟨by rw [setRec_length]; exact hlt, hnq, hiu⟩
    · cases hr'
  case liveConn =>
    intro r' c' hc'
    rw [setRec_recs, hconn] at hc'
    by_cases e : r' = r
    · subst e
      cases b
      · exact .flight
      · exact .inUse hiu
    · rcases h.liveConn r' c' hc' with hl | hl | hl
      · exact .queued hl
      · exact .inUse ((inUseOf_set_ne _ e).trans hl)
      · cases b
        · cases hl
        · cases hl; exact absurd rfl e
  case fValid => intro k x hk; rw [setRec_length]; exact h.fValid k x hk

theorem checkin_inv_inUse {c : Cfg} {st : St} {r : Nat} (b : Bool) (h : Inv c none st)
    (hu : inUseOf st.recs r = true) : Inv c none (checkin c st r b) := by
  rw [checkin_eq c (.inl hu)]
  exact doReturn_inv ⟨h.g.setField r _ rfl rfl rfl, setInUse_PInv false h.p hu (inUseOf_lt hu)
    fun hq => Bool.noConfusion ((h.p.qIdle r hq).symm.trans hu)⟩

theorem checkin_PInv_idle {c : Cfg} {st : St} {r : Nat} (h : PInv c none st)
    (hu : inUseOf st.recs r = false) : PInv c none (checkin c st r true) := by
  rw [checkin_idle c hu]
  exact h

theorem checkinFailed_inv_inUse {c : Cfg} {st : St} {r : Nat} (h : Inv c none st)
    (hu : inUseOf st.recs r = true) : Inv c none (checkinFailed c st r true) :=
  checkin_inv_inUse true (h.keep (invalidate_keep r false st))
    (((invalidate_keep r false st).frame.inUse r).trans hu)

theorem checkinFailed_inv_flight {c : Cfg} {st : St} {r : Nat} (h : Inv c (some r) st) :
    Inv c none (checkinFailed c st r false) := by
  have h1 := h.keep (invalidate_keep r false st)
  obtain ⟨_, _, hnu⟩ := h1.p.flOk r rfl
  rw [checkinFailed, checkin_eq c (.inr rfl)]
  exact doReturn_inv (h1.keep (setField_keep r _ _ hnu.symm rfl rfl rfl))

theorem pop_PInv {c : Cfg} {st : St} {r : Nat} {rest : List Nat} (h : PInv c none st)
    (hto : takeOne c.lifo st.queue = some (r, rest)) : PInv c (some r) { st with queue := rest } := by
  have hp := takeOne_perm hto
  have hlen : st.queue.length = rest.length + 1 := hp.length_eq
  obtain ⟨hnot, hnd⟩ := List.nodup_cons.1 (hp.nodup_iff.1 h.qNodup)
  have hiff : ∀ x, x ∈ st.queue ↔ x = r ∨ x ∈ rest := fun x => hp.mem_iff.trans List.mem_cons
  have hmem := (hiff r).2 (.inl rfl)
  refine ⟨?acct, ?qValid, ?qIdle, hnd, ?flOk, ?liveConn, h.fValid, ?qLe⟩
  case acct =>
    have := h.acct_none
    show st.overflow + (c.size : Int) = rest.length + inUseCount st.recs + 1
    omega
  case qValid => intro r' hr'; exact h.qValid r' ((hiff r').2 (Or.inr hr'))
  case qIdle => intro r' hr'; exact h.qIdle r' ((hiff r').2 (Or.inr hr'))
  case flOk =>
    intro r' hr'
    cases hr'
    exact ⟨h.qValid r hmem, hnot, h.qIdle r hmem⟩
  case liveConn =>
    intro r' c' hc'
    rcases h.liveConn r' c' hc' with hl | hl | hl
    · rcases (hiff r').1 hl with e | e
      · exact e ▸ .flight
      · exact .queued e
    · exact .inUse hl
    · cases hl
  case qLe => intro hs; have := h.qLe hs; simp at this ⊢; omega

theorem newRec_inv {c : Cfg} {st : St} (hi : Inv c none st) :
    Inv c (some st.recs.length) (newRec st) := by
  have h := hi.p
  have hg : GR (newRec st) := by
    refine ⟨hi.g.r.congr (connOf_append_blank _), hi.g.o.congr (connOf_append_blank _), ⟨hi.g.t.inv, ?_⟩⟩
    intro y hy
    rcases List.mem_append.1 hy with e | e
    · exact hi.g.t.recs y e
    · cases List.mem_singleton.1 e
      exact ⟨Nat.zero_lt_of_lt hi.g.t.inv, Nat.zero_lt_of_lt hi.g.t.inv⟩
  unfold newRec at hg ⊢
  exact ⟨hg, {
    acct := by
      have := h.acct_none
      show st.overflow + 1 + (c.size : Int) = st.queue.length + inUseCount (st.recs ++ [blankRec]) + 1
      rw [inUseCount_append_blank]
      omega
    qValid := fun r' hr' => by have := h.qValid r' hr'; simp; omega
    qIdle := fun r' hr' => (inUseOf_append_blank ..).trans (h.qIdle r' hr')
    qNodup := h.qNodup
    flOk := fun r' hr' => by
      cases hr'
      exact ⟨by simp, fun hq => Nat.lt_irrefl _ (h.qValid _ hq), (inUseOf_append_blank ..).trans
        (congrArg Rec.inUse (ListFacts.getD_of_length_le (Nat.le_refl _) _))⟩
    liveConn := fun r' c' hc' => by
      rw [connOf_append_blank] at hc'
      rcases h.liveConn r' c' hc' with hl | hl | hl
      · exact .queued hl
      · exact .inUse ((inUseOf_append_blank ..).trans hl)
      · cases hl
    fValid := fun k x hk => by have := h.fValid k x hk; simp; omega
    qLe := h.qLe }⟩

theorem doGet_inv {c : Cfg} {st : St} (h : Inv c none st) :
    (∀ r, (doGet c st).2 = GetRes.ok r → Inv c (some r) (doGet c st).1) ∧
    ((∀ r, (doGet c st).2 ≠ GetRes.ok r) → Inv c none (doGet c st).1) := by
  cases hto : takeOne c.lifo st.queue with
  | some p =>
    obtain ⟨r', rest⟩ := p
    simp only [doGet, hto]
    constructor
    · intro r hr; cases hr; exact ⟨h.g.congr rfl rfl rfl (Nat.le_refl _), pop_PInv h.p hto⟩
    · intro hne; exact absurd rfl (hne r')
  | none =>
    simp only [doGet, hto]
    split
    · exact ⟨fun r hr => (by cases hr), fun _ => h⟩
    · have hn := newRec_connOf_new st
      have h2 : Inv c (some st.recs.length) (connect (newRec st) st.recs.length).1 :=
        (newRec_inv h).recStep (connect_step _ hn) (by simp [newRec]) .flight
      split
      · constructor
        · intro r hr; cases hr; exact h2
        · intro hne; exact absurd rfl (hne _)
      · rename_i hc
        constructor
        · intro r hr; cases hr
        · intro _
          -- creation failed: the new record never got a connection; give the slot back
          exact ⟨h2.g.congr rfl rfl rfl (Nat.le_refl _),
            h2.p.giveBack ((connect_fail hn (Bool.eq_false_iff.2 hc)).conn_none hn) rfl⟩

theorem markInUse_inv {c : Cfg} {st : St} {r : Nat} (h : Inv c (some r) st) :
    Inv c none (markInUse st r) ∧ inUseOf (markInUse st r).recs r = true := by
  obtain ⟨hlt, hnq, hnu⟩ := h.p.flOk r rfl
  exact ⟨⟨h.g.setField r _ rfl rfl rfl, setInUse_PInv true h.p hnu hlt hnq⟩,
    inUseOf_set_self _ hlt⟩

/-- only `fValid` reads the fairies -/
theorem Inv.setFairies {c : Cfg} {fl : Option Nat} {st : St} (hi : Inv c fl st) (fs : List (Option Fairy))
    (hv : ∀ x, some x ∈ fs → some x ∈ st.fairies ∨ x.rid < st.recs.length) :
    Inv c fl { st with fairies := fs } := by
  refine ⟨hi.g.congr rfl rfl rfl (Nat.le_refl _),
    { hi.p with fValid := fun k x hk => (hv x (List.mem_of_getElem? hk)).elim (fun hm => ?_) id }⟩
  obtain ⟨i, hx⟩ := List.getElem?_of_mem hm
  exact hi.p.fValid i x hx

theorem addFairy_inv {c : Cfg} {st : St} {r : Nat} (cn : Nat) (hi : Inv c none st)
    (hlt : r < st.recs.length) : Inv c none (addFairy st r cn) :=
  hi.setFairies _ fun _ hm => (List.mem_append.1 hm).imp_right fun hm => by
    cases List.mem_singleton.1 hm
    exact hlt

theorem finalize_inv {c : Cfg} {st : St} (r : Nat) (ca : Option Nat) (h : Inv c none st) :
    Inv c none (finalize c st r ca) := by
  unfold finalize
  split
  · exact checkin_inv_inUse true (h.keep (resetStep_keep c r ca st)) ‹_›
  · exact h.keep (resetStep_keep c r ca st)

theorem release_inv {c : Cfg} {st : St} (k : Nat) (hi : Inv c none st) : Inv c none (release st k) :=
  hi.setFairies _ fun _ hm => (List.mem_or_eq_of_mem_set hm).imp_right nofun

theorem hardInvalidate_inv {c : Cfg} {st : St} (k : Nat) (f : Fairy) (h : Inv c none st) :
    Inv c none (hardInvalidate c st k f) := by
  unfold hardInvalidate
  split
  · exact h
  · exact release_inv k (finalize_inv _ none (h.keep (invalidate_keep _ false st)))

end SaVerif.PoolFault
