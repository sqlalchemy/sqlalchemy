import SaVerif.Lemmas.Pratt
/-!
A check that is made node by node, `ok g t`, suffices for the re-associated tree to be well
bracketed: `wb_norm_of_ok : ok g t = true → wb g t.norm = true`, so that `parse_print` reads
`t.norm` back.  `ok` asks two things of an operand.  `tight g k`: every operator outside brackets
binds at least `k`; this gives `leftOK` and `rightOK` and survives `norm`.  `allExp (notMidOf g f)`:
no exposed operator takes a following `f` as the middle symbol of its ternary form; this gives
`noMid`.  In a chain of one associative operator only the operands of the chain have to meet them
(`ChainArg`), left of a separator only the last operand of a separator chain (`sepLeft`).

`wb_norm_of_ok` is the composition of three inductions: `norm` nests every chain to the left
(`normal_norm`), it keeps the check (`ok_norm`), and on a tree whose chains are nested to the left the
check gives `wb` (`wb_of_ok`).
-/
namespace SaVerif.Pratt

def tight (g : Grammar) (k : Nat) : G → Bool
  | G.atom _ => true
  | G.br _ _ => true
  | G.pre s _ c =>
    match g.prefixBp s with
    | none => false
    | some bp => decide (k ≤ bp) && tight g k c
  | G.inf s _ l r =>
    match g.infixBp s with
    | none => false
    | some (lbp, rbp) => decide (k ≤ lbp) && decide (k ≤ rbp) && tight g k l && tight g k r
  | G.tern s _ _ _ a b c =>
    match g.infixBp s, g.ternBp s with
    | some (lbp, rbp), some (_, bp3, _) =>
      decide (k ≤ lbp) && decide (k ≤ rbp) && decide (k ≤ bp3) &&
        tight g k a && tight g k b && tight g k c
    | _, _ => false

theorem tight_pre {g : Grammar} {k bp : Nat} {s : Sym} {t : String} {c : G}
    (hb : g.prefixBp s = some bp) (h : k ≤ bp) (tc : tight g k c = true) :
    tight g k (G.pre s t c) = true := by
  simp [tight, hb, h, tc]

theorem tight_inf {g : Grammar} {k lbp rbp : Nat} {s : Sym} {t : String} {l r : G}
    (hb : g.infixBp s = some (lbp, rbp)) (h1 : k ≤ lbp) (h2 : k ≤ rbp)
    (tl : tight g k l = true) (tr : tight g k r = true) : tight g k (G.inf s t l r) = true := by
  simp [tight, hb, h1, h2, tl, tr]

theorem tight_tern {g : Grammar} {k lbp rbp bp3 : Nat} {s m m' : Sym} {t mt : String} {a b c : G}
    {fl : Bool} (hb : g.infixBp s = some (lbp, rbp)) (hq : g.ternBp s = some (m', bp3, fl))
    (h1 : k ≤ lbp) (h2 : k ≤ rbp) (h3 : k ≤ bp3) (ta : tight g k a = true)
    (tb : tight g k b = true) (tc : tight g k c = true) :
    tight g k (G.tern s t m mt a b c) = true := by
  simp [tight, hb, hq, h1, h2, h3, ta, tb, tc]

theorem tight_pre_inv {g : Grammar} {k : Nat} {s : Sym} {t : String} {c : G}
    (h : tight g k (G.pre s t c) = true) :
    ∃ bp, g.prefixBp s = some bp ∧ k ≤ bp ∧ tight g k c = true := by
  simp only [tight] at h
  split at h
  next => cases h
  next bp hb => exact ⟨bp, hb, by simpa using h⟩

theorem tight_inf_inv {g : Grammar} {k : Nat} {s : Sym} {t : String} {l r : G}
    (h : tight g k (G.inf s t l r) = true) :
    ∃ lbp rbp, g.infixBp s = some (lbp, rbp) ∧ k ≤ lbp ∧ k ≤ rbp ∧
      tight g k l = true ∧ tight g k r = true := by
  simp only [tight] at h
  split at h
  next => cases h
  next lbp rbp hb => exact ⟨lbp, rbp, hb, by simpa [and_assoc] using h⟩

theorem tight_tern_inv {g : Grammar} {k : Nat} {s m : Sym} {t mt : String} {a b c : G}
    (h : tight g k (G.tern s t m mt a b c) = true) :
    ∃ lbp rbp mid bp3 mand, g.infixBp s = some (lbp, rbp) ∧ g.ternBp s = some (mid, bp3, mand) ∧
      k ≤ lbp ∧ k ≤ rbp ∧ k ≤ bp3 ∧ tight g k a = true ∧ tight g k b = true ∧ tight g k c = true := by
  simp only [tight] at h
  split at h
  next lbp rbp mid bp3 mand hb hq => exact ⟨lbp, rbp, mid, bp3, mand, hb, hq, by simpa [and_assoc] using h⟩
  next => cases h

theorem tight_mono (g : Grammar) {k k' : Nat} (h : k' ≤ k) : ∀ t : G, tight g k t = true → tight g k' t = true := by
  intro t
  induction t with
  | atom a => intro _; rfl
  | br b c _ => intro _; rfl
  | pre s t c ih =>
    intro ht
    obtain ⟨bp, hb, h1, hc⟩ := tight_pre_inv ht
    exact tight_pre hb (Nat.le_trans h h1) (ih hc)
  | inf s t l r ihl ihr =>
    intro ht
    obtain ⟨lbp, rbp, hb, h1, h2, hl, hr⟩ := tight_inf_inv ht
    exact tight_inf hb (Nat.le_trans h h1) (Nat.le_trans h h2) (ihl hl) (ihr hr)
  | tern s t m mt a b c iha ihb ihc =>
    intro ht
    obtain ⟨lbp, rbp, mid, bp3, mand, hb, hq, h1, h2, h3, ha, hb', hc⟩ := tight_tern_inv ht
    exact tight_tern hb hq (Nat.le_trans h h1) (Nat.le_trans h h2) (Nat.le_trans h h3) (iha ha) (ihb hb') (ihc hc)

theorem leftOK_of_tight {g : Grammar} {k : Nat} :
    ∀ {t : G}, tight g k t = true → leftOK g k t = true := by
  intro t
  induction t with
  | inf s t l r ihl _ =>
    intro ht
    obtain ⟨lbp, rbp, hb, h1, _, hl, _⟩ := tight_inf_inv ht
    exact (leftOK_inf hb).2 ⟨h1, ihl hl⟩
  | tern s t m' mt a b c iha _ _ =>
    intro ht
    obtain ⟨lbp, rbp, _, _, _, hb, _, h1, _, _, ha, _, _⟩ := tight_tern_inv ht
    exact (leftOK_tern hb).2 ⟨h1, iha ha⟩
  | _ => intro _; rfl

theorem stops_of_lt (g : Grammar) {s : Sym} {lbp rbp k : Nat} (hb : g.infixBp s = some (lbp, rbp))
    (hlt : lbp < k) : stops g k (some s) = true := by
  simp [stops, hb, hlt]

theorem stops_mono (g : Grammar) {k k' : Nat} (h : k ≤ k') (f : Option Sym)
    (hs : stops g k f = true) : stops g k' f = true := by
  cases f with
  | none => rfl
  | some s =>
    simp only [stops] at hs ⊢
    cases hb : g.infixBp s with
    | none => simp
    | some p =>
      obtain ⟨lbp, rbp⟩ := p
      simp only [hb, decide_eq_true_eq] at hs ⊢
      omega

/-- no operator on the right spine of `t` has `f` as the optional middle symbol of its
    ternary form (`x LIKE y` followed by `ESCAPE`) -/
def noMid (g : Grammar) (f : Option Sym) : G → Bool
  | G.atom _ => true
  | G.br _ _ => true
  | G.pre _ _ c => noMid g f c
  | G.inf s _ _ r =>
    (match g.ternBp s with
     | none => true
     | some (mid, _, _) => decide (f ≠ some mid)) && noMid g f r
  | G.tern _ _ _ _ _ _ c => noMid g f c

theorem rightOK_of_tight (g : Grammar) {k : Nat} (f : Option Sym) (hs : stops g k f = true) :
    ∀ t : G, tight g k t = true → noMid g f t = true → rightOK g f t = true := by
  intro t
  induction t with
  | atom a => intro _ _; rfl
  | br b c _ => intro _ _; rfl
  | pre s t c ih =>
    intro ht hm
    obtain ⟨bp, hb, h1, hc⟩ := tight_pre_inv ht
    exact (rightOK_pre hb).2 ⟨stops_mono g h1 f hs, ih hc hm⟩
  | inf s t l r _ ihr =>
    intro ht hm
    obtain ⟨lbp, rbp, hb, _, h2, _, hr⟩ := tight_inf_inv ht
    simp only [noMid, Bool.and_eq_true] at hm
    simp only [rightOK, hb, Bool.and_eq_true]
    exact ⟨⟨stops_mono g h2 f hs, ihr hr hm.2⟩, hm.1⟩
  | tern s t m' mt a b c _ _ ihc =>
    intro ht hm
    obtain ⟨_, _, _, bp3, _, _, hq, _, _, h3, _, _, hc⟩ := tight_tern_inv ht
    exact (rightOK_tern hq).2 ⟨stops_mono g h3 f hs, ihc hc hm⟩

def rootIs (s : Sym) : G → Bool
  | G.inf s' _ _ _ => decide (s' = s)
  | _ => false

theorem rootIs_inf (s : Sym) (t : String) (l r : G) : rootIs s (G.inf s t l r) = true :=
  decide_eq_true rfl

theorem tight_graft {g : Grammar} {k lbp rbp : Nat} {s : Sym} {a : G}
    (hb : g.infixBp s = some (lbp, rbp)) (h1 : k ≤ lbp) (h2 : k ≤ rbp) (ta : tight g k a = true)
    (t : String) : ∀ r, tight g k r = true → tight g k (G.graft s t a r) = true :=
  graft_induction (P := fun r y => tight g k r = true → tight g k y = true)
    (fun _ _ hx => tight_inf hb h1 h2 ta hx)
    (fun _ _ _ _ ih h => by
      obtain ⟨_, _, _, _, _, hl, hr⟩ := tight_inf_inv h
      exact tight_inf hb h1 h2 (ih hl) hr)

theorem tight_norm (g : Grammar) (k : Nat) : ∀ t : G, tight g k t = true → tight g k t.norm = true := by
  intro t
  induction t with
  | atom a => exact id
  | br b c _ => exact id
  | pre s t c ih =>
    intro h
    obtain ⟨bp, hb, h1, hc⟩ := tight_pre_inv h
    exact tight_pre hb h1 (ih hc)
  | tern s t m mt a b c iha ihb ihc =>
    intro h
    obtain ⟨lbp, rbp, mid, bp3, mand, hb, hq, h1, h2, h3, ha, hb', hc⟩ := tight_tern_inv h
    exact tight_tern hb hq h1 h2 h3 (iha ha) (ihb hb') (ihc hc)
  | inf s t l r ihl ihr =>
    intro h
    obtain ⟨lbp, rbp, hb, h1, h2, hl, hr⟩ := tight_inf_inv h
    rw [norm_inf]
    split
    · exact tight_graft hb h1 h2 (ihl hl) t _ (ihr hr)
    · exact tight_inf hb h1 h2 (ihl hl) (ihr hr)

theorem noMid_foldl (g : Grammar) (f : Option Sym) (s : Sym) (hq : g.ternBp s = none)
    (xs : List (String × G)) (a : G) (ha : noMid g f a = true)
    (hx : ∀ x ∈ xs, noMid g f x.2 = true) :
    noMid g f (xs.foldl (fun acc x => G.inf s x.1 acc x.2) a) = true := by
  induction xs generalizing a with
  | nil => simpa using ha
  | cons x xs ih =>
    simp only [List.foldl_cons]
    apply ih
    · simp [noMid, hq, hx x (by simp)]
    · intro y hy; exact hx y (by simp [hy])

/-- every exposed *binary infix* node (not inside a bracket) has a symbol satisfying `P`
    (prefix operators and complete ternary forms cannot swallow a following middle symbol) -/
def allExp (P : Sym → Bool) : G → Bool
  | G.atom _ => true
  | G.br _ _ => true
  | G.pre _ _ c => allExp P c
  | G.inf s _ l r => P s && allExp P l && allExp P r
  | G.tern _ _ _ _ a b c => allExp P a && allExp P b && allExp P c

theorem allExp_inf {P : Sym → Bool} {s : Sym} {t : String} {l r : G} :
    allExp P (G.inf s t l r) = true ↔ P s = true ∧ allExp P l = true ∧ allExp P r = true := by
  simp only [allExp, Bool.and_eq_true, and_assoc]

theorem allExp_tern {P : Sym → Bool} {s m : Sym} {t mt : String} {a b c : G} :
    allExp P (G.tern s t m mt a b c) = true ↔
      allExp P a = true ∧ allExp P b = true ∧ allExp P c = true := by
  simp only [allExp, Bool.and_eq_true, and_assoc]

def notMidOf (g : Grammar) (f : Option Sym) (s : Sym) : Bool :=
  match g.ternBp s with
  | none => true
  | some (mid, _, _) => decide (f ≠ some mid)

theorem noMid_of_allExp (g : Grammar) (f : Option Sym) :
    ∀ t : G, allExp (notMidOf g f) t = true → noMid g f t = true := by
  intro t
  induction t with
  | atom a => exact id
  | br b c _ => exact id
  | pre s t c ih => exact ih
  | inf s t l r _ ihr =>
    intro h
    obtain ⟨hs, _, hr⟩ := allExp_inf.1 h
    simp only [noMid, Bool.and_eq_true]
    exact ⟨hs, ihr hr⟩
  | tern s t m mt a b c _ _ ihc => exact fun h => ihc (allExp_tern.1 h).2.2

theorem allExp_graft {P : Sym → Bool} {s : Sym} {a : G} (hs : P s = true) (ha : allExp P a = true)
    (t : String) : ∀ r, allExp P r = true → allExp P (G.graft s t a r) = true :=
  graft_induction (P := fun r y => allExp P r = true → allExp P y = true)
    (fun _ _ hx => allExp_inf.2 ⟨hs, ha, hx⟩)
    (fun _ _ _ _ ih h =>
      have ⟨h1, h2, h3⟩ := allExp_inf.1 h
      allExp_inf.2 ⟨h1, ih h2, h3⟩)

theorem allExp_norm (P : Sym → Bool) : ∀ t : G, allExp P t = true → allExp P t.norm = true := by
  intro t
  induction t with
  | atom a => exact id
  | br b c _ => exact id
  | pre s t c ih => exact ih
  | tern s t m mt a b c iha ihb ihc =>
    intro h
    obtain ⟨ha, hb, hc⟩ := allExp_tern.1 h
    exact allExp_tern.2 ⟨iha ha, ihb hb, ihc hc⟩
  | inf s t l r ihl ihr =>
    intro h
    obtain ⟨hs, hl, hr⟩ := allExp_inf.1 h
    rw [norm_inf]
    split
    · exact allExp_graft hs (ihl hl) t _ (ihr hr)
    · exact allExp_inf.2 ⟨hs, ihl hl, ihr hr⟩

theorem rootIs_norm (s : Sym) (t : G) : rootIs s t.norm = rootIs s t := by
  cases t with
  | inf s' t' l r =>
    rw [norm_inf]
    split
    · exact graft_induction (P := fun _ y => rootIs s y = decide (s' = s)) (fun _ _ => rfl)
        (fun _ _ _ _ _ => rfl) r.norm
    · rfl
  | _ => rfl

/-- the left operand of a separator may itself be a separator chain (`a, b, c`;
    `c THEN r WHEN c2 THEN r2 ELSE e`): only its last operand faces the next separator -/
def sepLeft (g : Grammar) (s : Sym) (lbp : Nat) : G → Bool
  | G.inf s2 _ _ r2 =>
    s.isSep && s2.isSep && !G.assocSym s2 &&
    (match g.infixBp s2 with
     | some (_, rbp2) =>
       decide (lbp < rbp2) && (g.ternBp s2).isNone && tight g (lbp + 1) r2 &&
         allExp (notMidOf g (some s)) r2
     | none => false)
  | _ => false

theorem sepLeft_inf {g : Grammar} {s s2 : Sym} {t2 : String} {l2 r2 : G} {lbp lbp2 rbp2 : Nat}
    (hs : s.isSep = true) (hs2 : s2.isSep = true) (ha2 : G.assocSym s2 = false)
    (hb2 : g.infixBp s2 = some (lbp2, rbp2)) (hlt : lbp < rbp2) (hq2 : g.ternBp s2 = none)
    (tr : tight g (lbp + 1) r2 = true) (nr : allExp (notMidOf g (some s)) r2 = true) :
    sepLeft g s lbp (G.inf s2 t2 l2 r2) = true := by
  simp [sepLeft, hs, hs2, ha2, hb2, hq2, hlt, tr, nr]

theorem sepLeft_inv {g : Grammar} {s : Sym} {lbp : Nat} {l : G} (h : sepLeft g s lbp l = true) :
    ∃ s2 t2 l2 r2 lbp2 rbp2, l = G.inf s2 t2 l2 r2 ∧ s.isSep = true ∧ s2.isSep = true ∧
      G.assocSym s2 = false ∧ g.infixBp s2 = some (lbp2, rbp2) ∧ lbp < rbp2 ∧ g.ternBp s2 = none ∧
      tight g (lbp + 1) r2 = true ∧ allExp (notMidOf g (some s)) r2 = true := by
  cases l with
  | inf s2 t2 l2 r2 =>
    simp only [sepLeft] at h
    split at h
    next lbp2 rbp2 hb2 =>
      simp only [Bool.and_eq_true, Bool.not_eq_true', decide_eq_true_eq, Option.isNone_iff_eq_none,
        and_assoc] at h
      exact ⟨s2, t2, l2, r2, lbp2, rbp2, rfl, h.1, h.2.1, h.2.2.1, hb2, h.2.2.2⟩
    next => simp at h
  | _ => cases h

/-- compositional sufficient condition for `wb g t.norm`: every node checks that its operands
    bind tightly enough for *its own* binding powers; the operands of a chain of one
    associative operator may themselves be chains of that operator (nested either way) -/
def ok (g : Grammar) : G → Bool
  | G.atom _ => true
  | G.br _ c => ok g c
  | G.pre s _ c =>
    match g.prefixBp s with
    | none => false
    | some bp => ok g c && tight g bp c
  | G.inf s _ l r =>
    match g.infixBp s with
    | none => false
    | some (lbp, rbp) =>
      ok g l && ok g r &&
      (if G.assocSym s then
        decide (lbp < rbp) && (g.ternBp s).isNone &&
          (rootIs s l || (tight g rbp l && allExp (notMidOf g (some s)) l)) &&
          (rootIs s r || (tight g rbp r && allExp (notMidOf g (some s)) r))
       else
        (match g.ternBp s with
         | some (_, _, true) => false
         | _ => true) &&
        ((tight g (lbp + 1) l && allExp (notMidOf g (some s)) l) || sepLeft g s lbp l) &&
        tight g rbp r)
  | G.tern s _ m _ a b c =>
    match g.infixBp s, g.ternBp s with
    | some (lbp, rbp), some (mid, bp3, _) =>
      decide (m = mid) && ok g a && ok g b && ok g c &&
        tight g (lbp + 1) a && allExp (notMidOf g (some s)) a &&
        tight g rbp b && allExp (notMidOf g (some m)) b && stops g rbp (some m) &&
        tight g bp3 c
    | _, _ => false

def ChainArg (g : Grammar) (s : Sym) (rbp : Nat) (x : G) : Prop :=
  rootIs s x = true ∨ (tight g rbp x = true ∧ allExp (notMidOf g (some s)) x = true)

theorem ok_pre {g : Grammar} {s : Sym} {t : String} {c : G} {bp : Nat}
    (hb : g.prefixBp s = some bp) (okc : ok g c = true) (tc : tight g bp c = true) :
    ok g (G.pre s t c) = true := by
  simp [ok, hb, okc, tc]

theorem ok_inf_chain {g : Grammar} {s : Sym} {t : String} {l r : G} {lbp rbp : Nat}
    (hb : g.infixBp s = some (lbp, rbp)) (ha : G.assocSym s = true) (hlt : lbp < rbp)
    (hq : g.ternBp s = none) (okl : ok g l = true) (okr : ok g r = true)
    (hl : ChainArg g s rbp l) (hr : ChainArg g s rbp r) : ok g (G.inf s t l r) = true := by
  simp only [ok, hb, ha, if_true, okl, okr, Bool.true_and, Bool.and_eq_true, decide_eq_true_eq,
    Bool.or_eq_true, hq, Option.isNone_none]
  exact ⟨⟨⟨hlt, trivial⟩, hl⟩, hr⟩

/-- the ternary form of `s`, if it has one, must be optional (`x LIKE y` without `ESCAPE`) -/
theorem ok_inf {g : Grammar} {s : Sym} {t : String} {l r : G} {lbp rbp : Nat}
    (hb : g.infixBp s = some (lbp, rbp)) (ha : G.assocSym s = false)
    (hq : g.ternBp s = none ∨ ∃ m b, g.ternBp s = some (m, b, false))
    (okl : ok g l = true) (okr : ok g r = true)
    (hl : (tight g (lbp + 1) l = true ∧ allExp (notMidOf g (some s)) l = true) ∨
      sepLeft g s lbp l = true)
    (tr : tight g rbp r = true) : ok g (G.inf s t l r) = true := by
  rcases hq with hq | ⟨m, b, hq⟩ <;>
    simpa only [ok, hb, ha, Bool.false_eq_true, if_false, okl, okr, Bool.true_and, hq, tr,
      Bool.and_true, Bool.and_eq_true, Bool.or_eq_true] using hl

theorem ok_tern {g : Grammar} {s m : Sym} {t mt : String} {a b c : G} {lbp rbp bp3 : Nat}
    {fl : Bool} (hb : g.infixBp s = some (lbp, rbp)) (hq : g.ternBp s = some (m, bp3, fl))
    (oka : ok g a = true) (okb : ok g b = true) (okc : ok g c = true)
    (ta : tight g (lbp + 1) a = true) (na : allExp (notMidOf g (some s)) a = true)
    (tb : tight g rbp b = true) (nb : allExp (notMidOf g (some m)) b = true)
    (hst : stops g rbp (some m) = true) (tc : tight g bp3 c = true) :
    ok g (G.tern s t m mt a b c) = true := by
  simp [ok, hb, hq, oka, okb, okc, ta, na, tb, nb, hst, tc]

theorem ok_pre_inv {g : Grammar} {s : Sym} {t : String} {c : G} (h : ok g (G.pre s t c) = true) :
    ∃ bp, g.prefixBp s = some bp ∧ ok g c = true ∧ tight g bp c = true := by
  simp only [ok] at h
  split at h
  next => cases h
  next bp hb => exact ⟨bp, hb, Bool.and_eq_true _ _ ▸ h⟩

theorem ok_chain_inv {g : Grammar} {s : Sym} {t : String} {l r : G} {lbp rbp : Nat}
    (hb : g.infixBp s = some (lbp, rbp)) (ha : G.assocSym s = true)
    (h : ok g (G.inf s t l r) = true) :
    ok g l = true ∧ ok g r = true ∧ lbp < rbp ∧ g.ternBp s = none ∧
      ChainArg g s rbp l ∧ ChainArg g s rbp r := by
  simp only [ok, hb, ha, if_true, Bool.and_eq_true, decide_eq_true_eq, Bool.or_eq_true,
    Option.isNone_iff_eq_none] at h
  obtain ⟨⟨hl, hr⟩, ⟨⟨hlt, hq⟩, cl⟩, cr⟩ := h
  exact ⟨hl, hr, hlt, hq, cl, cr⟩

theorem ok_inf_inv {g : Grammar} {s : Sym} {t : String} {l r : G} {lbp rbp : Nat}
    (hb : g.infixBp s = some (lbp, rbp)) (ha : G.assocSym s = false)
    (h : ok g (G.inf s t l r) = true) :
    ok g l = true ∧ ok g r = true ∧
      (g.ternBp s = none ∨ ∃ m b, g.ternBp s = some (m, b, false)) ∧
      ((tight g (lbp + 1) l = true ∧ allExp (notMidOf g (some s)) l = true) ∨
        sepLeft g s lbp l = true) ∧
      tight g rbp r = true := by
  simp only [ok, hb, ha, Bool.false_eq_true, if_false, Bool.and_eq_true, Bool.or_eq_true] at h
  obtain ⟨⟨okl, okr⟩, ⟨hmand, hl⟩, tr⟩ := h
  refine ⟨okl, okr, ?_, hl, tr⟩
  cases hq : g.ternBp s with
  | none => exact .inl rfl
  | some q =>
    obtain ⟨m, b, _ | _⟩ := q
    · exact .inr ⟨m, b, rfl⟩
    · rw [hq] at hmand; cases hmand

theorem ok_tern_inv {g : Grammar} {s m : Sym} {t mt : String} {a b c : G}
    (h : ok g (G.tern s t m mt a b c) = true) :
    ∃ lbp rbp bp3 fl, g.infixBp s = some (lbp, rbp) ∧ g.ternBp s = some (m, bp3, fl) ∧
      ok g a = true ∧ ok g b = true ∧ ok g c = true ∧
      tight g (lbp + 1) a = true ∧ allExp (notMidOf g (some s)) a = true ∧
      tight g rbp b = true ∧ allExp (notMidOf g (some m)) b = true ∧
      stops g rbp (some m) = true ∧ tight g bp3 c = true := by
  simp only [ok] at h
  split at h
  next lbp rbp mid bp3 fl hb hq =>
    simp only [Bool.and_eq_true, decide_eq_true_eq, and_assoc] at h
    obtain ⟨rfl, h⟩ := h
    exact ⟨lbp, rbp, bp3, fl, hb, hq, h⟩
  next => cases h

def Normal : G → Bool
  | G.atom _ => true
  | G.br _ c => Normal c
  | G.pre _ _ c => Normal c
  | G.inf s _ l r => Normal l && Normal r && (!G.assocSym s || !rootIs s r)
  | G.tern _ _ _ _ a b c => Normal a && Normal b && Normal c

theorem normal_inf {s : Sym} {t : String} {l r : G} :
    Normal (G.inf s t l r) = true ↔
      Normal l = true ∧ Normal r = true ∧ (G.assocSym s = true → rootIs s r = false) := by
  cases ha : G.assocSym s <;> simp [Normal, ha, and_assoc]

theorem normal_tern {s m : Sym} {t mt : String} {a b c : G} :
    Normal (G.tern s t m mt a b c) = true ↔ Normal a = true ∧ Normal b = true ∧ Normal c = true := by
  simp only [Normal, Bool.and_eq_true, and_assoc]

theorem rootIs_eq_false_of_lspine {s : Sym} {x : G} (h : G.lspine s x = (x, [])) :
    rootIs s x = false := by
  cases x with
  | inf s' t' l r =>
    by_cases hs : s' = s
    · simp [G.lspine, hs] at h
    · simp [rootIs, hs]
  | _ => rfl

theorem normal_norm : ∀ t : G, Normal t.norm = true := by
  intro t
  induction t with
  | atom a => rfl
  | br k c ih => exact ih
  | pre s t c ih => exact ih
  | tern s t m mt a b c iha ihb ihc => exact normal_tern.2 ⟨iha, ihb, ihc⟩
  | inf s t l r ihl ihr =>
    rw [norm_inf]
    split
    next ha =>
      exact graft_induction (P := fun r y => Normal r = true → Normal y = true)
        (fun x hx nx => normal_inf.2 ⟨ihl, nx, fun _ => rootIs_eq_false_of_lspine hx⟩)
        (fun t' r₁ r₂ y ih h =>
          have ⟨h1, h2, h3⟩ := normal_inf.1 h
          normal_inf.2 ⟨ih h1, h2, h3⟩) r.norm ihr
    next ha => exact normal_inf.2 ⟨ihl, ihr, fun h => absurd h ha⟩

theorem chainArg_norm {g : Grammar} {s : Sym} {rbp : Nat} {x : G} (h : ChainArg g s rbp x) :
    ChainArg g s rbp x.norm :=
  h.imp (by rw [rootIs_norm]; exact id) fun h => ⟨tight_norm g _ x h.1, allExp_norm _ x h.2⟩

theorem ok_graft {g : Grammar} {s : Sym} {lbp rbp : Nat} {a : G}
    (hb : g.infixBp s = some (lbp, rbp)) (ha : G.assocSym s = true) (hlt : lbp < rbp)
    (hq : g.ternBp s = none) (oka : ok g a = true) (ca : ChainArg g s rbp a) (t : String) :
    ∀ r, ok g r = true → ChainArg g s rbp r →
      ok g (G.graft s t a r) = true ∧ rootIs s (G.graft s t a r) = true :=
  graft_induction
    (P := fun r y => ok g r = true → ChainArg g s rbp r → ok g y = true ∧ rootIs s y = true)
    (fun _ _ okx cx => ⟨ok_inf_chain hb ha hlt hq oka okx ca cx, rootIs_inf ..⟩)
    (fun _ _ _ y ih okr _ => by
      obtain ⟨ok1, ok2, _, _, c1, c2⟩ := ok_chain_inv hb ha okr
      exact ⟨ok_inf_chain hb ha hlt hq (ih ok1 c1).1 ok2 (.inl (ih ok1 c1).2) c2, rootIs_inf ..⟩)

theorem sepLeft_norm {g : Grammar} {s : Sym} {lbp : Nat} {l : G} (h : sepLeft g s lbp l = true) :
    sepLeft g s lbp l.norm = true := by
  obtain ⟨s2, t2, l2, r2, lbp2, rbp2, rfl, hs, hs2, ha2, hb2, hlt, hq2, tr, nr⟩ := sepLeft_inv h
  rw [norm_inf, ha2]
  exact sepLeft_inf hs hs2 ha2 hb2 hlt hq2 (tight_norm g _ r2 tr) (allExp_norm _ r2 nr)

theorem ok_norm (g : Grammar) : ∀ t : G, ok g t = true → ok g t.norm = true := by
  intro t
  induction t with
  | atom a => exact id
  | br k c ih => exact ih
  | pre s t c ih =>
    intro h
    obtain ⟨bp, hb, okc, tc⟩ := ok_pre_inv h
    exact ok_pre hb (ih okc) (tight_norm g bp c tc)
  | tern s t m mt a b c iha ihb ihc =>
    intro h
    obtain ⟨lbp, rbp, bp3, fl, hb, hq, oka, okb, okc, ta, na, tb, nb, hst, tc⟩ := ok_tern_inv h
    exact ok_tern hb hq (iha oka) (ihb okb) (ihc okc) (tight_norm g _ a ta) (allExp_norm _ a na)
      (tight_norm g _ b tb) (allExp_norm _ b nb) hst (tight_norm g _ c tc)
  | inf s t l r ihl ihr =>
    intro h
    cases hb : g.infixBp s with
    | none => simp [ok, hb] at h
    | some p =>
      obtain ⟨lbp, rbp⟩ := p
      rw [norm_inf]
      split
      next ha =>
        obtain ⟨okl, okr, hlt, hq, cl, cr⟩ := ok_chain_inv hb ha h
        exact (ok_graft hb ha hlt hq (ihl okl) (chainArg_norm cl) t _ (ihr okr) (chainArg_norm cr)).1
      next ha =>
        have ha' : G.assocSym s = false := by simpa using ha
        obtain ⟨okl, okr, hq, hl, tr⟩ := ok_inf_inv hb ha' h
        exact ok_inf hb ha' hq (ihl okl) (ihr okr)
          (hl.imp (fun h => ⟨tight_norm g _ l h.1, allExp_norm _ l h.2⟩) sepLeft_norm)
          (tight_norm g _ r tr)

theorem rightOK_above {g : Grammar} {s : Sym} {lbp rbp k : Nat} {x : G}
    (hb : g.infixBp s = some (lbp, rbp)) (hlt : lbp < k) (ht : tight g k x = true)
    (hn : allExp (notMidOf g (some s)) x = true) : rightOK g (some s) x = true :=
  rightOK_of_tight g (some s) (stops_of_lt g hb hlt) _ ht (noMid_of_allExp g _ _ hn)

theorem rightOK_chainArg {g : Grammar} {s : Sym} {lbp rbp : Nat}
    (hb : g.infixBp s = some (lbp, rbp)) (ha : G.assocSym s = true) (hlt : lbp < rbp)
    {x : G} (okx : ok g x = true) (nx : Normal x = true) (cx : ChainArg g s rbp x) :
    rightOK g (some s) x = true := by
  rcases cx with hroot | h
  · cases x with
    | inf s' t' l' r' =>
      obtain rfl : s' = s := by simpa [rootIs] using hroot
      obtain ⟨_, _, _, hq, _, cr⟩ := ok_chain_inv hb ha okx
      have hr := cr.resolve_left (by simp [(normal_inf.1 nx).2.2 ha])
      simp [rightOK, hb, hq, stops_of_lt g hb hlt, rightOK_above hb hlt hr.1 hr.2]
    | _ => cases hroot
  · exact rightOK_above hb hlt h.1 h.2

theorem wb_of_ok (g : Grammar) : ∀ t : G, ok g t = true → Normal t = true → wb g t = true := by
  intro t
  induction t with
  | atom a => intro _ _; rfl
  | br k c ih => exact ih
  | pre s t c ih =>
    intro h n
    obtain ⟨bp, hb, okc, tc⟩ := ok_pre_inv h
    simp only [wb, hb, Bool.and_eq_true]
    exact ⟨ih okc n, leftOK_of_tight tc⟩
  | tern s t m mt a b c iha ihb ihc =>
    intro h n
    obtain ⟨n1, n2, n3⟩ := normal_tern.1 n
    obtain ⟨lbp, rbp, bp3, fl, hb, hq, oka, okb, okc, ta, na, tb, nb, hst, tc⟩ := ok_tern_inv h
    simp only [wb, hb, hq, Bool.and_eq_true, decide_eq_true_eq, and_assoc]
    exact ⟨trivial, iha oka n1, ihb okb n2, ihc okc n3, rightOK_above hb (Nat.lt_succ_self _) ta na, leftOK_of_tight tb,
      rightOK_of_tight g (some m) hst _ tb (noMid_of_allExp g _ _ nb), hst, leftOK_of_tight tc⟩
  | inf s t l r ihl ihr =>
    intro h n
    obtain ⟨nl, nr, nroot⟩ := normal_inf.1 n
    cases hb : g.infixBp s with
    | none => simp [ok, hb] at h
    | some p =>
      obtain ⟨lbp, rbp⟩ := p
      by_cases ha : G.assocSym s = true
      · obtain ⟨okl, okr, hlt, hq, cl, cr⟩ := ok_chain_inv hb ha h
        have tr := (cr.resolve_left (by simp [nroot ha])).1
        simp only [wb, hb, hq, Bool.true_and, Bool.and_eq_true]
        exact ⟨⟨⟨ihl okl nl, ihr okr nr⟩, rightOK_chainArg hb ha hlt okl nl cl⟩, leftOK_of_tight tr⟩
      · obtain ⟨okl, okr, hq, hl, tr⟩ := ok_inf_inv hb (by simpa using ha) h
        have hrl : rightOK g (some s) l = true := by
          rcases hl with ⟨tl, nl⟩ | hsep
          · exact rightOK_above hb (Nat.lt_succ_self _) tl nl
          · -- the left operand is a separator chain: only its last operand faces `s`
            obtain ⟨s2, t2, l2, r2, lbp2, rbp2, rfl, _, _, _, hb2, hlt2, hq2, tr2, nr2⟩ := sepLeft_inv hsep
            simp only [rightOK, hb2, hq2, stops_of_lt g hb hlt2, rightOK_above hb (Nat.lt_succ_self _) tr2 nr2, Bool.and_self]
        rcases hq with hq | ⟨_, _, hq⟩ <;> simp only [wb, hb, hq, Bool.true_and, Bool.and_eq_true] <;>
          exact ⟨⟨⟨ihl okl nl, ihr okr nr⟩, hrl⟩, leftOK_of_tight tr⟩

theorem wb_norm_of_ok (g : Grammar) (t : G) (h : ok g t = true) : wb g t.norm = true :=
  wb_of_ok g _ (ok_norm g t h) (normal_norm t)

end SaVerif.Pratt
