import SaVerif.Model.Event
import SaVerif.Lemmas.ListFacts
/-!
The declarative spec of M-EVENT that `dispatch_eq_spec_partial` (C28) compares the dispatch
with, and `update_subclass` (`pull`) against it.

The spec reads the registry of live keys `st.reg` (chronological) and the
class tree: for a class `k` the class-level listeners are the live registrations on `k`
and its ancestors, inserted ones first (newest first), then the appended ones in
registration order (`specDeque`); for an instance its own registrations, same rule
(`specColl`).
-/
namespace SaVerif.Event

/-- a parent is created before its subclasses -/
def WFTree (st : St) : Prop := ∀ (k p : Nat), parentOf st k = some p → p < k

theorem ancestors_fuel (st : St) (hw : WFTree st) :
    ∀ (k f : Nat), k < f → ancestors st f k = ancestors st (k + 1) k := by
  intro k
  induction k using Nat.strongRecOn with
  | _ k ih =>
    intro f hf
    cases f with
    | zero => omega
    | succ f =>
      simp only [ancestors]
      cases hp : parentOf st k with
      | none => rfl
      | some p =>
        have hpk : p < k := hw k p hp
        simp only
        rw [ih p hpk f (Nat.lt_of_lt_of_le hpk (Nat.le_of_lt_succ hf)), ih p hpk k hpk]

theorem ancestorsOf_eq (st : St) (hw : WFTree st) (k : Cls) :
    ancestorsOf st k = match parentOf st k with
      | some p => p :: ancestorsOf st p
      | none => [] := by
  unfold ancestorsOf
  cases hp : parentOf st k with
  | none => simp [ancestors, hp]
  | some p =>
    have h1 : ancestors st (k + 1) k = p :: ancestors st k p := by simp [ancestors, hp]
    rw [h1, ancestors_fuel st hw p k (hw k p hp)]

def Rel (st : St) (c k : Cls) : Prop := k = c ∨ c ∈ ancestorsOf st k

theorem descOrSelf_iff (st : St) (c k : Cls) : descOrSelf st c k = true ↔ Rel st c k := by
  rw [descOrSelf, Rel, Bool.or_eq_true, beq_iff_eq, List.contains_iff_mem]

theorem rel_self (st : St) (c : Cls) : Rel st c c := Or.inl rfl

instance (st : St) (c k : Cls) : Decidable (Rel st c k) := by unfold Rel; exact inferInstance

theorem rel_parent (st : St) (hw : WFTree st) {c k p : Cls} (hp : parentOf st k = some p) :
    Rel st c k ↔ (k = c ∨ Rel st c p) := by
  rw [Rel, Rel, ancestorsOf_eq st hw k, hp, List.mem_cons, eq_comm (a := c)]

theorem rel_root (st : St) (hw : WFTree st) {c k : Cls} (hp : parentOf st k = none) :
    Rel st c k ↔ k = c := by
  unfold Rel
  rw [ancestorsOf_eq st hw k, hp]
  simp

theorem ancestorsOf_lt (st : St) (hw : WFTree st) : ∀ (k a : Nat), a ∈ ancestorsOf st k → a < k := by
  intro k
  induction k using Nat.strongRecOn with
  | _ k ih =>
    intro a ha
    rw [ancestorsOf_eq st hw k] at ha
    cases hp : parentOf st k with
    | none => rw [hp] at ha; simp at ha
    | some p =>
      rw [hp] at ha
      have hpk : p < k := hw k p hp
      simp only [List.mem_cons] at ha
      rcases ha with rfl | ha
      · exact hpk
      · exact Nat.lt_trans (ih p hpk a ha) hpk

theorem rel_le (st : St) (hw : WFTree st) {c k : Cls} (h : Rel st c k) : c ≤ k := by
  rcases h with rfl | h
  · exact Nat.le_refl _
  · exact Nat.le_of_lt (ancestorsOf_lt st hw k c h)

theorem rel_trans (st : St) (hw : WFTree st) : ∀ (k : Nat) {a c : Cls}, Rel st a k → Rel st c a → Rel st c k := by
  intro k
  induction k using Nat.strongRecOn with
  | _ k ih =>
    intro a c hak hca
    cases hp : parentOf st k with
    | none =>
      have := (rel_root st hw hp).1 hak
      subst this; exact hca
    | some p =>
      rcases (rel_parent st hw hp).1 hak with rfl | h
      · exact hca
      · exact (rel_parent st hw hp).2 (Or.inr (ih p (hw k p hp) h hca))

def orderOf (es : List RegEntry) : List Lsn :=
  ((es.filter (fun e => e.ins)).reverse.map (fun e => e.lsn)) ++
    ((es.filter (fun e => !e.ins)).map (fun e => e.lsn))

theorem orderOf_append_single (es : List RegEntry) (e : RegEntry) :
    orderOf (es ++ [e]) = if e.ins then e.lsn :: orderOf es else orderOf es ++ [e.lsn] := by
  unfold orderOf
  cases h : e.ins <;> simp [List.filter_append, h]

theorem orderOf_perm (es : List RegEntry) : (orderOf es).Perm (es.map (fun e => e.lsn)) := by
  unfold orderOf
  have h1 : ((es.filter (fun e => e.ins)).reverse.map (fun e => e.lsn)).Perm
      ((es.filter (fun e => e.ins)).map (fun e => e.lsn)) :=
    (List.reverse_perm _).map _
  have h2 := (List.filter_append_perm (fun e : RegEntry => e.ins) es).map (fun e => e.lsn)
  rw [List.map_append] at h2
  exact (List.Perm.append_right _ h1).trans h2

theorem orderOf_nodup {es : List RegEntry} (h : (es.map (fun e => e.lsn)).Nodup) : (orderOf es).Nodup :=
  (orderOf_perm es).nodup_iff.2 h

theorem mem_orderOf {es : List RegEntry} {l : Lsn} : l ∈ orderOf es ↔ ∃ e ∈ es, e.lsn = l := by
  rw [(orderOf_perm es).mem_iff]
  simp

theorem orderOf_filter (es : List RegEntry) (p : RegEntry → Bool) (a : Lsn)
    (hp : ∀ x ∈ es, p x = (x.lsn != a)) :
    orderOf (es.filter p) = (orderOf es).filter (fun l => l != a) := by
  have key : ∀ (q : RegEntry → Bool), ((es.filter p).filter q).map (fun e => e.lsn) =
      ((es.filter q).map (fun e => e.lsn)).filter (fun l => l != a) := by
    intro q
    rw [List.filter_map]
    congr 1
    rw [List.filter_filter, List.filter_filter]
    apply List.filter_congr
    intro x hx
    rw [hp x hx]
    exact Bool.and_comm _ _
  unfold orderOf
  rw [List.filter_append, ← key (fun e => !e.ins)]
  congr 1
  rw [List.map_reverse, List.map_reverse, key, List.filter_reverse]

def isClsRel (st : St) (k : Cls) (e : RegEntry) : Bool :=
  match e.target with
  | .cls c => descOrSelf st c k
  | .inst _ => false

def relevant (st : St) (k : Cls) : List RegEntry := st.reg.filter (isClsRel st k)

def specDeque (st : St) (k : Cls) : List Lsn := orderOf (relevant st k)

def instEntries (st : St) (i : Nat) : List RegEntry := st.reg.filter (fun e => e.target == Target.inst i)

def specColl (st : St) (i : Nat) : List Lsn := orderOf (instEntries st i)

theorem ancestors_congr {st st' : St} (h : st'.parent = st.parent) :
    ∀ (f : Nat) (k : Cls), ancestors st' f k = ancestors st f k := by
  intro f
  induction f with
  | zero => intro k; rfl
  | succ f ih =>
    intro k
    simp only [ancestors, parentOf, h]
    cases (st.parent.getD k none) with
    | none => rfl
    | some p => simp only; rw [ih]

theorem ancestorsOf_congr {st st' : St} (h : st'.parent = st.parent) (k : Cls) :
    ancestorsOf st' k = ancestorsOf st k := ancestors_congr h (k + 1) k

theorem rel_congr {st st' : St} (h : st'.parent = st.parent) {c k : Cls} : Rel st' c k ↔ Rel st c k := by
  rw [Rel, Rel, ancestorsOf_congr h]

theorem wfTree_congr {st st' : St} (h : st'.parent = st.parent) (hw : WFTree st) : WFTree st' := by
  intro k p hp
  apply hw k p
  unfold parentOf at *
  rw [← h]; exact hp

theorem isClsRel_of_ancestors {st st' : St} {k : Cls} (h : ancestorsOf st' k = ancestorsOf st k) :
    isClsRel st' k = isClsRel st k := by
  funext e
  unfold isClsRel descOrSelf
  rw [h]

theorem isClsRel_congr {st st' : St} (h : st'.parent = st.parent) (k : Cls) :
    isClsRel st' k = isClsRel st k := isClsRel_of_ancestors (ancestorsOf_congr h k)

theorem specDeque_congr {st st' : St} (h : st'.parent = st.parent) (hr : st'.reg = st.reg) (k : Cls) :
    specDeque st' k = specDeque st k := by
  unfold specDeque relevant
  rw [isClsRel_congr h, hr]

theorem isClsRel_iff {st : St} {k : Cls} {e : RegEntry} :
    isClsRel st k e = true ↔ ∃ c, e.target = Target.cls c ∧ Rel st c k := by
  unfold isClsRel
  cases e.target with
  | cls c => exact (descOrSelf_iff st c k).trans ⟨fun h => ⟨c, rfl, h⟩, fun ⟨_, hc, h⟩ => Target.cls.inj hc ▸ h⟩
  | inst i => exact ⟨nofun, fun ⟨_, hc, _⟩ => nomatch hc⟩

theorem mem_relevant {st : St} {k : Cls} {e : RegEntry} :
    e ∈ relevant st k ↔ e ∈ st.reg ∧ ∃ c, e.target = Target.cls c ∧ Rel st c k := by
  rw [relevant, List.mem_filter, isClsRel_iff]

theorem mem_specDeque {st : St} {k : Cls} {l : Lsn} :
    l ∈ specDeque st k ↔ ∃ e ∈ relevant st k, e.lsn = l := mem_orderOf

theorem specDeque_mono (st : St) (hw : WFTree st) {g a : Cls} (h : Rel st g a) :
    ∀ x ∈ specDeque st g, x ∈ specDeque st a := by
  intro x hx
  obtain ⟨e, he, hl⟩ := mem_specDeque.1 hx
  obtain ⟨h1, c, hc, hr⟩ := mem_relevant.1 he
  exact mem_specDeque.2 ⟨e, mem_relevant.2 ⟨h1, c, hc, rel_trans st hw a h hr⟩, hl⟩

def TargetsPresent (st : St) : Prop :=
  ∀ e ∈ st.reg, ∀ c, e.target = Target.cls c → (dequeOf st c).isSome = true

/-- the MRO loop of `update_subclass` -/
def pull (st : St) (acc : List Lsn) (as : List Cls) : List Lsn :=
  as.foldl (fun acc a =>
    match dequeOf st a with
    | some l => acc ++ l.filter (fun x => !acc.contains x)
    | none => acc) acc

theorem updateSubclass_eq (st : St) (k : Cls) :
    updateSubclass st k = setDeque st k (pull st ((dequeOf st k).getD []) (ancestorsOf st k)) := rfl

theorem pull_cons (st : St) (acc : List Lsn) (a : Cls) (as : List Cls) :
    pull st acc (a :: as) = pull st (match dequeOf st a with
      | some l => acc ++ l.filter (fun x => !acc.contains x)
      | none => acc) as := rfl

theorem pull_nil_cons (st : St) (a : Cls) (as : List Cls) :
    pull st [] (a :: as) = pull st ((dequeOf st a).getD []) as := by
  rw [pull_cons]
  cases dequeOf st a with
  | none => rfl
  | some l => exact congrArg (pull st · as) (List.filter_eq_self.2 fun _ _ => rfl)

theorem pull_absorb (st : St) : ∀ (as : List Cls) (acc : List Lsn),
    (∀ a ∈ as, ∀ d, dequeOf st a = some d → ∀ x ∈ d, x ∈ acc) → pull st acc as = acc := by
  intro as
  induction as with
  | nil => intro acc _; rfl
  | cons a t ih =>
    intro acc h
    rw [pull_cons]
    cases hd : dequeOf st a with
    | none => exact ih acc fun a' ha' => h a' (List.mem_cons_of_mem _ ha')
    | some l =>
      have : l.filter (fun x => !acc.contains x) = [] :=
        List.filter_eq_nil_iff.2 fun x hx => by simp [h a List.mem_cons_self l hd x hx]
      simp only [this, List.append_nil]
      exact ih acc fun a' ha' => h a' (List.mem_cons_of_mem _ ha')

/-- `update_subclass` on a class without a deque computes its parent's list, for any assignment `T`
    of lists to classes that the three hypotheses allow.  `st` gives the tree, `dq` the deques: in
    `insLoop_spec` the loop state, whose deques are ahead of its registry. -/
theorem pull_ancestors (st dq : St) (hw : WFTree st) (T : Cls → List Lsn)
    (hM : ∀ g a, Rel st g a → ∀ x ∈ T g, x ∈ T a) :
    ∀ (k : Nat), (∀ a ∈ ancestorsOf st k, ∀ d, dequeOf dq a = some d → d = T a) →
      (∀ a ∈ ancestorsOf st k, dequeOf dq a = none → T a = match parentOf st a with
        | some p => T p
        | none => []) →
      pull dq [] (ancestorsOf st k) = match parentOf st k with
        | some p => T p
        | none => [] := by
  intro k
  induction k using Nat.strongRecOn with
  | _ k ih =>
    rw [ancestorsOf_eq st hw k]
    cases hp : parentOf st k with
    | none => exact fun _ _ => rfl
    | some p =>
      dsimp only
      intro hT hN
      have hsub : ∀ a ∈ ancestorsOf st p, a ∈ p :: ancestorsOf st p := fun a => List.mem_cons_of_mem p
      rw [pull_nil_cons]
      cases hd : dequeOf dq p with
      | none =>
        rw [Option.getD_none, hN p List.mem_cons_self hd]
        exact ih p (hw k p hp) (fun a ha => hT a (hsub a ha)) (fun a ha => hN a (hsub a ha))
      | some d =>
        rw [Option.getD_some, hT p List.mem_cons_self d hd]
        exact pull_absorb dq _ _ fun g hg dg hdg x hx =>
          hM g p (Or.inr hg) x (hT g (hsub g hg) dg hdg ▸ hx)

theorem dequeOf_setDeque (st : St) (k j : Cls) (d : List Lsn) :
    dequeOf (setDeque st k d) j =
      if k = j ∧ k < st.clslevel.length then some d else dequeOf st j :=
  ListFacts.getD_set st.clslevel k j (some d) none

theorem setDeque_setDeque (st : St) (k : Cls) (a b : List Lsn) :
    setDeque (setDeque st k a) k b = setDeque st k b := by
  simp only [setDeque, List.set_set]

theorem dequeOf_some_lt {st : St} {k : Cls} {d : List Lsn} (h : dequeOf st k = some d) :
    k < st.clslevel.length :=
  Nat.lt_of_not_le fun h1 => nomatch (ListFacts.getD_of_length_le h1 none).symm.trans h

def NoTarget (st : St) (k : Cls) : Prop := ∀ e ∈ st.reg, e.target ≠ Target.cls k

def addReg (st : St) (e : RegEntry) : St := { st with reg := st.reg ++ [e] }

theorem noTarget_of_absent {st : St} (ht : TargetsPresent st) {k : Cls} (hk : dequeOf st k = none) :
    NoTarget st k := by
  intro e he hc
  have := ht e he k hc
  rw [hk] at this; cases this

theorem specDeque_noTarget (st : St) (hw : WFTree st) {k : Nat} (hk : NoTarget st k) :
    specDeque st k = match parentOf st k with
      | some p => specDeque st p
      | none => [] := by
  unfold specDeque relevant
  cases hp : parentOf st k with
  | none =>
    refine congrArg orderOf (List.filter_eq_nil_iff.2 fun e he hrel => ?_)
    obtain ⟨c, hc, hr⟩ := isClsRel_iff.1 hrel
    exact hk e he ((rel_root st hw hp).1 hr ▸ hc)
  | some p =>
    refine congrArg orderOf (List.filter_congr fun e he => ?_)
    rw [Bool.eq_iff_iff, isClsRel_iff, isClsRel_iff]
    refine exists_congr fun c => and_congr_right fun hc => ?_
    rw [rel_parent st hw hp]
    exact or_iff_right fun h => hk e he (h ▸ hc)

theorem noTarget_addReg {st : St} {k : Cls} (hk : NoTarget st k) {e : RegEntry}
    (he : e.target ≠ Target.cls k) : NoTarget (addReg st e) k := by
  intro x hx
  rcases List.mem_append.1 hx with hx | hx
  · exact hk x hx
  · exact List.mem_singleton.1 hx ▸ he

theorem specDeque_addReg (st : St) (e : RegEntry) (c : Cls) (hc : e.target = Target.cls c) (k : Cls) :
    specDeque (addReg st e) k =
      if Rel st c k then (if e.ins then e.lsn :: specDeque st k else specDeque st k ++ [e.lsn])
      else specDeque st k := by
  unfold specDeque relevant
  rw [isClsRel_congr (st := st) (st' := addReg st e) rfl]
  show orderOf ((st.reg ++ [e]).filter _) = _
  rw [List.filter_append]
  by_cases hr : Rel st c k
  · rw [if_pos hr, List.filter_cons_of_pos (isClsRel_iff.2 ⟨c, hc, hr⟩)]
    exact orderOf_append_single _ e
  · rw [if_neg hr, List.filter_cons_of_neg fun h => ?_, List.filter_nil, List.append_nil]
    obtain ⟨c', hc', hr'⟩ := isClsRel_iff.1 h
    exact hr (Target.cls.inj (hc.symm.trans hc') ▸ hr')

end SaVerif.Event
