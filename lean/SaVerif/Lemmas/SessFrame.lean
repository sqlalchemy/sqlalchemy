import SaVerif.Lemmas.Sess
import SaVerif.Lemmas.ListFacts
/-!
Frame relations for M-ORM/Sess.  What the lemma files say about the bookkeeping functions of
the session (`_new` is left alone, the rows are left alone, identity keys stay distinct, key
and session link of an instance are kept, the transaction stack stays non-empty) are relations
`Q σ τ` between the state before and the state after that are reflexive and transitive, do not
look at the log, the statement counter, `_deleted` or `nondet`, and tolerate writes to some
instances: `Frame free Q`.  A transcribed function that keeps every frame is unfolded once, for every such
`Q`; an `if` needs no path condition and is handled by showing both branches (`ite_rel`).  What `saveImpl`,
`updateImpl`, `delete`, `expungeAll`, `flushCore`, … do is not kept by every frame: those facts are the fields of
`OpFrame`, which each relation proves for itself.
Filtering `_new`, writing `db` and writing `txns` are not in `Frame`, since each is false of some
instance (`frame_new`, `frame_rows`, `frame_TK`): a lemma about a function that does one of them
takes it as a premise (`hnew`, `hdb`, `htx`), and `hall : ∀ o, free o` where the function writes
to instances it does not name.
-/
namespace SaVerif.Sess

/-- key and session link, the two flags "pending" is made of -/
def flagsEq (a b : Obj) : Prop := a.key = b.key ∧ a.att = b.att

theorem flagsEq.refl (a : Obj) : flagsEq a a := ⟨rfl, rfl⟩
theorem flagsEq.trans {a b c : Obj} (h1 : flagsEq a b) (h2 : flagsEq b c) : flagsEq a c :=
  ⟨h1.1.trans h2.1, h1.2.trans h2.2⟩

def KeepsFlags (f : Obj → Obj) : Prop := ∀ ob, flagsEq (f ob) ob

/-- "transaction kept".  Gives `txns ≠ []` after a failed `flushExecute`, so that
    `_restore_snapshot` has a snapshot to restore and empties `_new` -/
def TK (σ τ : Sess) : Prop := σ.txns ≠ [] → τ.txns ≠ []

structure Frame (free : Oid → Prop) (Q : Sess → Sess → Prop) : Prop where
  refl : ∀ σ, Q σ σ
  trans : ∀ {σ τ ρ}, Q σ τ → Q τ ρ → Q σ ρ
  ext : ∀ {σ τ : Sess}, τ.objs = σ.objs → τ.new = σ.new → τ.imap = σ.imap → τ.db = σ.db →
    τ.committed = σ.committed → TK σ τ → Q σ τ
  setO : ∀ σ o f, free o ∨ KeepsFlags f → Q σ (setO σ o f)
  imap : ∀ σ l, ((σ.imap.map Prod.fst).Nodup → (l.map Prod.fst).Nodup) → Q σ { σ with imap := l }

/-- so that the preservation of an invariant can be a `Frame` (`frame_NP`) -/
def Keeps (I : Sess → Prop) (σ τ : Sess) : Prop := I σ → I τ

variable {free : Oid → Prop} {Q : Sess → Sess → Prop}

theorem ite_rel {c : Prop} [Decidable c] {σ a b : Sess} (ha : Q σ a) (hb : Q σ b) :
    Q σ (if c then a else b) := by
  split <;> assumption

theorem ite_fst_rel {c : Prop} [Decidable c] {β : Type} {σ : Sess} {a b : Sess × β}
    (ha : Q σ a.1) (hb : Q σ b.1) : Q σ (if c then a else b).1 := by
  split <;> assumption

theorem ite_fst_fst_rel {c : Prop} [Decidable c] {β γ : Type} {σ : Sess} {a b : (Sess × γ) × β}
    (ha : Q σ a.1.1) (hb : Q σ b.1.1) : Q σ (if c then a else b).1.1 := by
  split <;> assumption

theorem lookup_none_not_mem {l : List (Nat × Oid)} {k : Nat} (h : l.lookup k = none) :
    k ∉ l.map Prod.fst := by
  intro hm
  obtain ⟨p, hp, rfl⟩ := List.mem_map.1 hm
  simpa using List.lookup_eq_none_iff.1 h p hp

theorem nodup_filter_keys {l : List (Nat × Oid)} (p : Nat × Oid → Bool) (h : (l.map Prod.fst).Nodup) :
    ((l.filter p).map Prod.fst).Nodup :=
  (List.filter_sublist.map Prod.fst).nodup h

/-- `_detach_states` always logs an event: its last `else` is not reachable -/
theorem detachOne_eq (t : Bool) (σ : Sess) (o : Oid) : detachOne t σ o =
    Sess.emit (Sess.setO σ o fun ob => { ob with att := false, key := if t then none else ob.key })
      (if !(getO σ o).key.isNone && !(getO σ o).del then (if t then .s2t else .s2x)
       else if (getO σ o).del then .d2x else .p2t) o := by
  unfold detachOne
  simp only
  cases (getO σ o).del <;> cases (getO σ o).key.isNone <;> cases t <;> rfl

theorem beforeAttach_eq (σ : Sess) (o : Oid) : beforeAttach σ o = (autobegin σ, !(getO σ o).att) := by
  unfold beforeAttach
  simp only [getO_autobegin]
  cases (getO σ o).att <;> rfl

theorem afterAttach_eq (σ : Sess) (o : Oid) : afterAttach σ o =
    Sess.emit (Sess.setO σ o fun ob => { ob with att := true })
      (if (getO (Sess.setO σ o fun ob => { ob with att := true }) o).key.isSome then .x2s else .t2p) o := by
  unfold afterAttach
  simp only
  split <;> rfl

theorem imSafeDiscard_objs_log (ρ : Sess) (o : Oid) :
    (imSafeDiscard ρ o).objs = ρ.objs ∧ (imSafeDiscard ρ o).log = ρ.log := by
  unfold imSafeDiscard
  split
  · exact ⟨rfl, rfl⟩
  · split <;> exact ⟨rfl, rfl⟩

/-- the transaction's bookkeeping and the identity map touch neither the instances nor the log -/
theorem removeNewlyDeletedOne_eq (σ : Sess) (o : Oid) : ∃ τ : Sess, τ.objs = σ.objs ∧ τ.log = σ.log ∧
    removeNewlyDeletedOne σ o = Sess.emit (Sess.setO τ o fun ob => { ob with del := true }) .s2d o := by
  have h1 : ∀ f, (updTxn σ f).objs = σ.objs ∧ (updTxn σ f).log = σ.log := fun f => by
    unfold updTxn; split <;> exact ⟨rfl, rfl⟩
  refine ⟨_, ?_, ?_, rfl⟩
  · exact (imSafeDiscard_objs_log _ o).1.trans (h1 _).1
  · exact (imSafeDiscard_objs_log _ o).2.trans (h1 _).2

theorem requireActive_fst (σ : Sess) : (requireActive σ).1 = autobegin σ := by
  unfold requireActive
  simp only
  split
  · rfl
  · split <;> rfl

theorem requireActive_txns (σ : Sess) : (requireActive σ).1.txns ≠ [] := by
  rw [requireActive_fst]
  unfold autobegin
  split
  · exact List.cons_ne_nil _ _
  · rename_i h; simpa using h

section
variable (hQ : Frame free Q)
include hQ

theorem Frame.keep (σ : Sess) (o : Oid) {f : Obj → Obj} (hf : KeepsFlags f) :
    Q σ (Sess.setO σ o f) := hQ.setO σ o f (Or.inr hf)

theorem Frame.emit (σ : Sess) (e : Ev) (o : Oid) : Q σ (Sess.emit σ e o) :=
  hQ.ext rfl rfl rfl rfl rfl id

theorem Frame.deleted (σ : Sess) (l : List Oid) : Q σ { σ with deleted := l } :=
  hQ.ext rfl rfl rfl rfl rfl id

theorem Frame.sql (σ : Sess) (n : Nat) : Q σ { σ with sql := n } :=
  hQ.ext rfl rfl rfl rfl rfl id

theorem Frame.markNondetIf (c : Bool) (σ : Sess) : Q σ (Sess.markNondetIf c σ) :=
  ite_rel (hQ.ext rfl rfl rfl rfl rfl id) (hQ.refl σ)

theorem Frame.failNondet (c : Bool) (r : R) : Q r.1 (Sess.failNondet c r).1 := by
  unfold Sess.failNondet
  split
  · exact hQ.markNondetIf c _
  · exact hQ.refl _

theorem Frame.updTxn (σ : Sess) (f : Txn → Txn) : Q σ (Sess.updTxn σ f) := by
  unfold Sess.updTxn
  split
  · exact hQ.refl σ
  · exact hQ.ext rfl rfl rfl rfl rfl (fun _ => List.cons_ne_nil _ _)

theorem Frame.popTxnDeleted (σ : Sess) (o : Oid) : Q σ (Sess.popTxnDeleted σ o) :=
  hQ.updTxn σ fun t => { t with tdel := t.tdel.erase o }

theorem Frame.autobegin (σ : Sess) : Q σ (Sess.autobegin σ) :=
  ite_rel (hQ.ext rfl rfl rfl rfl rfl fun _ => List.cons_ne_nil _ _) (hQ.refl σ)

theorem Frame.bind_of_ok {σ : Sess} {r : R} {f : Sess → R} (h : Q σ r.1)
    (hf : r.2 = none → Q r.1 (f r.1).1) : Q σ (r.bind f).1 := by
  unfold R.bind
  split
  · exact h
  · rename_i he; exact hQ.trans h (hf he)

theorem Frame.bind {σ : Sess} {r : R} {f : Sess → R} (h : Q σ r.1)
    (hf : ∀ τ, Q τ (f τ).1) : Q σ (r.bind f).1 :=
  hQ.bind_of_ok h fun _ => hf _

theorem Frame.foldl {α : Type} (g : Sess → α → Sess) (l : List α)
    (hg : ∀ σ, ∀ a ∈ l, Q σ (g σ a)) (σ : Sess) : Q σ (l.foldl g σ) := by
  induction l generalizing σ with
  | nil => exact hQ.refl σ
  | cons a t ih =>
    exact hQ.trans (hg σ a List.mem_cons_self) (ih (fun σ b hb => hg σ b (List.mem_cons_of_mem _ hb)) _)

theorem Frame.imSafeDiscard (σ : Sess) (o : Oid) : Q σ (Sess.imSafeDiscard σ o) := by
  unfold Sess.imSafeDiscard
  split
  · exact hQ.refl σ
  · split
    · exact hQ.imap σ _ (nodup_filter_keys _)
    · exact hQ.refl σ

theorem Frame.imReplace (σ : Sess) (o : Oid) : Q σ (Sess.imReplace σ o) := by
  unfold Sess.imReplace
  split
  · exact hQ.refl σ
  · rename_i k _
    split
    · exact hQ.refl σ
    · refine hQ.imap σ _ (fun h => ListFacts.nodup_map_snoc _ (nodup_filter_keys _ h) ?_)
      simp [List.mem_filter]

theorem Frame.imAdd (σ : Sess) (o : Oid) : Q σ (Sess.imAdd σ o).1 := by
  unfold Sess.imAdd
  split
  · exact hQ.refl σ
  · split
    · split <;> exact hQ.refl σ
    · rename_i hl
      exact hQ.imap σ _ (ListFacts.nodup_map_snoc _ · (lookup_none_not_mem hl))

theorem Frame.detachOne (t : Bool) (σ : Sess) {o : Oid} (ho : free o) :
    Q σ (Sess.detachOne t σ o) := by
  rw [detachOne_eq]
  exact hQ.trans (hQ.setO σ o _ (Or.inl ho)) (hQ.emit _ _ o)

theorem Frame.detachStates (σ : Sess) {os : List Oid} (t : Bool) (ho : ∀ o ∈ os, free o) :
    Q σ (Sess.detachStates σ os t) :=
  hQ.foldl _ os (fun σ o h => hQ.detachOne t σ (ho o h)) σ

theorem Frame.afterAttach (σ : Sess) {o : Oid} (ho : free o) : Q σ (Sess.afterAttach σ o) := by
  rw [afterAttach_eq]
  exact hQ.trans (hQ.setO σ o _ (Or.inl ho)) (hQ.emit _ _ o)

theorem Frame.updateImpl (σ : Sess) {o : Oid} (r : Bool) (ho : free o) :
    Q σ (Sess.updateImpl σ o r).1 := by
  unfold Sess.updateImpl
  simp only [beforeAttach_eq]
  refine ite_fst_rel (hQ.refl σ) (ite_fst_rel (hQ.refl σ) (ite_fst_rel (hQ.refl σ) ?_))
  have h : Q σ (Sess.autobegin
      (if (getO σ o).del then Sess.setO σ o fun ob => { ob with del := false } else σ)) :=
    hQ.trans (ite_rel (hQ.setO σ o _ (Or.inl ho)) (hQ.refl σ)) (hQ.autobegin _)
  refine hQ.bind (ite_fst_rel ?_ ?_) fun τ =>
    ite_fst_rel (hQ.afterAttach τ ho)
      (ite_fst_rel (hQ.emit τ _ o) (hQ.refl τ))
  · exact hQ.trans (hQ.trans h (hQ.deleted _ _)) (hQ.imReplace _ o)
  · exact hQ.trans (hQ.trans h (hQ.deleted _ _)) (hQ.imAdd _ o)

theorem Frame.revertDeletions : ∀ (os : List Oid) (σ : Sess), (∀ o ∈ os, free o) →
    Q σ (Sess.revertDeletions σ os).1
  | [], σ, _ => hQ.refl σ
  | o :: os, σ, h => by
    unfold Sess.revertDeletions
    exact hQ.bind (hQ.updateImpl σ true (h o List.mem_cons_self))
      fun τ => Frame.revertDeletions os τ fun x hx => h x (List.mem_cons_of_mem _ hx)

theorem Frame.restoreKeySwitch (te : List Oid) (σ : Sess) {e : Oid × Nat × Nat}
    (he : free e.1) : Q σ (Sess.restoreKeySwitch te σ e) :=
  hQ.trans
    (hQ.trans (hQ.imSafeDiscard σ e.1) (hQ.setO _ e.1 _ (Or.inl he)))
    (ite_rel (hQ.refl _) (hQ.imReplace _ e.1))

theorem Frame.expungeOne (hnew : ∀ σ p, Q σ { σ with new := σ.new.filter p }) (σ : Sess) (o : Oid) :
    Q σ (Sess.expungeOne σ o) :=
  ite_rel (hnew σ _)
    (ite_rel (hQ.trans (hQ.imSafeDiscard σ o) (hQ.deleted _ _))
      (hQ.popTxnDeleted σ o))

theorem Frame.expungeStates (hnew : ∀ σ p, Q σ { σ with new := σ.new.filter p }) (σ : Sess)
    {os : List Oid} (t : Bool) (ho : ∀ o ∈ os, free o) : Q σ (Sess.expungeStates σ os t) :=
  hQ.trans (hQ.foldl _ os (fun σ o _ => hQ.expungeOne hnew σ o) σ) (hQ.detachStates _ t ho)

theorem Frame.restoreSnapshot_tail (hall : ∀ o, free o) {σ : Sess} {t : Txn} {ts : List Txn}
    (h : σ.txns = t :: ts) (d : Bool) :
    Q (Sess.expungeStates σ (t.tnew ++ σ.new).eraseDups true) (Sess.restoreSnapshot σ d).1 := by
  unfold Sess.restoreSnapshot
  rw [h]
  refine hQ.bind ?_ fun τ =>
    hQ.foldl _ _ (fun ρ o _ => ite_rel (hQ.setO ρ o _ (Or.inl (hall o))) (hQ.refl ρ)) τ
  refine hQ.trans ?_ (hQ.failNondet _ _)
  refine hQ.trans ?_ (hQ.revertDeletions _ _ fun o _ => hall o)
  refine hQ.trans ?_ (hQ.markNondetIf _ _)
  exact hQ.foldl _ _ (fun ρ e _ => hQ.restoreKeySwitch _ ρ (hall e.1)) _

theorem Frame.restoreSnapshot (hall : ∀ o, free o) (hnew : ∀ σ p, Q σ { σ with new := σ.new.filter p })
    (σ : Sess) (d : Bool) : Q σ (Sess.restoreSnapshot σ d).1 := by
  cases h : σ.txns with
  | nil => unfold Sess.restoreSnapshot; rw [h]; exact hQ.refl σ
  | cons t ts =>
    exact hQ.trans (hQ.expungeStates hnew σ true fun o _ => hall o)
      (hQ.restoreSnapshot_tail hall h d)

theorem Frame.flushFailed_tail (hr : ∀ τ d, Q τ (Sess.restoreSnapshot τ d).1) {σ : Sess}
    {t : Txn} {ts : List Txn} (h : σ.txns = t :: ts) :
    Q (Sess.restoreSnapshot { σ with db := if t.nested then t.snap else σ.committed,
                                      txns := { t with active := false } :: ts } t.nested).1
      (Sess.flushFailed σ) := by
  unfold Sess.flushFailed
  rw [h]
  simp only
  generalize Sess.restoreSnapshot _ t.nested = r
  obtain ⟨τ, e⟩ := r
  cases e with
  | some e => exact hQ.markNondetIf true τ
  | none =>
    simp only
    have h2 : Q τ (if isClean τ then ok τ else Sess.restoreSnapshot τ t.nested).1 :=
      ite_fst_rel (hQ.refl τ) (hr τ _)
    generalize (if isClean τ then ok τ else Sess.restoreSnapshot τ t.nested) = r2 at h2
    obtain ⟨τ2, e2⟩ := r2
    cases e2 with
    | some e => exact hQ.trans h2 (hQ.markNondetIf true τ2)
    | none => exact hQ.trans h2 (hQ.updTxn τ2 _)

theorem Frame.removeNewlyDeletedOne (σ : Sess) (o : Oid) :
    Q σ (Sess.removeNewlyDeletedOne σ o) := by
  unfold Sess.removeNewlyDeletedOne
  refine hQ.trans ?_ (hQ.emit _ _ o)
  refine hQ.trans ?_ (hQ.keep _ o fun _ => ⟨rfl, rfl⟩)
  refine hQ.trans ?_ (hQ.deleted _ _)
  exact hQ.trans (hQ.updTxn σ _) (hQ.imSafeDiscard _ o)

theorem Frame.removeNewlyDeleted (σ : Sess) (os : List Oid) : Q σ (Sess.removeNewlyDeleted σ os) :=
  hQ.foldl _ os (fun σ o _ => hQ.removeNewlyDeletedOne σ o) σ

theorem Frame.loaded (σ : Sess) (o : Oid) (k : Nat) : Q σ (Sess.setO σ o fun ob => loadedObj ob k) :=
  hQ.keep σ o fun _ => ⟨rfl, rfl⟩

theorem Frame.wasAlreadyDeleted (σ : Sess) (ex : Oid) : Q σ (Sess.wasAlreadyDeleted σ ex).1 := by
  unfold Sess.wasAlreadyDeleted
  simp only
  refine ite_fst_rel ?_ (hQ.refl σ)
  cases (getO σ ex).key with
  | none => exact hQ.sql σ _
  | some k =>
    exact ite_fst_rel
      (hQ.trans (hQ.sql σ _) (hQ.loaded _ ex k))
      (hQ.trans (hQ.sql σ _) (hQ.removeNewlyDeleted _ _))

theorem Frame.organizeOne {st st' : OrgState} {o : Oid} (he : Sess.organizeOne st o = .ok st') :
    Q st.σ st'.σ := by
  unfold Sess.organizeOne at he
  extract_lets ob hasId at he
  clear_value hasId
  cases hasId with
  | true => cases he; exact hQ.refl _
  | false =>
    generalize identOfKeyless ob = r at he
    cases r with
    | error e => cases he
    | ok k =>
      dsimp only at he
      generalize imLookup st.σ k = r2 at he
      cases r2 with
      | none => cases he; exact hQ.refl _
      | some ex =>
        dsimp only at he
        have hw := hQ.wasAlreadyDeleted st.σ ex
        generalize Sess.wasAlreadyDeleted st.σ ex = r3 at he hw
        obtain ⟨τ, gone⟩ := r3
        dsimp only at he
        cases gone with
        | true => cases he; exact hw
        | false =>
          generalize st.isdel.contains ex = b at he
          cases b <;> cases he <;> exact hw

theorem Frame.organize : ∀ (os : List Oid) (st : OrgState), Q st.σ (Sess.organize st os).1.σ
  | [], st => hQ.refl _
  | o :: os, st => by
    unfold Sess.organize
    split
    · exact hQ.refl _
    · rename_i st' he
      exact hQ.trans (hQ.organizeOne he) (Frame.organize os st')

theorem Frame.flushDml (hdb : ∀ σ d, Q σ { σ with db := d }) (σ : Sess) (u i : List Oid) :
    Q σ (Sess.flushDml σ u i).1 := by
  unfold Sess.flushDml
  extract_lets cmds
  split
  · exact hQ.refl σ
  · extract_lets us τ
    have h1 : Q σ τ := ite_rel (hQ.refl σ) (hQ.sql σ _)
    clear_value τ
    split
    · exact h1
    · refine ite_fst_rel (hQ.trans h1 (hdb τ _)) ?_
      extract_lets τ2 ks τ3
      have h2 : Q σ τ3 := hQ.trans (hQ.trans h1 (hdb τ _)) (ite_rel (hQ.refl _) (hQ.sql _ _))
      clear_value τ3
      split
      · exact h2
      · exact hQ.trans h2 (hdb τ3 _)

theorem Frame.deleteParam (σ : Sess) (o : Oid) : Q σ (Sess.deleteParam σ o).1 := by
  unfold Sess.deleteParam
  extract_lets ob
  split
  · exact hQ.refl σ
  · exact hQ.refl σ
  · exact hQ.refl σ
  · split
    · exact hQ.refl σ
    · refine ite_fst_rel ?_ (hQ.refl σ)
      split
      · exact hQ.sql σ _
      · exact ite_fst_rel (hQ.trans (hQ.sql σ _) (hQ.loaded _ o _)) (hQ.sql σ _)

theorem Frame.deleteParams : ∀ (os : List Oid) (σ : Sess) (acc : List Nat),
    Q σ (Sess.deleteParams σ os acc).1
  | [], σ, acc => hQ.refl σ
  | o :: os, σ, acc => by
    unfold Sess.deleteParams
    have := hQ.deleteParam σ o
    split
    · rename_i heq; rw [heq] at this; exact this
    · rename_i heq; rw [heq] at this; exact hQ.trans this (Frame.deleteParams os _ _)

theorem Frame.flushDeletes (hdb : ∀ σ d, Q σ { σ with db := d }) (σ : Sess) (ds : List Oid) :
    Q σ (Sess.flushDeletes σ ds).1 := by
  unfold Sess.flushDeletes
  have := hQ.deleteParams ds σ []
  split
  · rename_i heq; rw [heq] at this; exact this
  · rename_i τ _ heq; rw [heq] at this
    simp only [ok]
    exact hQ.trans this (ite_rel (hQ.refl _) (hQ.trans (hQ.sql τ (τ.sql + 1)) (hdb _ _)))

theorem Frame.registerKeyOne (σ : Sess) {o : Oid} (ho : free o) :
    Q σ (Sess.registerKeyOne σ o).1 := by
  unfold Sess.registerKeyOne
  extract_lets ob
  split
  · exact hQ.refl σ
  · extract_lets τ old ρ
    -- `ρ`: key assigned or switched (`τ`), then `identity_map.replace`
    have h : Q σ ρ := by
      refine hQ.trans ?_ (hQ.imReplace τ o)
      unfold τ
      split
      · exact hQ.setO σ o _ (Or.inl ho)
      · exact ite_rel (hQ.refl σ)
          (hQ.trans (hQ.trans (hQ.imSafeDiscard σ o) (hQ.updTxn _ _)) (hQ.setO _ o _ (Or.inl ho)))
    clear_value ρ old
    split
    · exact h
    · -- an evicted state that is expired: detached it raises; else one SELECT, which loads it or raises
      refine ite_fst_rel (ite_fst_rel h ?_) h
      have hs := hQ.trans h (hQ.sql ρ (ρ.sql + 1))
      exact ite_fst_rel (hQ.trans hs (hQ.loaded _ _ _)) hs

theorem Frame.registerKeys : ∀ (os : List Oid) (σ : Sess), (∀ o ∈ os, free o) →
    Q σ (Sess.registerKeys σ os).1
  | [], σ, _ => hQ.refl σ
  | o :: os, σ, h => by
    unfold Sess.registerKeys
    exact hQ.bind (hQ.registerKeyOne σ (h o List.mem_cons_self))
      fun τ => Frame.registerKeys os τ fun x hx => h x (List.mem_cons_of_mem _ hx)

theorem Frame.registerAlteredOne (σ : Sess) (o : Oid) : Q σ (Sess.registerAlteredOne σ o) :=
  ite_rel (hQ.updTxn σ _) (hQ.updTxn σ _)

theorem Frame.registerFinish (hnew : ∀ σ p, Q σ { σ with new := σ.new.filter p }) (σ : Sess)
    (os : List Oid) : Q σ (Sess.registerFinish σ os) := by
  unfold Sess.registerFinish
  refine hQ.trans ?_ (hnew _ _)
  refine hQ.trans ?_ (hQ.foldl _ _ (fun ρ o _ => hQ.emit ρ _ o) _)
  refine hQ.trans ?_ (hQ.foldl _ os (fun ρ o _ => hQ.registerAlteredOne ρ o) _)
  exact hQ.foldl _ os (fun ρ o _ => hQ.keep ρ o (f := commitAllObj) fun _ => ⟨rfl, rfl⟩) σ

theorem Frame.registerPersistent (hnew : ∀ σ p, Q σ { σ with new := σ.new.filter p }) (σ : Sess)
    {os : List Oid} (ho : ∀ o ∈ os, free o) : Q σ (Sess.registerPersistent σ os).1 :=
  hQ.bind (hQ.trans (hQ.trans (hQ.markNondetIf _ σ) (hQ.registerKeys os _ ho)) (hQ.failNondet _ _))
    fun τ => hQ.registerFinish hnew τ os

theorem Frame.flushExecute (hdb : ∀ σ d, Q σ { σ with db := d })
    (hnew : ∀ σ p, Q σ { σ with new := σ.new.filter p }) (σ : Sess) {proc : List Oid} (dels : List Oid)
    (ho : ∀ o ∈ proc, free o) : Q σ (Sess.flushExecute σ proc dels).1 := by
  unfold Sess.flushExecute
  simp only
  have h := hQ.organize (sortBy (fun o => (getO σ o).ins) (proc.filter fun o => (getO σ o).key.isNone) ++
      sortBy (fun o => (getO σ o).key.getD 0) (proc.filter fun o => (getO σ o).key.isSome))
    { σ := σ, isdel := dels, listonly := [], upd := [], ins := [] }
  split
  · rename_i heq; rw [heq] at h; exact h
  · rename_i heq; rw [heq] at h
    refine hQ.bind (hQ.trans (hQ.trans h (hQ.markNondetIf _ _)) (hQ.flushDml hdb _ _ _)) fun τ => ?_
    exact hQ.bind (hQ.flushDeletes hdb τ _)
      fun ρ => hQ.trans (hQ.removeNewlyDeleted ρ dels) (hQ.registerPersistent hnew _ ho)

theorem Frame.requireActive (σ : Sess) : Q σ (Sess.requireActive σ).1 :=
  requireActive_fst σ ▸ hQ.autobegin σ

theorem Frame.delete (σ : Sess) {o : Oid} (ho : free o) : Q σ (Sess.delete σ o).1 := by
  unfold Sess.delete
  simp only [beforeAttach_eq]
  refine ite_fst_rel (hQ.refl σ) (ite_fst_rel (hQ.autobegin σ) ?_)
  exact hQ.bind (hQ.trans (hQ.autobegin σ) (hQ.imAdd _ o))
    fun τ => hQ.trans (ite_rel (hQ.afterAttach τ ho) (hQ.refl τ)) (hQ.deleted _ _)

theorem Frame.removeSnapshot (hall : ∀ o, free o) (htx : ∀ σ l, Q σ { σ with txns := l })
    (σ : Sess) : Q σ (Sess.removeSnapshot σ) := by
  unfold Sess.removeSnapshot
  split
  · exact hQ.refl σ
  · refine ite_rel ?_ (ite_rel ?_ (hQ.refl σ))
    · refine hQ.trans (hQ.trans ?_ (hQ.detachStates _ false fun o _ => hall o)) (htx _ _)
      exact hQ.foldl _ _ (fun ρ o _ => hQ.setO ρ o _ (Or.inl (hall o))) σ
    · split
      · exact hQ.refl σ
      · exact htx σ _

end

/-- what a frame relation needs on top to be respected by every harness operation.  `updateImpl`,
    `delete`, `expungeStates`, `restoreSnapshot`, `removeSnapshot` are fields because their
    `Frame.*` lemmas have premises, which each instance meets in its own way.  `saveImpl`,
    `expungeAll` and `flushCore` add to `_new` or write key and session link of an instance no
    frame names free: they have no `Frame.*` lemma and are unfolded once per invariant, as are
    `makeTransient` and `makeTransientToDetached`, premises of `OpFrame.step`.  `extTxn` is `ext`
    without its premises on `db`, `committed` and `txns`, the fields that ending or beginning a
    transaction writes; `append` is `Op.new` and the instance that `loadNew` and `mergeTarget` add. -/
structure OpFrame (free : Oid → Prop) (Q : Sess → Sess → Prop) : Prop extends Frame free Q where
  extTxn : ∀ {σ τ : Sess}, τ.objs = σ.objs → τ.new = σ.new → τ.imap = σ.imap → Q σ τ
  append : ∀ σ l, Q σ { σ with objs := σ.objs ++ l }
  saveImpl : ∀ σ o, o < σ.objs.length → Q σ (saveImpl σ o).1
  updateImpl : ∀ σ o r, Q σ (updateImpl σ o r).1
  delete : ∀ σ o, Q σ (delete σ o).1
  expungeStates : ∀ σ os t, Q σ (expungeStates σ os t)
  expungeAll : ∀ σ, Q σ (expungeAll σ)
  restoreSnapshot : ∀ σ d, Q σ (restoreSnapshot σ d).1
  flushCore : ∀ σ proc dels, σ.txns ≠ [] → Q σ (flushCore σ proc dels).1
  removeSnapshot : ∀ σ, σ.new = [] → Q σ (removeSnapshot σ)

section
variable (hQ : OpFrame free Q)
include hQ

theorem OpFrame.flush (σ : Sess) : Q σ (Sess.flush σ).1 := by
  unfold Sess.flush
  simp only
  refine ite_fst_rel (hQ.refl σ) (ite_fst_rel (hQ.refl σ) (ite_fst_rel (hQ.refl σ) ?_))
  -- not `Frame.bind`: `flushCore` is respected only from a state with a transaction open
  exact hQ.bind_of_ok (hQ.requireActive σ) fun _ => hQ.flushCore _ _ _ (requireActive_txns σ)

theorem OpFrame.flushUntilClean : ∀ (n : Nat) (σ : Sess), Q σ (Sess.flushUntilClean n σ).1
  | 0, σ => by unfold Sess.flushUntilClean; exact ite_fst_rel (hQ.refl σ) (hQ.refl σ)
  | n + 1, σ => by
    unfold Sess.flushUntilClean
    exact ite_fst_rel (hQ.refl σ) (hQ.bind (hQ.flush σ) (OpFrame.flushUntilClean n))

theorem OpFrame.txnCommit : ∀ (n : Nat) (σ : Sess) (b : Bool), Q σ (Sess.txnCommit n σ b).1
  | 0, σ, b => hQ.refl σ
  | n + 1, σ, b => by
    unfold Sess.txnCommit
    split
    · exact hQ.refl σ
    · refine ite_fst_rel (hQ.refl σ) ?_
      refine hQ.bind_of_ok (hQ.flushUntilClean 100 σ) fun he => ?_
      -- the flush loop has succeeded: `_new` is empty, which `removeSnapshot` asks for
      have h2 := flushUntilClean_ok_new 100 σ he
      generalize (Sess.flushUntilClean 100 σ).1 = τ at h2
      extract_lets τ1 τ2 τ3
      have h3 : Q τ τ3 := by
        refine hQ.trans (hQ.trans ?_ (hQ.removeSnapshot τ1 ?_)) (hQ.extTxn rfl rfl rfl)
        · unfold τ1
          split
          · exact ite_rel (hQ.refl τ) (hQ.extTxn rfl rfl rfl)
          · exact hQ.refl τ
        · unfold τ1
          split
          · split <;> exact h2
          · exact h2
      clear_value τ3
      exact ite_fst_rel (hQ.trans h3 (OpFrame.txnCommit n _ true)) h3

theorem OpFrame.txnRollback : ∀ (n : Nat) (σ : Sess) (b : Bool),
    Q σ (Sess.txnRollback n σ b).1
  | 0, σ, b => hQ.refl σ
  | n + 1, σ, b => by
    unfold Sess.txnRollback
    split
    · exact hQ.refl σ
    · simp only
      refine hQ.bind (ite_fst_rel (hQ.trans ?_ (hQ.restoreSnapshot _ _)) (hQ.refl σ)) fun τ => ?_
      · exact hQ.extTxn rfl rfl rfl
      refine hQ.bind (ite_fst_rel (hQ.refl τ) (hQ.restoreSnapshot τ _)) fun ρ => ?_
      have h : Q ρ { ρ with txns := ρ.txns.tail } := hQ.extTxn rfl rfl rfl
      exact ite_fst_rel (hQ.trans h (OpFrame.txnRollback n _ true)) h

theorem OpFrame.beginNested (σ : Sess) : Q σ (Sess.beginNested σ).1 := by
  have ha := hQ.autobegin σ
  unfold Sess.beginNested
  simp only
  split
  · exact ha
  · exact ite_fst_rel ha (hQ.bind (hQ.trans ha (hQ.flush _)) fun τ => hQ.extTxn rfl rfl rfl)

theorem OpFrame.close (σ : Sess) : Q σ (Sess.close σ) :=
  ite_rel (hQ.expungeAll σ) (hQ.trans (hQ.expungeAll σ) (hQ.extTxn rfl rfl rfl))

theorem OpFrame.sqlPrelude (σ : Sess) (af : Bool) : Q σ (Sess.sqlPrelude σ af).1 :=
  hQ.bind (hQ.requireActive σ) fun τ => hQ.bind (ite_fst_rel (hQ.flush τ) (hQ.refl τ)) fun ρ => hQ.sql ρ _

theorem OpFrame.loadNew {σ : Sess} {k : Nat} (hl : imLookup σ k = none) :
    Q σ (Sess.loadNew σ k).1 := by
  unfold Sess.loadNew
  refine hQ.trans ?_ (hQ.emit _ _ _)
  exact hQ.trans (hQ.append σ [_])
    (hQ.imap _ _ (ListFacts.nodup_map_snoc _ · (lookup_none_not_mem hl)))

theorem OpFrame.loadRow (σ : Sess) (k : Nat) : Q σ (Sess.loadRow σ k).1 := by
  unfold Sess.loadRow
  refine ite_fst_rel ?_ (hQ.refl σ)
  split
  · exact ite_rel (hQ.loaded σ _ k) (hQ.refl σ)
  · rename_i hl; exact hQ.loadNew hl

theorem OpFrame.loadByPk (σ : Sess) (k : Nat) (af : Bool) : Q σ (Sess.loadByPk σ k af).1.1 := by
  unfold Sess.loadByPk
  have := hQ.sqlPrelude σ af
  split
  · rename_i heq; rw [heq] at this; exact this
  · rename_i heq; rw [heq] at this; exact hQ.trans this (hQ.loadRow _ k)

theorem OpFrame.loadExpired (σ : Sess) (o : Oid) : Q σ (Sess.loadExpired σ o).1.1 := by
  unfold Sess.loadExpired
  simp only
  refine ite_fst_fst_rel (hQ.refl σ) ?_
  have := hQ.sqlPrelude σ true
  split
  · rename_i heq; rw [heq] at this; exact this
  · rename_i heq; rw [heq] at this
    split
    · exact this
    · exact ite_fst_fst_rel (hQ.trans this (hQ.loaded _ o _)) this

theorem OpFrame.loadOld (σ : Sess) (o : Oid) (af : Bool) : Q σ (Sess.loadOld σ o af).1.1 := by
  unfold Sess.loadOld
  simp only
  split
  · exact hQ.refl σ
  · refine ite_fst_fst_rel (ite_fst_fst_rel (hQ.refl σ) (ite_fst_fst_rel (hQ.refl σ) ?_)) (hQ.refl σ)
    have := hQ.sqlPrelude σ af
    split
    · rename_i heq; rw [heq] at this; exact this
    · rename_i heq; rw [heq] at this
      split
      · exact this
      · exact ite_fst_fst_rel (hQ.trans this (hQ.loaded _ o _)) this

theorem OpFrame.applySet (σ : Sess) (o : Oid) (v : Nat) (old : Old) :
    Q σ (Sess.applySet σ o v old) := by
  unfold Sess.applySet
  simp only
  refine hQ.trans ?_ (hQ.keep _ o fun _ => ⟨rfl, rfl⟩)
  refine hQ.trans (hQ.keep σ o (f := fun ob => { ob with cpk := if ob.cpk.isNone then some old else ob.cpk })
    fun _ => ⟨rfl, rfl⟩) (ite_rel ?_ (hQ.refl _))
  exact hQ.trans (hQ.keep _ o (f := fun ob => { ob with modified := true }) fun _ => ⟨rfl, rfl⟩)
    (ite_rel (hQ.autobegin _) (hQ.refl _))

theorem OpFrame.setPk (σ : Sess) (o : Oid) (v : Nat) (af : Bool) :
    Q σ (Sess.setPk σ o v af).1 := by
  unfold Sess.setPk
  have := hQ.loadOld σ o af
  split
  · rename_i heq; rw [heq] at this; exact this
  · rename_i heq; rw [heq] at this; exact hQ.trans this (hQ.applySet _ o v _)

theorem OpFrame.get (σ : Sess) (k : Nat) : Q σ (Sess.get σ k).1.1 := by
  unfold Sess.get
  split
  · rename_i o _
    refine ite_fst_fst_rel ?_ (hQ.refl σ)
    have := hQ.loadExpired σ o
    have hl : ∀ τ, Q σ τ → Q σ (Sess.loadByPk (Sess.removeNewlyDeleted τ [o]) k true).1.1 :=
      fun τ h => hQ.trans (hQ.trans h (hQ.removeNewlyDeleted τ _)) (hQ.loadByPk _ k true)
    split
    all_goals rename_i heq; rw [heq] at this
    · exact hl _ this
    · exact this
    · exact this
    · exact hl _ this
  · exact hQ.loadByPk σ k true

theorem OpFrame.mergeCopy (σ : Sess) (src m k : Nat) : Q σ (Sess.mergeCopy σ src m k).1 := by
  unfold Sess.mergeCopy
  simp only
  refine hQ.bind ?_ fun τ => ite_fst_rel (hQ.setPk τ m k true) (hQ.refl τ)
  split
  · exact hQ.setPk σ m _ false
  · exact ite_fst_rel (hQ.keep σ m fun _ => ⟨rfl, rfl⟩) (hQ.refl σ)

theorem OpFrame.merge (σ : Sess) (src : Oid) : Q σ (Sess.merge σ src).1.1 := by
  unfold Sess.merge
  have h1 : Q σ (autoflush σ).1 := hQ.flush σ
  split
  · rename_i heq; rw [heq] at h1; exact h1
  · rename_i τ heq; rw [heq] at h1
    simp only
    split
    · exact h1
    · rename_i k _
      have h2 : Q σ (Sess.mergeFind τ k).1.1 := by
        unfold Sess.mergeFind
        split
        · exact h1
        · exact hQ.trans h1 (hQ.loadByPk τ k false)
      split
      · rename_i heq2; rw [heq2] at h2; exact h2
      · rename_i τ2 mo heq2; rw [heq2] at h2
        have h3 : Q σ (Sess.mergeTarget τ2 mo).1.1 := by
          unfold Sess.mergeTarget
          split
          · exact h2
          · exact hQ.trans (hQ.trans h2 (hQ.append τ2 [{}])) (hQ.saveImpl _ _ (by simp))
        split
        · rename_i heq3; rw [heq3] at h3; exact h3
        · rename_i τ3 m heq3; rw [heq3] at h3
          refine ite_fst_fst_rel h3 ?_
          have h4 := hQ.trans h3 (hQ.mergeCopy τ3 src m k)
          split
          all_goals rename_i heq4; rw [heq4] at h4; exact h4

theorem OpFrame.instanceForRow (pe : Bool) (acc : Sess × List Oid) (k : Nat) :
    Q acc.1 (Sess.instanceForRow pe acc k).1 := by
  unfold Sess.instanceForRow
  obtain ⟨σ, out⟩ := acc
  simp only
  split
  · exact ite_rel (hQ.loaded σ _ k) (ite_rel (hQ.loaded σ _ k) (hQ.refl σ))
  · rename_i hl; exact hQ.loadNew hl

theorem OpFrame.queryAll (σ : Sess) (pe : Bool) : Q σ (Sess.queryAll σ pe).1.1 := by
  unfold Sess.queryAll
  have := hQ.sqlPrelude σ true
  split
  · rename_i heq; rw [heq] at this; exact this
  · rename_i τ heq; rw [heq] at this
    simp only
    generalize List.foldl (fun acc x => List.takeWhile (· ≤ x) acc ++ [x] ++ List.dropWhile (· ≤ x) acc) [] τ.db = l
    have : ∀ acc : Sess × List Oid, Q σ acc.1 → Q σ (l.foldl (Sess.instanceForRow pe) acc).1 := by
      induction l with
      | nil => exact fun _ h => h
      | cons a t ih => exact fun acc h => ih _ (hQ.trans h (hQ.instanceForRow pe acc a))
    exact this (τ, []) ‹_›

theorem OpFrame.refresh (σ : Sess) (o : Oid) : Q σ (Sess.refresh σ o).1 := by
  unfold Sess.refresh
  refine ite_fst_rel (hQ.refl σ) ?_
  refine hQ.bind (hQ.trans (hQ.keep σ o (f := expireObj) fun _ => ⟨rfl, rfl⟩) (hQ.flush _)) fun τ => ?_
  refine hQ.bind (hQ.requireActive τ) fun ρ => ?_
  simp only
  split
  · exact hQ.sql ρ _
  · exact ite_fst_rel (hQ.trans (hQ.sql ρ _) (hQ.loaded _ o _)) (hQ.sql ρ _)

theorem OpFrame.step (hmt : ∀ σ o k, Q σ (makeTransient σ o k))
    (hmtd : ∀ σ o, Q σ (makeTransientToDetached σ o).1) (σ : Sess) (op : Op) (hv : opValid σ op = true) :
    Q σ (Sess.step σ op).1.1 := by
  cases op with
  | new k => exact hQ.append σ _
  | add o => exact ite_fst_rel (hQ.saveImpl σ o (of_decide_eq_true hv)) (hQ.updateImpl σ o false)
  | delete o => exact hQ.delete σ o
  | expunge o => exact ite_fst_rel (hQ.refl σ) (hQ.expungeStates σ [o] false)
  | expire o => exact ite_fst_rel (hQ.refl σ) (hQ.keep σ o (f := expireObj) fun _ => ⟨rfl, rfl⟩)
  | mt o k => exact hmt σ o k
  | mtd o => exact hmtd σ o
  | setpk o k => exact hQ.setPk σ o k true
  | merge o => exact hQ.merge σ o
  | get k => exact hQ.get σ k
  | flush => exact hQ.flush σ
  | commit => exact hQ.trans (hQ.autobegin σ) (hQ.txnCommit _ _ true)
  | rollback => exact hQ.txnRollback _ σ true
  | nbegin => exact hQ.beginNested σ
  | ncommit => exact ite_fst_rel (hQ.refl σ) (hQ.txnCommit 1 σ false)
  | nrollback => exact ite_fst_rel (hQ.refl σ) (hQ.txnRollback 1 σ false)
  | close => exact hQ.close σ
  | expungeAll => exact hQ.expungeAll σ
  | query pe => exact hQ.queryAll σ pe
  | refresh o => exact hQ.refresh σ o

end

end SaVerif.Sess
