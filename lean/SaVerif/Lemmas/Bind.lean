import SaVerif.Model.Bind
import SaVerif.Lemmas.ListFacts
/-!
The scanners of `Model/Bind.lean` (regexes `_pyformat_pattern`, `_post_compile_pattern`) find
in a rendered statement exactly the holes rendered into it (`tokens_render`), provided literal
text starts no pattern (`quiet`) and names avoid the patterns' delimiters (`goodA`, `goodB`,
`goodGrp`).  On that rest the invariants of the numbering loop (`NumInv`) and of the
post-compile loop (`LoopInv`, `pcLoop_inv`) that `Props/C04.lean` uses.
-/
namespace SaVerif.Bind

theorem stripPrefix_eq_some {p s r : Str} : stripPrefix p s = some r ↔ s = p ++ r := by
  induction p generalizing s with
  | nil => simp [stripPrefix, eq_comm]
  | cons a p ih =>
    cases s with
    | nil => simp [stripPrefix]
    | cons c cs => simp [stripPrefix, ih, eq_comm (a := a)]

theorem stripPrefix_append (p s : Str) : stripPrefix p (p ++ s) = some s :=
  stripPrefix_eq_some.mpr rfl

theorem stripPrefix_length {p s r : Str} (h : stripPrefix p s = some r) :
    r.length + p.length = s.length := by
  rw [stripPrefix_eq_some.mp h, List.length_append, Nat.add_comm]

theorem lazyA_length {acc s n r : Str} (h : lazyA acc s = some (n, r)) : r.length < s.length := by
  fun_induction lazyA acc s with
  | case2 => cases h; exact Nat.lt_succ_of_lt (Nat.lt_succ_self _)  -- `)s` found
  | case5 _ _ _ _ ih => exact Nat.lt_succ_of_lt (ih h)               -- not `)`: one step on
  | _ => cases h

theorem matchA_length {s n r : Str} (h : matchA s = some (n, r)) : r.length < s.length := by
  unfold matchA at h
  split at h
  · split at h
    · have := lazyA_length h; simp only [List.length_cons]; omega
    · cases h
  · cases h

theorem lazyDot_length {acc s g r : Str} (h : lazyDot acc s = some (g, r)) : r.length < s.length := by
  fun_induction lazyDot acc s with
  | case2 _ _ _ _ hs =>  -- `~~]` found
    cases h
    have := stripPrefix_length hs
    simp at this ⊢
    omega
  | case4 _ _ _ _ _ ih => exact Nat.lt_succ_of_lt (ih h)  -- neither `~~]` nor newline: one step on
  | _ => cases h

theorem tryGroup_length {s g r : Str} (h : tryGroup s = some (g, r)) : r.length < s.length := by
  unfold tryGroup at h
  split at h
  · split at h
    · have := lazyDot_length h; simp only [List.length_cons]; omega
    · cases h
  · cases h

theorem lazyName_length {acc s n g r} (h : lazyName acc s = some (n, g, r)) : r.length < s.length := by
  fun_induction lazyName acc s with
  | case3 _ _ _ _ _ _ hg => cases h; exact Nat.lt_succ_of_lt (tryGroup_length hg)  -- a group follows
  | case4 => cases h; exact Nat.lt_succ_of_lt (Nat.lt_succ_self _)                 -- `]` follows
  | case5 _ _ _ _ _ _ _ ih => exact Nat.lt_succ_of_lt (ih h)                       -- one step on
  | _ => cases h

theorem matchB_length {s n g r} (h : matchB s = some (n, g, r)) : r.length < s.length := by
  unfold matchB at h
  split at h
  · cases h
  · next hs =>
    have h1 := stripPrefix_length hs
    have h2 := lazyName_length h
    omega

theorem matchAt_eq_or (m : Mode) (s : Str) :
    matchAt m s =
      ((if m = .onlyB then none else matchA s).map fun (n, r) => (Hit.a n, r)).or
        ((if m = .onlyA then none else matchB s).map fun (n, g, r) => (Hit.b n g, r)) := by
  unfold matchAt
  cases m <;> cases matchA s <;> rfl

theorem matchAt_length {m s h r} (hm : matchAt m s = some (h, r)) : r.length < s.length := by
  simp only [matchAt_eq_or, Option.or_eq_some_iff, Option.map_eq_some_iff,
    Option.ite_none_left_eq_some] at hm
  obtain ⟨_, ⟨_, hn⟩, he⟩ | ⟨_, _, ⟨_, hn⟩, he⟩ := hm
  · cases he; exact matchA_length hn
  · cases he; exact matchB_length hn

theorem tokensAux_fuel (m : Mode) {f1 f2 : Nat} {s : Str} (h1 : s.length < f1) (h2 : s.length < f2) :
    tokensAux m f1 s = tokensAux m f2 s := by
  induction f1 generalizing f2 s with
  | zero => cases h1
  | succ n ih =>
    cases f2 with
    | zero => cases h2
    | succ k =>
      cases s with
      | nil => rfl
      | cons c cs =>
        have h1 := Nat.lt_of_succ_lt_succ h1
        have h2 := Nat.lt_of_succ_lt_succ h2
        unfold tokensAux
        cases hm : matchAt m (c :: cs) with
        | none => exact congrArg _ (ih h1 h2)
        | some p =>
          have hl := Nat.le_of_lt_succ (matchAt_length hm)
          exact congrArg _ (ih (Nat.lt_of_le_of_lt hl h1) (Nat.lt_of_le_of_lt hl h2))

theorem tokens_nil (m : Mode) : tokens m [] = [] := rfl

theorem tokens_cons_none {m : Mode} {c : Char} {cs : Str} (h : matchAt m (c :: cs) = none) :
    tokens m (c :: cs) = Tok.lit c :: tokens m cs := by
  unfold tokens
  simp only [List.length_cons, tokensAux, h]

theorem tokens_hit {m : Mode} {s r : Str} {h : Hit} (hm : matchAt m s = some (h, r)) :
    tokens m s = Tok.hit h :: tokens m r := by
  have hl := matchAt_length hm
  cases s with
  | nil => cases hl
  | cons c cs =>
    unfold tokens
    simp only [List.length_cons, tokensAux, hm]
    rw [tokensAux_fuel m (f1 := cs.length + 1) hl (Nat.lt_succ_self _)]

theorem lazyA_exact (n R : Str) (hn : ')' ∉ n) :
    ∀ acc, lazyA acc (n ++ ')' :: 's' :: R) = some (acc ++ n, R) := by
  induction n with
  | nil => intro acc; simp [lazyA]
  | cons c n ih =>
    intro acc
    rw [List.mem_cons, not_or] at hn
    simp only [List.cons_append, lazyA, Ne.symm hn.1, if_false]
    rw [ih hn.2, List.append_assoc]
    rfl

/-- names that pattern A recovers exactly -/
def goodA (n : Str) : Prop := n ≠ [] ∧ ')' ∉ n

theorem matchA_exact {n : Str} (h : goodA n) (R : Str) :
    matchA (['%', '('] ++ n ++ [')', 's'] ++ R) = some (n, R) := by
  obtain ⟨hne, hp⟩ := h
  cases n with
  | nil => exact absurd rfl hne
  | cons c n =>
    rw [List.mem_cons, not_or] at hp
    simp only [List.cons_append, List.nil_append, List.append_assoc]
    rw [matchA, if_pos ⟨rfl, rfl, Ne.symm hp.1⟩, lazyA_exact n R hp.2]
    rfl

theorem tryGroup_none_of_head {s : Str} (h : s.head? ≠ some '~') : tryGroup s = none := by
  unfold tryGroup
  split
  · exact if_neg fun hc => h (congrArg some hc.1)
  · rfl

/-- names that pattern B recovers exactly -/
def goodB (n : Str) : Prop := n ≠ [] ∧ ∀ c ∈ n, isSpace c = false ∧ c ≠ ']' ∧ c ≠ '~'

theorem lazyName_close (acc : Str) (c : Char) (rest : Str) (hs : isSpace c = false) :
    lazyName acc (c :: ']' :: rest) = some (acc ++ [c], none, rest) := by
  rw [lazyName.eq_def]
  simp only [hs, Bool.false_eq_true, if_false]
  rw [tryGroup_none_of_head (by simp)]
  simp

theorem lazyName_next (acc : Str) (c d : Char) (rest : Str) (hs : isSpace c = false)
    (hd1 : d ≠ ']') (hd2 : d ≠ '~') :
    lazyName acc (c :: d :: rest) = lazyName (acc ++ [c]) (d :: rest) := by
  rw [lazyName.eq_def]
  simp only [hs, Bool.false_eq_true, if_false]
  rw [tryGroup_none_of_head (by simp [hd2])]
  simp [hd1]

theorem lazyName_group (acc : Str) (c : Char) (cs g rest : Str) (hs : isSpace c = false)
    (hg : tryGroup cs = some (g, rest)) :
    lazyName acc (c :: cs) = some (acc ++ [c], some g, rest) := by
  rw [lazyName.eq_def]
  simp [hs, hg]

/-- `T` is what follows the name and `res` what the scanner answers there: `]…` (`lazyName_close`) or
    `~~g~~]…` (`lazyName_group`) -/
theorem lazyName_exact (T : Str) (res : Option Str × Str)
    (hT : ∀ acc c, isSpace c = false → lazyName acc (c :: T) = some (acc ++ [c], res)) :
    ∀ (n : Str) (c : Char) (acc : Str), (∀ x ∈ c :: n, isSpace x = false ∧ x ≠ ']' ∧ x ≠ '~') →
      lazyName acc (c :: n ++ T) = some (acc ++ c :: n, res) := by
  intro n
  induction n with
  | nil => intro c acc h; exact hT acc c (h c List.mem_cons_self).1
  | cons d n ih =>
    intro c acc h
    have hd := (h d (List.mem_cons_of_mem _ List.mem_cons_self)).2
    rw [List.cons_append, List.cons_append, lazyName_next _ _ _ _ (h c List.mem_cons_self).1 hd.1 hd.2,
      ← List.cons_append, ih d _ fun x hx => h x (List.mem_cons_of_mem _ hx), List.append_assoc]
    rfl

def closesAt (s : Str) : Bool := (stripPrefix ['~', '~', ']'] s).isSome

/-- content of the optional group after its first character -/
def cleanGrp : Str → Bool
  | [] => true
  | c :: g => !closesAt (c :: g ++ ['~', '~', ']']) && c != '\n' && cleanGrp g

theorem stripPrefix_isSome_append (p s R : Str) (h : p.length ≤ s.length) :
    (stripPrefix p (s ++ R)).isSome = (stripPrefix p s).isSome := by
  induction p generalizing s with
  | nil => rfl
  | cons a p ih =>
    cases s with
    | nil => cases h
    | cons c cs =>
      simp only [List.cons_append, stripPrefix]
      split
      · exact ih cs (Nat.le_of_succ_le_succ h)
      · rfl

theorem lazyDot_exact (R : Str) :
    ∀ (g acc : Str), cleanGrp g = true →
      lazyDot acc (g ++ ['~', '~', ']'] ++ R) = some (acc ++ g, R) := by
  intro g
  induction g with
  | nil => intro acc _; simp [lazyDot, stripPrefix]
  | cons c g ih =>
    intro acc h
    simp only [cleanGrp, closesAt, Bool.and_eq_true, Bool.not_eq_true', bne_iff_ne, ne_eq] at h
    obtain ⟨⟨h1, h2⟩, h3⟩ := h
    rw [← stripPrefix_isSome_append _ _ R (by simp), Option.isSome_eq_false_iff,
      Option.isNone_iff_eq_none] at h1
    rw [List.cons_append, List.cons_append, lazyDot, ← List.cons_append, ← List.cons_append, h1]
    simp only [h2, if_false]
    rw [ih (acc ++ [c]) h3, List.append_assoc]
    rfl

/-- group content that the scanner recovers exactly -/
def goodGrp : Str → Prop
  | [] => False
  | c :: g => c ≠ '\n' ∧ cleanGrp g = true

theorem tryGroup_exact {g : Str} (h : goodGrp g) (R : Str) :
    tryGroup (['~', '~'] ++ g ++ ['~', '~', ']'] ++ R) = some (g, R) := by
  cases g with
  | nil => exact h.elim
  | cons c g =>
    show tryGroup ('~' :: '~' :: c :: (g ++ ['~', '~', ']'] ++ R)) = _
    rw [tryGroup, if_pos ⟨rfl, rfl, h.1⟩, lazyDot_exact R g [c] h.2]
    rfl

theorem matchB_exact {n : Str} (h : goodB n) (g : Option Str) (hg : ∀ x ∈ g, goodGrp x) (R : Str) :
    matchB ((Hit.b n g).raw ++ R) = some (n, g, R) := by
  obtain ⟨hne, hp⟩ := h
  cases n with
  | nil => exact absurd rfl hne
  | cons c n =>
    unfold matchB
    cases g with
    | none =>
      simp only [Hit.raw, List.append_assoc, stripPrefix_append]
      exact lazyName_exact _ (none, R) (fun acc c hs => lazyName_close acc c R hs) n c [] hp
    | some g =>
      simp only [Hit.raw, List.append_assoc, stripPrefix_append]
      refine lazyName_exact _ (some g, R) (fun acc c hs => lazyName_group acc c _ g R hs ?_) n c [] hp
      simpa only [List.append_assoc] using tryGroup_exact (hg g rfl) R

/-- what one scan sees: literal text and the holes of its own patterns (`Seg.toPiece`: a hole
    of the other pattern is text to it) -/
inductive Piece
  | lit (t : Str)
  | hole (h : Hit)
  deriving DecidableEq, Repr

def Piece.render : Piece → Str
  | .lit t => t
  | .hole h => h.raw

def renderPieces : List Piece → Str
  | [] => []
  | p :: ps => p.render ++ renderPieces ps

def pieceToks : List Piece → List Tok
  | [] => []
  | .lit t :: ps => t.map Tok.lit ++ pieceToks ps
  | .hole h :: ps => Tok.hit h :: pieceToks ps

def startsPct : Str → Bool
  | a :: b :: _ => a == '%' && b == '('
  | _ => false

def startsUU : Str → Bool
  | a :: b :: c :: _ => a == '_' && b == '_' && c == '['
  | _ => false

def okAt (m : Mode) (s : Str) : Bool :=
  (m == .onlyB || !startsPct s) && (m == .onlyA || !startsUU s)

/-- what `SafeSegs` (the NoPattern guard) asks of one text `t` followed by `R`: at no position inside `t`
    does a trigger of an active pattern begin (the look-ahead may reach into `R`). -/
def quiet (m : Mode) : Str → Str → Bool
  | [], _ => true
  | c :: t, R => okAt m (c :: t ++ R) && quiet m t R

theorem matchA_none_of_not_startsPct {s : Str} (h : startsPct s = false) : matchA s = none := by
  unfold matchA
  split
  · refine if_neg fun hc => ?_
    simp [startsPct, hc.1, hc.2.1] at h
  · rfl

theorem matchB_none_of_not_startsUU {s : Str} (h : startsUU s = false) : matchB s = none := by
  unfold matchB
  cases hs : stripPrefix pcPrefix s with
  | none => rfl
  | some r => rw [stripPrefix_eq_some.mp hs] at h; cases h

theorem okAt_none {m : Mode} {s : Str} (h : okAt m s = true) : matchAt m s = none := by
  simp only [okAt, Bool.and_eq_true, Bool.or_eq_true, beq_iff_eq, Bool.not_eq_true'] at h
  obtain ⟨ha, hb⟩ := h
  rw [matchAt_eq_or]
  cases m with
  | both =>
    rw [matchA_none_of_not_startsPct (ha.resolve_left nofun),
      matchB_none_of_not_startsUU (hb.resolve_left nofun)]
    rfl
  | onlyA =>
    rw [matchA_none_of_not_startsPct (ha.resolve_left nofun)]
    rfl
  | onlyB =>
    rw [matchB_none_of_not_startsUU (hb.resolve_left nofun)]
    rfl

def holeOk (m : Mode) : Hit → Prop
  | .a n => m ≠ .onlyB ∧ goodA n
  | .b n none => m ≠ .onlyA ∧ goodB n
  | .b n (some g) => m ≠ .onlyA ∧ goodB n ∧ goodGrp g

theorem matchA_raw_b (n : Str) (g : Option Str) (R : Str) :
    matchA ((Hit.b n g).raw ++ R) = none := by
  cases g <;> simp only [Hit.raw, List.append_assoc] <;> rfl

theorem matchAt_exact {m : Mode} {h : Hit} (hk : holeOk m h) (R : Str) :
    matchAt m (h.raw ++ R) = some (h, R) := by
  rw [matchAt_eq_or]
  cases h with
  | a n => rw [Hit.raw, matchA_exact hk.2 R, if_neg hk.1]; rfl
  | b n g =>
    have hm : m ≠ .onlyA := by cases g <;> exact hk.1
    have eb : matchB ((Hit.b n g).raw ++ R) = some (n, g, R) := by
      cases g with
      | none => exact matchB_exact hk.2 none nofun R
      | some g => exact matchB_exact hk.2.1 (some g) (fun _ hx => Option.some.inj hx ▸ hk.2.2) R
    rw [matchA_raw_b, eb, if_neg hm, ite_self]
    rfl

def SafePieces (m : Mode) : List Piece → Prop
  | [] => True
  | .lit t :: ps => quiet m t (renderPieces ps) = true ∧ SafePieces m ps
  | .hole h :: ps => holeOk m h ∧ SafePieces m ps

theorem tokens_quiet (m : Mode) (R : Str) :
    ∀ t : Str, quiet m t R = true → tokens m (t ++ R) = t.map Tok.lit ++ tokens m R := by
  intro t
  induction t with
  | nil => intro _; rfl
  | cons c t ih =>
    intro h
    simp only [quiet, Bool.and_eq_true] at h
    have h1 := okAt_none h.1
    rw [List.cons_append] at h1
    rw [List.cons_append, tokens_cons_none h1, ih h.2]
    rfl

theorem tokens_render (m : Mode) :
    ∀ ps : List Piece, SafePieces m ps → tokens m (renderPieces ps) = pieceToks ps := by
  intro ps
  induction ps with
  | nil => intro _; rfl
  | cons p ps ih =>
    intro h
    cases p with
    | lit t => exact (tokens_quiet m _ t h.1).trans (congrArg _ (ih h.2))
    | hole hh => exact (tokens_hit (matchAt_exact h.1 _)).trans (congrArg _ (ih h.2))

/-- a statement as the segments the compiler's visit methods concatenate -/
inductive Seg
  | text (t : Str)
  /-- `bindparam_string(name)` under the compilation template: `%(name)s` -/
  | bind (n : Str)
  /-- post-compile token `__[POSTCOMPILE_name]` / `__[POSTCOMPILE_name~~l~~REPL~~r~~]` -/
  | pc (n : Str) (g : Option Str)
  deriving DecidableEq, Repr

def Seg.toPiece (m : Mode) : Seg → Piece
  | .text t => .lit t
  | .bind n => if m = .onlyB then .lit (Hit.a n).raw else .hole (.a n)
  | .pc n g => if m = .onlyA then .lit (Hit.b n g).raw else .hole (.b n g)

def Seg.render : Seg → Str
  | .text t => t
  | .bind n => (Hit.a n).raw
  | .pc n g => (Hit.b n g).raw

/-- `self.string` as produced by the visit methods -/
def renderSegs : List Seg → Str
  | [] => []
  | s :: r => s.render ++ renderSegs r

theorem Seg.toPiece_render (m : Mode) (s : Seg) : (s.toPiece m).render = s.render := by
  cases s with
  | text t => rfl
  | bind n =>
    rw [Seg.toPiece]
    split <;> rfl
  | pc n g =>
    rw [Seg.toPiece]
    split <;> rfl

theorem renderPieces_toPiece (m : Mode) (segs : List Seg) :
    renderPieces (segs.map (Seg.toPiece m)) = renderSegs segs := by
  induction segs with
  | nil => rfl
  | cons s r ih => rw [List.map_cons, renderPieces, ih, Seg.toPiece_render]; rfl

/-- the guard of the alignment theorems, for the scan of mode `m` -/
def SafeSegs (m : Mode) (segs : List Seg) : Prop := SafePieces m (segs.map (Seg.toPiece m))

def segNames : List Seg → List Str
  | [] => []
  | .text _ :: r => segNames r
  | .bind n :: r => n :: segNames r
  | .pc n _ :: r => n :: segNames r

def posString (ph : Str) : List Seg → Str
  | [] => []
  | .text t :: r => t ++ posString ph r
  | .bind _ :: r => ph ++ posString ph r
  | .pc n g :: r => (Hit.b n g).raw ++ posString ph r

theorem subPositional_append (ph : Str) (a b : List Tok) :
    subPositional ph (a ++ b) = subPositional ph a ++ subPositional ph b :=
  List.flatMap_append

theorem subPositional_lits (ph : Str) (t : Str) : subPositional ph (t.map Tok.lit) = t :=
  (List.flatMap_map ..).trans (List.flatMap_singleton' t)

theorem hitNames_append (a b : List Tok) : hitNames (a ++ b) = hitNames a ++ hitNames b :=
  List.filterMap_append

theorem hitNames_lits (t : Str) : hitNames (t.map Tok.lit) = [] :=
  List.filterMap_eq_nil_iff.2 (List.forall_mem_map.2 fun _ _ => rfl)

theorem subPositional_pieceToks (ph : Str) (segs : List Seg) :
    subPositional ph (pieceToks (segs.map (Seg.toPiece .both))) = posString ph segs := by
  induction segs with
  | nil => rfl
  | cons s r ih =>
    cases s with
    | text t =>
      exact (subPositional_append ph _ _).trans (by rw [subPositional_lits, ih]; rfl)
    | bind n => exact congrArg (ph ++ ·) ih
    | pc n g => exact congrArg ((Hit.b n g).raw ++ ·) ih

theorem hitNames_pieceToks (segs : List Seg) :
    hitNames (pieceToks (segs.map (Seg.toPiece .both))) = segNames segs := by
  induction segs with
  | nil => rfl
  | cons s r ih =>
    cases s with
    | text t => exact (hitNames_append _ _).trans (by rw [hitNames_lits, ih]; rfl)
    | bind n => exact congrArg (n :: ·) ih
    | pc n g => exact congrArg (n :: ·) ih

theorem alookup_append {β : Type} (k : Str) (a b : List (Str × β)) :
    alookup k (a ++ b) = (alookup k a).or (alookup k b) := by
  induction a with
  | nil => rfl
  | cons x a ih =>
    simp only [List.cons_append, alookup]
    split
    · rfl
    · exact ih

theorem alookup_isSome_iff {β : Type} (k : Str) (d : List (Str × β)) :
    (alookup k d).isSome = true ↔ k ∈ akeys d := by
  induction d with
  | nil => simp [alookup, akeys]
  | cons x d ih =>
    rw [alookup, akeys, List.map_cons, List.mem_cons]
    split
    · exact iff_of_true rfl (.inl (Eq.symm ‹_›))
    · exact ih.trans (or_iff_right (Ne.symm ‹_›)).symm

theorem alookup_none_of_not_mem {β : Type} (k : Str) (d : List (Str × β)) (h : k ∉ akeys d) :
    alookup k d = none :=
  Option.not_isSome_iff_eq_none.mp (mt (alookup_isSome_iff k d).mp h)

theorem aset_of_not_mem {β : Type} (k : Str) (v : β) (d : List (Str × β)) (h : k ∉ akeys d) :
    aset k v d = d ++ [(k, v)] := by
  induction d with
  | nil => rfl
  | cons x d ih =>
    simp only [akeys, List.map_cons, List.mem_cons, not_or] at h ih
    simp only [aset, if_neg (Ne.symm h.1), ih h.2, List.cons_append]

theorem adict_foldl_nodup {β : Type} (items acc : List (Str × β))
    (h : (akeys (acc ++ items)).Nodup) :
    items.foldl (fun d kv => aset kv.1 kv.2 d) acc = acc ++ items := by
  induction items generalizing acc with
  | nil => exact (List.append_nil acc).symm
  | cons x items ih =>
    rw [List.append_cons] at h
    have hk : x.1 ∉ akeys acc := by
      rw [akeys, List.map_append, List.map_append] at h
      exact fun hm => (List.nodup_append.mp (List.nodup_append.mp h).1).2.2 _ hm _
        (List.mem_singleton_self _) rfl
    rw [List.foldl_cons, aset_of_not_mem _ _ acc hk, ih _ h, ← List.append_cons]

theorem adict_of_nodup {β : Type} (items : List (Str × β)) (h : (akeys items).Nodup) :
    adict items = items :=
  adict_foldl_nodup items [] h

theorem alookup_aset_self {β : Type} (k : Str) (v : β) (d : List (Str × β)) :
    alookup k (aset k v d) = some v := by
  induction d with
  | nil => exact if_pos rfl
  | cons x d ih =>
    rw [aset]
    split
    · exact if_pos ‹_›
    · exact (if_neg ‹_›).trans ih

theorem alookup_aset_ne {β : Type} (k k' : Str) (v : β) (d : List (Str × β)) (h : k' ≠ k) :
    alookup k (aset k' v d) = alookup k d := by
  induction d with
  | nil => exact if_neg h
  | cons x d ih =>
    rw [aset]
    split
    · rw [alookup, alookup, ‹x.1 = k'›, if_neg h, if_neg h]
    · rw [alookup, alookup, ih]

theorem alookup_aremove_ne {β : Type} (k k' : Str) (d : List (Str × β)) (h : k' ≠ k) :
    alookup k (aremove k' d) = alookup k d := by
  induction d with
  | nil => rfl
  | cons x d ih =>
    rw [aremove]
    split
    · exact (if_neg (‹x.1 = k'› ▸ h)).symm
    · rw [alookup, alookup, ih]

theorem akeys_aset {β : Type} (k : Str) (v : β) (d : List (Str × β)) :
    ∀ x, x ∈ akeys (aset k v d) → x ∈ akeys d ∨ x = k := by
  intro x h
  by_cases hx : x = k
  · exact .inr hx
  · rw [← alookup_isSome_iff, alookup_aset_ne _ _ _ _ (Ne.symm hx), alookup_isSome_iff] at h
    exact .inl h

theorem alookup_foldl_aset_not_mem {β : Type} {f : Str → β} (k : Str) (tu : List (Str × Str)) :
    ∀ d : List (Str × β), k ∉ tu.map (·.1) →
      alookup k (tu.foldl (fun d kv => aset kv.1 (f kv.2) d) d) = alookup k d := by
  induction tu with
  | nil => intro d _; rfl
  | cons x tu ih =>
    intro d h
    rw [List.map_cons, List.mem_cons, not_or] at h
    rw [List.foldl_cons, ih _ h.2, alookup_aset_ne _ _ _ _ (Ne.symm h.1)]

theorem alookup_foldl_aset_mem {β : Type} {f : Str → β} (tu : List (Str × Str))
    (hnd : (tu.map (·.1)).Nodup) :
    ∀ (d : List (Str × β)), ∀ kv ∈ tu,
      alookup kv.1 (tu.foldl (fun d kv => aset kv.1 (f kv.2) d) d) = some (f kv.2) := by
  induction tu with
  | nil => nofun
  | cons x tu ih =>
    intro d kv h
    rw [List.map_cons, List.nodup_cons] at hnd
    rw [List.foldl_cons]
    rcases List.mem_cons.mp h with rfl | h
    · rw [alookup_foldl_aset_not_mem _ _ _ hnd.1, alookup_aset_self]
    · exact ih hnd.2 _ kv h

/-- the names that received a number (the non-post-compile names), in order -/
def plainKeys (pp : List (Str × Option Str)) : List Str :=
  pp.filterMap (fun kv => match kv.2 with | some _ => some kv.1 | none => none)

theorem plainKeys_append (a b : List (Str × Option Str)) :
    plainKeys (a ++ b) = plainKeys a ++ plainKeys b :=
  List.filterMap_append

theorem plainKeys_subset_keys (pp : List (Str × Option Str)) : ∀ n ∈ plainKeys pp, n ∈ akeys pp := by
  intro n hn
  obtain ⟨⟨k, v⟩, hkv, he⟩ := List.mem_filterMap.mp hn
  cases v with
  | none => cases he
  | some x => cases he; exact List.mem_map.mpr ⟨_, hkv, rfl⟩

/-- invariant of the `for bind_name in order` loop of `_process_numeric` (`numberBinds`) -/
structure NumInv (idc : Char) (pp : List (Str × Option Str)) (num : Nat) : Prop where
  nodup : (akeys pp).Nodup
  count : num = (plainKeys pp).length + 1
  assigned : ∀ (i : Nat) (n : Str), (plainKeys pp)[i]? = some n →
    alookup n pp = some (some (idc :: natStr (i + 1)))

theorem NumInv.init (idc : Char) : NumInv idc [] 1 :=
  ⟨List.nodup_nil, rfl, nofun⟩

theorem NumInv.push_none {idc pp num} (h : NumInv idc pp num) (n : Str) (hn : n ∉ akeys pp) :
    NumInv idc (pp ++ [(n, none)]) num := by
  have hpk : plainKeys (pp ++ [(n, none)]) = plainKeys pp :=
    (plainKeys_append _ _).trans (List.append_nil _)
  refine ⟨ListFacts.nodup_map_snoc _ h.nodup hn, hpk ▸ h.count, fun i m hm => ?_⟩
  rw [alookup_append, h.assigned i m (hpk ▸ hm)]
  rfl

theorem NumInv.push_some {idc pp num} (h : NumInv idc pp num) (n : Str) (hn : n ∉ akeys pp) :
    NumInv idc (pp ++ [(n, some (idc :: natStr num))]) (num + 1) := by
  have hpk : plainKeys (pp ++ [(n, some (idc :: natStr num))]) = plainKeys pp ++ [n] :=
    plainKeys_append _ _
  refine ⟨ListFacts.nodup_map_snoc _ h.nodup hn, ?_, fun i m hm => ?_⟩
  · rw [hpk, h.count, List.length_append]; rfl
  · rw [hpk] at hm
    rw [alookup_append]
    by_cases hi : i < (plainKeys pp).length
    · rw [List.getElem?_append_left hi] at hm
      rw [h.assigned i m hm]; rfl
    · -- the new name sits at index `num - 1`
      have hlt := (List.getElem?_eq_some_iff.mp hm).1
      have hi' : i = (plainKeys pp).length := by
        rw [List.length_append] at hlt; exact Nat.le_antisymm (Nat.le_of_lt_succ hlt) (Nat.le_of_not_lt hi)
      subst hi'
      rw [List.getElem?_concat_length] at hm
      cases hm
      rw [alookup_none_of_not_mem _ _ hn, h.count]
      exact if_pos rfl

section
variable (c : Compiled) (idc : Char) (order : List Str) (num : Nat) (pp : List (Str × Option Str))

theorem numberBinds_inv (h : NumInv idc pp num) :
    NumInv idc (numberBinds c idc order num pp).2 (numberBinds c idc order num pp).1 := by
  -- cases of `numberBinds`: 1 `[]`; 2 `n` already has an entry; 3 `n` post-compile, gets `none`;
  -- 4 `n` plain, gets the next number; 5 `n` of unknown kind
  fun_induction numberBinds c idc order num pp with
  | case1 => exact h
  | case2 _ _ _ _ _ ih => exact ih h
  | case3 n _ _ _ hin _ _ _ ih => exact ih (h.push_none n (mt (alookup_isSome_iff _ _).mpr hin))
  | case4 n _ _ _ hin _ _ _ ih => exact ih (h.push_some n (mt (alookup_isSome_iff _ _).mpr hin))
  | case5 _ _ _ _ _ _ ih => exact ih h

theorem plainKeys_numberBinds :
    ∀ m ∈ plainKeys pp, m ∈ plainKeys (numberBinds c idc order num pp).2 := by
  fun_induction numberBinds c idc order num pp with
  | case1 => exact fun _ h => h
  | case2 _ _ _ _ _ ih => exact ih
  | case3 _ _ _ _ _ _ _ _ ih | case4 _ _ _ _ _ _ _ _ ih =>
    exact fun m hm => ih m (plainKeys_append _ _ ▸ List.mem_append_left _ hm)
  | case5 _ _ _ _ _ _ ih => exact ih

theorem mem_plainKeys_numberBinds :
    ∀ m ∈ order, (∃ b, c.kindOf m = some b ∧ b.kind = .plain) → m ∉ akeys pp →
      m ∈ plainKeys (numberBinds c idc order num pp).2 := by
  have snoc : ∀ {m n : Str} {pp : List (Str × Option Str)} (v : Option Str),
      m ∉ akeys pp → m ≠ n → m ∉ akeys (pp ++ [(n, v)]) := by
    intro m n pp v h1 h2
    rw [akeys, List.map_append, List.mem_append, not_or]
    exact ⟨h1, fun h => h2 (List.mem_singleton.mp h)⟩
  fun_induction numberBinds c idc order num pp with
  | case1 => nofun
  | case2 n _ _ _ hin ih =>
    intro m hm hk hnot
    have hmn : m ≠ n := fun e => hnot (e ▸ (alookup_isSome_iff _ _).mp hin)
    exact ih m ((List.mem_cons.mp hm).resolve_left hmn) hk hnot
  | case3 n _ _ _ _ b hb hpc ih =>
    intro m hm hk hnot
    have hmn : m ≠ n := by
      rintro rfl
      obtain ⟨b', hb', hpl⟩ := hk
      cases hb.symm.trans hb'
      rw [hpl] at hpc; cases hpc
    exact ih m ((List.mem_cons.mp hm).resolve_left hmn) hk (snoc _ hnot hmn)
  | case4 n _ num pp _ _ _ _ ih =>
    intro m hm hk hnot
    by_cases hmn : m = n
    · exact plainKeys_numberBinds _ _ _ _ _ m
        (plainKeys_append _ _ ▸ List.mem_append_right _ (hmn ▸ List.mem_singleton_self _))
    · exact ih m ((List.mem_cons.mp hm).resolve_left hmn) hk (snoc _ hnot hmn)
  | case5 n _ _ _ _ hb ih =>
    intro m hm hk hnot
    have hmn : m ≠ n := by
      rintro rfl
      obtain ⟨_, hb', _⟩ := hk
      cases hb.symm.trans hb'
    exact ih m ((List.mem_cons.mp hm).resolve_left hmn) hk hnot

end

def bindSegNames : List Seg → List Str
  | [] => []
  | .bind n :: r => n :: bindSegNames r
  | _ :: r => bindSegNames r

def numString (idc : Char) (pk : List Str) : List Seg → Str
  | [] => []
  | .text t :: r => t ++ numString idc pk r
  | .bind n :: r => (idc :: natStr (pk.idxOf n + 1)) ++ numString idc pk r
  | .pc n g :: r => (Hit.b n g).raw ++ numString idc pk r

theorem map_lits {τ ε : Type} {lit : Char → τ} {f : List τ → Except ε Str}
    (hf : ∀ ch r, f (lit ch :: r) = (f r).map (ch :: ·)) (t : Str) (rest : List τ) :
    f (t.map lit ++ rest) = (f rest).map (t ++ ·) := by
  induction t with
  | nil => show f rest = _; cases f rest <;> rfl
  | cons c t ih =>
    rw [List.map_cons, List.cons_append, hf, ih]
    cases f rest <;> rfl

theorem subLookup_lits (pp : List (Str × Option Str)) (t : Str) (rest : List Tok) :
    subLookup pp (t.map Tok.lit ++ rest) = (subLookup pp rest).map (t ++ ·) :=
  map_lits (fun _ _ => rfl) t rest

theorem subLookup_hit {pp : List (Str × Option Str)} {h : Hit} {ph : Str}
    (hl : alookup h.name pp = some (some ph)) (r : List Tok) :
    subLookup pp (.hit h :: r) = (subLookup pp r).map (ph ++ ·) := by
  rw [subLookup, hl]

theorem subLookup_pieceToks (idc : Char) (pp : List (Str × Option Str)) (num : Nat)
    (hinv : NumInv idc pp num) :
    ∀ segs : List Seg, (∀ n ∈ bindSegNames segs, n ∈ plainKeys pp) →
      subLookup pp (pieceToks (segs.map (Seg.toPiece .onlyA))) =
        .ok (numString idc (plainKeys pp) segs) := by
  intro segs
  induction segs with
  | nil => intro _; rfl
  | cons s r ih =>
    intro h
    cases s with
    | text t => exact (subLookup_lits pp t _).trans (by rw [ih h]; rfl)
    | pc n g => exact (subLookup_lits pp (Hit.b n g).raw _).trans (by rw [ih h]; rfl)
    | bind n =>
      have hlt := List.idxOf_lt_length_of_mem (h n (List.mem_cons_self ..))
      have hn := hinv.assigned _ n (by rw [List.getElem?_eq_getElem hlt, List.getElem_idxOf])
      exact (subLookup_hit (h := .a n) hn _).trans
        (by rw [ih fun m hm => h m (List.mem_cons_of_mem _ hm)]; rfl)

/-- the stage-1 statement as segments -/
def posSegs (ph : Str) : List Seg → List Seg
  | [] => []
  | .bind _ :: r => .text ph :: posSegs ph r
  | .text t :: r => .text t :: posSegs ph r
  | .pc n g :: r => .pc n g :: posSegs ph r

theorem posString_eq (ph : Str) (segs : List Seg) :
    posString ph segs = renderSegs (posSegs ph segs) := by
  induction segs with
  | nil => rfl
  | cons s r ih => cases s <;> exact congrArg (_ ++ ·) ih

def expString (ph : Str) (R : Str → Str) : List Seg → Str
  | [] => []
  | .text t :: r => t ++ expString ph R r
  | .bind _ :: r => ph ++ expString ph R r
  | .pc n _ :: r => R n ++ expString ph R r

theorem subExpanding_lits (repl : List (Str × Str)) (t : Str) (rest : List Tok) :
    subExpanding repl (t.map Tok.lit ++ rest) = (subExpanding repl rest).map (t ++ ·) :=
  map_lits (fun _ _ => rfl) t rest

theorem subExpanding_hit_nogroup {repl : List (Str × Str)} {n e : Str} (hl : alookup n repl = some e)
    (r : List Tok) :
    subExpanding repl (.hit (.b n none) :: r) = (subExpanding repl r).map (e ++ ·) := by
  simp only [subExpanding, Hit.name, hl]

theorem subExpanding_posSegs (ph : Str) (repl : List (Str × Str)) (R : Str → Str) :
    ∀ segs : List Seg,
      (∀ n g, Seg.pc n g ∈ segs → g = none ∧ alookup n repl = some (R n)) →
      subExpanding repl (pieceToks ((posSegs ph segs).map (Seg.toPiece .onlyB))) =
        .ok (expString ph R segs) := by
  intro segs
  induction segs with
  | nil => intro _; rfl
  | cons s r ih =>
    intro h
    have hr := ih fun n g hm => h n g (List.mem_cons_of_mem _ hm)
    cases s with
    | text t => exact (subExpanding_lits repl t _).trans (by rw [hr]; rfl)
    | bind n => exact (subExpanding_lits repl ph _).trans (by rw [hr]; rfl)
    | pc n g =>
      obtain ⟨rfl, hl⟩ := h n g (List.mem_cons_self ..)
      exact (subExpanding_hit_nogroup hl _).trans (by rw [hr]; rfl)

/-! The guards are decidable: the non-vacuity examples and the driver evaluate them. -/

instance (n : Str) : Decidable (goodA n) := by unfold goodA; infer_instance

instance (n : Str) : Decidable (goodB n) := by unfold goodB; infer_instance

instance (g : Str) : Decidable (goodGrp g) := by
  cases g <;> (unfold goodGrp; infer_instance)

instance (m : Mode) (h : Hit) : Decidable (holeOk m h) := by
  cases h with
  | a n => unfold holeOk; infer_instance
  | b n g => cases g <;> (unfold holeOk; infer_instance)

def decSafePieces (m : Mode) : (ps : List Piece) → Decidable (SafePieces m ps)
  | [] => isTrue trivial
  | .lit t :: ps =>
    have := decSafePieces m ps
    by unfold SafePieces; infer_instance
  | .hole h :: ps =>
    have := decSafePieces m ps
    by unfold SafePieces; infer_instance

instance (m : Mode) (ps : List Piece) : Decidable (SafePieces m ps) := decSafePieces m ps

instance (m : Mode) (segs : List Seg) : Decidable (SafeSegs m segs) := by
  unfold SafeSegs; infer_instance

/-- what bind `n` contributes to the positional parameters after the post-compile loop: itself
    when plain, the names generated by `_literal_execute_expanding_parameter` when expanding -/
def contrib (c : Compiled) (st : Style) (params0 : List (Str × PVal)) (n : Str) :
    List (Str × PVal) :=
  match c.kindOf n, alookup n params0 with
  | some b, some (.many vs) =>
    if b.kind = .expanding then (leep st b n vs).1.map (fun kv => (kv.1, PVal.one kv.2)) else []
  | some b, some (.one v) => if b.kind = .plain then [(n, PVal.one v)] else []
  | _, _ => []

/-- literal-execute binds are left out -/
def NameOk (c : Compiled) (params0 : List (Str × PVal)) (n : Str) : Prop :=
  (∃ b v, c.kindOf n = some b ∧ b.kind = .plain ∧ alookup n params0 = some (.one v)) ∨
  (∃ b vs, c.kindOf n = some b ∧ b.kind = .expanding ∧ alookup n params0 = some (.many vs))

def isExpanding (c : Compiled) (n : Str) : Bool :=
  match c.kindOf n with
  | some b => b.kind = .expanding
  | none => false

/-- invariant of the loop over `positiontup` in `_process_parameters_for_postcompile` (`pcLoop`)
    once the names `done` are processed, for a positional style that is not numeric (hence
    `numPos = []`).  `generated` and `untouched` speak of `s.params` only at keys other than an
    expanding name already processed: that name's own entry has been popped. -/
structure LoopInv (c : Compiled) (st : Style) (params0 : List (Str × PVal))
    (done : List Str) (s : PCState) : Prop where
  newPos : s.newPos = (done.flatMap (contrib c st params0)).map (·.1)
  numPos : s.numPos = []
  replKeys : ∀ k, k ∈ akeys s.repl → k ∈ done ∧ isExpanding c k = true
  repl : ∀ n ∈ done, ∀ b vs, c.kindOf n = some b → b.kind = .expanding →
    alookup n params0 = some (.many vs) → alookup n s.repl = some (leep st b n vs).2
  generated : ∀ kv ∈ done.flatMap (contrib c st params0),
    (kv.1 ∉ done ∨ isExpanding c kv.1 = false) → alookup kv.1 s.params = some kv.2
  untouched : ∀ k, k ∉ (done.flatMap (contrib c st params0)).map (·.1) →
    (k ∉ done ∨ isExpanding c k = false) → alookup k s.params = alookup k params0

/-- the global freshness assumptions (finding `expanded-name-clashes-with-bind-name`
    is what happens without them) -/
structure NoClash (c : Compiled) (st : Style) (params0 : List (Str × PVal))
    (names : List Str) : Prop where
  names_nodup : names.Nodup
  keys_nodup : ((names.flatMap (contrib c st params0)).map (·.1)).Nodup
  fresh : ∀ n ∈ names, isExpanding c n = true → ∀ kv ∈ contrib c st params0 n, kv.1 ∉ names

section
variable {c : Compiled} {st : Style} {params0 : List (Str × PVal)} {n : Str} {b : BindInfo}
  {done : List Str} {s : PCState}

theorem contrib_plain {v : Str} (hk : c.kindOf n = some b) (hp : b.kind = .plain)
    (hv : alookup n params0 = some (.one v)) : contrib c st params0 n = [(n, .one v)] := by
  simp [contrib, hk, hv, hp]

theorem contrib_expanding {vs : List Str} (hk : c.kindOf n = some b) (hp : b.kind = .expanding)
    (hv : alookup n params0 = some (.many vs)) :
    contrib c st params0 n = (leep st b n vs).1.map (fun kv => (kv.1, PVal.one kv.2)) := by
  simp [contrib, hk, hv, hp]

theorem pcStep_plain (s : PCState) (hk : c.kindOf n = some b) (hp : b.kind = .plain)
    (hpos : st.positional = true) :
    pcStep c st s n = .ok { s with newPos := s.newPos ++ [n] } := by
  unfold pcStep
  simp [hk, hp, hpos]

theorem pcStep_expanding {vs : List Str}
    (hesc : c.escaped = []) (hk : c.kindOf n = some b) (hp : b.kind = .expanding)
    (hr : alookup n s.repl = none) (hv : alookup n s.params = some (.many vs))
    (hpos : st.positional = true) (hnum : st.isNumeric = false) :
    pcStep c st s n =
      .ok { s with
            params := (leep st b n vs).1.foldl (fun d kv => aset kv.1 (PVal.one kv.2) d)
                        (aremove n s.params),
            toUpd := aset n (leep st b n vs).1 s.toUpd,
            repl := aset n (leep st b n vs).2 s.repl,
            newPos := s.newPos ++ (leep st b n vs).1.map (·.1) } := by
  unfold pcStep
  simp [hesc, hk, hp, hr, hv, hpos, hnum]

theorem isExpanding_of (hk : c.kindOf n = some b) :
    isExpanding c n = decide (b.kind = .expanding) := by
  simp [isExpanding, hk]

theorem contrib_key_cases {names : List Str} {m : Str} (hnc : NoClash c st params0 names)
    (hm : m ∈ names) (hok : NameOk c params0 m) :
    ∀ kv ∈ contrib c st params0 m, kv.1 ∉ names ∨ kv.1 = m ∧ isExpanding c m = false := by
  intro kv hkv
  rcases hok with ⟨b, v, hk, hp, hv⟩ | ⟨b, vs, hk, hp, _⟩
  · rw [contrib_plain hk hp hv] at hkv
    cases List.mem_singleton.mp hkv
    exact .inr ⟨rfl, by rw [isExpanding_of hk, hp]; rfl⟩
  · exact .inl (hnc.fresh m hm (by rw [isExpanding_of hk]; exact decide_eq_true hp) kv hkv)

theorem loopCond_of_snoc {k : Str} {P : Prop} (h : k ∉ done ++ [n] ∨ P) :
    k ∉ done ∨ P :=
  h.imp_left (mt (List.mem_append_left _))

theorem pcStep_plain_inv {v : Str}
    (hpos : st.positional = true) (hnd : n ∉ done)
    (hnk : n ∉ (done.flatMap (contrib c st params0)).map (·.1))
    (hinv : LoopInv c st params0 done s)
    (hk : c.kindOf n = some b) (hp : b.kind = .plain) (hv : alookup n params0 = some (.one v)) :
    ∃ s', pcStep c st s n = .ok s' ∧ LoopInv c st params0 (done ++ [n]) s' := by
  have hfm : (done ++ [n]).flatMap (contrib c st params0) =
      done.flatMap (contrib c st params0) ++ [(n, PVal.one v)] := by
    rw [List.flatMap_append, List.flatMap_singleton, contrib_plain hk hp hv]
  refine ⟨_, pcStep_plain s hk hp hpos, ?newPos, hinv.numPos, ?replKeys, ?repl, ?generated, ?untouched⟩
  · rw [hfm, List.map_append, ← hinv.newPos]; rfl
  · exact fun k hkk => ⟨List.mem_append_left _ (hinv.replKeys k hkk).1, (hinv.replKeys k hkk).2⟩
  · intro m hm b' vs hk' hp' hv'
    rcases List.mem_append.mp hm with hm | hm
    · exact hinv.repl m hm b' vs hk' hp' hv'
    · cases List.mem_singleton.mp hm
      cases hk.symm.trans hk'
      rw [hp] at hp'; cases hp'
  · intro kv hkv hcond
    rw [hfm] at hkv
    rcases List.mem_append.mp hkv with hkv | hkv
    · exact hinv.generated kv hkv (loopCond_of_snoc hcond)
    · cases List.mem_singleton.mp hkv
      exact (hinv.untouched n hnk (.inl hnd)).trans hv
  · intro k hk1 hk2
    rw [hfm, List.map_append] at hk1
    exact hinv.untouched k (fun hm => hk1 (List.mem_append_left _ hm)) (loopCond_of_snoc hk2)

theorem pcStep_expanding_inv {vs : List Str}
    (hesc : c.escaped = []) (hpos : st.positional = true) (hnum : st.isNumeric = false)
    (hnd : n ∉ done)
    (hdk : ((done ++ [n]).flatMap (contrib c st params0)).map (·.1) |>.Nodup)
    (hnk : n ∉ (done.flatMap (contrib c st params0)).map (·.1))
    (hinv : LoopInv c st params0 done s)
    (hk : c.kindOf n = some b) (hp : b.kind = .expanding)
    (hv : alookup n params0 = some (.many vs)) :
    ∃ s', pcStep c st s n = .ok s' ∧ LoopInv c st params0 (done ++ [n]) s' := by
  have hc := contrib_expanding (st := st) hk hp hv
  have hex : isExpanding c n = true := by rw [isExpanding_of hk]; exact decide_eq_true hp
  have hfm : (done ++ [n]).flatMap (contrib c st params0) =
      done.flatMap (contrib c st params0) ++ contrib c st params0 n := by
    rw [List.flatMap_append, List.flatMap_singleton]
  have hkeys : (contrib c st params0 n).map (·.1) = (leep st b n vs).1.map (·.1) := by
    rw [hc, List.map_map]; rfl
  rw [hfm, List.map_append, hkeys] at hdk
  obtain ⟨_, htund, hdisj⟩ := List.nodup_append.mp hdk
  have hpass : ∀ k, k ≠ n → k ∉ (leep st b n vs).1.map (·.1) →
      alookup k ((leep st b n vs).1.foldl (fun d kv => aset kv.1 (PVal.one kv.2) d)
        (aremove n s.params)) = alookup k s.params := fun k h1 h2 => by
    rw [alookup_foldl_aset_not_mem _ _ _ h2, alookup_aremove_ne _ _ _ (Ne.symm h1)]
  refine ⟨_, pcStep_expanding hesc hk hp
    (alookup_none_of_not_mem _ _ fun hm => hnd (hinv.replKeys n hm).1)
    ((hinv.untouched n hnk (.inl hnd)).trans hv) hpos hnum,
    ?newPos, hinv.numPos, ?replKeys, ?repl, ?generated, ?untouched⟩
  · rw [hfm, List.map_append, hkeys, ← hinv.newPos]
  · intro k hkk
    rcases akeys_aset _ _ _ k hkk with h | rfl
    · exact ⟨List.mem_append_left _ (hinv.replKeys k h).1, (hinv.replKeys k h).2⟩
    · exact ⟨List.mem_append_right _ (List.mem_singleton_self _), hex⟩
  · intro m hm b' vs' hk' hp' hv'
    by_cases hmn : m = n
    · subst hmn
      cases hk.symm.trans hk'
      cases hv.symm.trans hv'
      exact alookup_aset_self _ _ _
    · exact (alookup_aset_ne _ _ _ _ (Ne.symm hmn)).trans <| hinv.repl m
        ((List.mem_append.mp hm).resolve_right (mt List.mem_singleton.mp hmn)) b' vs' hk' hp' hv'
  · intro kv hkv hcond
    rw [hfm] at hkv
    rcases List.mem_append.mp hkv with hkv | hkv
    · have hk1 := List.mem_map_of_mem (f := (·.1)) hkv
      exact (hpass _ (fun e => hnk (e ▸ hk1)) fun h2 => hdisj _ hk1 _ h2 rfl).trans
        (hinv.generated kv hkv (loopCond_of_snoc hcond))
    · rw [hc] at hkv
      obtain ⟨x, hx, rfl⟩ := List.mem_map.mp hkv
      exact alookup_foldl_aset_mem _ htund _ x hx
  · intro k hk1 hk2
    rw [hfm, List.map_append, hkeys, List.mem_append, not_or] at hk1
    have hkn : k ≠ n := by
      rintro rfl
      exact hk2.elim (fun h => h (List.mem_append_right _ (List.mem_singleton_self _)))
        fun h => Bool.noConfusion (hex.symm.trans h)
    exact (hpass k hkn hk1.2).trans (hinv.untouched k hk1.1 (loopCond_of_snoc hk2))

theorem pcLoop_inv {names : List Str}
    (hesc : c.escaped = []) (hpos : st.positional = true) (hnum : st.isNumeric = false)
    (hnc : NoClash c st params0 names) (hok : ∀ n ∈ names, NameOk c params0 n) :
    ∀ (rest done : List Str) (s : PCState), done ++ rest = names →
      LoopInv c st params0 done s →
      ∃ s', pcLoop c st rest s = .ok s' ∧ LoopInv c st params0 names s' := by
  intro rest
  induction rest with
  | nil =>
    intro done s he hinv
    rw [List.append_nil] at he; subst he
    exact ⟨s, rfl, hinv⟩
  | cons n rest ih =>
    intro done s he hinv
    have he' : (done ++ [n]) ++ rest = names := (List.append_cons done n rest).symm.trans he
    have hn : n ∈ names := he ▸ List.mem_append_right _ (List.mem_cons_self ..)
    have hsub : ∀ x ∈ done, x ∈ names := fun x hx => he ▸ List.mem_append_left _ hx
    have hnd : n ∉ done := fun hd =>
      (List.nodup_append.mp (he ▸ hnc.names_nodup)).2.2 n hd n (List.mem_cons_self ..) rfl
    have hdk : (((done ++ [n]).flatMap (contrib c st params0)).map (·.1)).Nodup := by
      have := hnc.keys_nodup
      rw [← he', List.flatMap_append, List.map_append] at this
      exact (List.nodup_append.mp this).1
    have hnk : n ∉ (done.flatMap (contrib c st params0)).map (·.1) := by
      intro hm
      obtain ⟨kv, hkv, hkn⟩ := List.mem_map.mp hm
      obtain ⟨m, hmd, hkm⟩ := List.mem_flatMap.mp hkv
      rcases contrib_key_cases hnc (hsub m hmd) (hok m (hsub m hmd)) kv hkm with h | h
      · exact h (hkn ▸ hn)
      · exact hnd (h.1.symm.trans hkn ▸ hmd)
    have hstep : ∃ s1, pcStep c st s n = .ok s1 ∧ LoopInv c st params0 (done ++ [n]) s1 := by
      rcases hok n hn with ⟨b, v, hk, hp, hv⟩ | ⟨b, vs, hk, hp, hv⟩
      · exact pcStep_plain_inv hpos hnd hnk hinv hk hp hv
      · exact pcStep_expanding_inv hesc hpos hnum hnd hdk hnk hinv hk hp hv
    obtain ⟨s1, hs1, hinv1⟩ := hstep
    obtain ⟨s', hs', hi'⟩ := ih (done ++ [n]) s1 he' hinv1
    exact ⟨s', by rw [pcLoop, hs1]; exact hs', hi'⟩

end

theorem LoopInv.init (c : Compiled) (st : Style) (params0 : List (Str × PVal)) :
    LoopInv c st params0 []
      { params := params0, repl := [], toUpd := [], newPos := [], numPos := [] } :=
  ⟨rfl, rfl, by intro k h; simp [akeys] at h, by intro n h; simp at h,
   by intro kv h; simp at h, by intro k _ _; rfl⟩

theorem collectPos_map {α : Type} (params : List (Str × PVal)) (f : α → Str) (g : α → PVal) :
    ∀ l : List α, (∀ x ∈ l, alookup (f x) params = some (g x)) →
      collectPos params (l.map f) = .ok (l.map g) := by
  intro l
  induction l with
  | nil => intro _; rfl
  | cons x l ih =>
    intro h
    rw [List.map_cons, collectPos, h x (List.mem_cons_self ..),
      ih fun y hy => h y (List.mem_cons_of_mem _ hy)]
    rfl

end SaVerif.Bind
