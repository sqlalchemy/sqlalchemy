import SaVerif.Lemmas.Result
import SaVerif.Model.ResultMemo
/-! `mstep_refines`: one call on the memoizing facade over a refining source returns what it returns
over the bare list, with the same memo and filter sets, when it raises no hazard flag.
Transparency: on a `fresh` state every memoized getter holds what it would capture if built now
(`capOf`), so a getter `Reads` the present configuration and throwing the memo away (`forget`)
changes no output (`mstep_transparent`). -/
namespace SaVerif.Result

section Generic
variable {σ : Type} {O : SrcOps σ} {good : σ → Prop} {abs : σ → Plain}

def absM (abs : σ → Plain) (st : MSt σ) : MSt Plain :=
  { src := abs st.src, sss := st.sss, width := st.width, yp := st.yp, ypKind := st.ypKind, sets := st.sets,
    r := st.r, v := st.v }

theorem absM_src (st : MSt σ) : (absM abs st).src = abs st.src := rfl
theorem absM_sss (st : MSt σ) : (absM abs st).sss = st.sss := rfl
theorem absM_width (st : MSt σ) : (absM abs st).width = st.width := rfl
theorem absM_yp (st : MSt σ) : (absM abs st).yp = st.yp := rfl
theorem absM_sets (st : MSt σ) : (absM abs st).sets = st.sets := rfl
theorem absM_r (st : MSt σ) : (absM abs st).r = st.r := rfl

theorem mgetH_absM (st : MSt σ) (t : Tgt) : mgetH (absM abs st) t = mgetH st t := by
  cases t <;> rfl

theorem isR_absM (st : MSt σ) (t : Tgt) : isR (absM abs st) t = isR st t := by
  cases t <;> rfl

theorem msetH_absM (st : MSt σ) (t : Tgt) (h : MHandle) :
    msetH (absM abs st) t h = absM abs (msetH st t h) := by
  cases t with
  | r => rfl
  | v => unfold msetH absM; cases st.v <;> rfl

theorem msetH_src (st : MSt σ) (t : Tgt) (h : MHandle) : (msetH st t h).src = st.src := by
  cases t with
  | r => rfl
  | v => unfold msetH; cases st.v <;> rfl

theorem only_refines (R : Refines O good abs) (use : Bool) (st : MSt σ) (t : Tgt)
    (second rnone scalar : Bool) (hg : good st.src)
    (hz : (mstep.only O use st t second rnone scalar).1.2 = false) :
    mstep.only Plain.ops use (absM abs st) t second rnone scalar =
      ((mstep.only O use st t second rnone scalar).1, absM abs (mstep.only O use st t second rnone scalar).2) ∧
    good (mstep.only O use st t second rnone scalar).2.src := by
  have hc : O.corner st.src = false := hz
  dsimp only [mstep.only, absM_src, absM_sss, absM_sets]
  rw [mgetH_absM]
  rcases getAll use (mgetH st t) with ⟨c, h1⟩
  obtain ⟨o, s1, e, e', hg1⟩ :=
    onlyOne_refines R st.sss (capHandle st.sets h1.view c) second rnone scalar hg hc
  dsimp only
  rw [e, e', hc, msetH_absM]
  exact ⟨rfl, hg1⟩

theorem mstep_refines (R : Refines O good abs) (pol : Policy) (use : Bool) (st : MSt σ) (op : Op)
    (hg : good st.src) (hz : (mstep O pol use st op).1.2 = false) :
    mstep Plain.ops pol use (absM abs st) op = ((mstep O pol use st op).1, absM abs (mstep O pol use st op).2) ∧
    good (mstep O pol use st op).2.src := by
  have fin : ∀ (t : Tgt) (out : Out × Bool) (h1 : MHandle) (ss : List (List Key)) {s1 : σ}, good s1 →
      (out, ({ msetH (absM abs st) t h1 with src := abs s1, sets := ss } : MSt Plain)) =
        (out, absM abs { msetH st t h1 with src := s1, sets := ss }) ∧ good s1 :=
    fun t out h1 ss s1 hg1 => ⟨by rw [msetH_absM]; rfl, hg1⟩
  cases op with
  | unique t u =>
    dsimp only [mstep, absM_sets]
    rw [mgetH_absM, isR_absM, msetH_absM]
    exact ⟨rfl, (msetH_src st t _).symm ▸ hg⟩
  | columns t idxs =>
    dsimp only [mstep]
    rw [absM_sss, absM_width, mgetH_absM]
    by_cases hc : (st.sss && idxs.length == 1) = true
    · rw [if_pos hc, if_pos hc, msetH_absM]; exact ⟨rfl, (msetH_src st t _).symm ▸ hg⟩
    · rw [if_neg hc, if_neg hc]
      cases reduceCols st.width (mgetH st t).cols idxs with
      | none =>
        dsimp only
        rw [msetH_absM]
        exact ⟨rfl, (msetH_src st t _).symm ▸ hg⟩
      | some c =>
        dsimp only
        rw [msetH_absM]
        exact ⟨rfl, (msetH_src st t _).symm ▸ hg⟩
  | yieldPer t n =>
    have hl : O.ypLossy st.src = false := by
      cases h : O.ypLossy st.src with
      | false => rfl
      | true => dsimp only [mstep] at hz; rw [h] at hz; exact nomatch hz
    obtain ⟨ha, hg'⟩ := R.yieldPer n st.src hg hl
    refine ⟨?_, hg'⟩
    dsimp only [mstep, absM_src]
    rw [isR_absM, ← ha, hl]
    rfl
  | scalars i =>
    dsimp only [mstep]
    rw [absM_sss, absM_width, absM_r]
    by_cases hc : st.sss = true
    · rw [if_pos hc, if_pos hc]; exact ⟨rfl, hg⟩
    · rw [if_neg hc, if_neg hc]
      cases reduceCols st.width st.r.cols [i] <;> exact ⟨rfl, hg⟩
  | mappings => exact ⟨rfl, hg⟩
  | fetchone t =>
    dsimp only [mstep, absM_src, absM_sss, absM_sets]
    rw [mgetH_absM]
    rcases getOne use (mgetH st t) with ⟨c, h1⟩
    obtain ⟨o, h', s', e, e', hg'⟩ := onerow_refines R false st.sss (capHandle st.sets h1.view c) hg
    dsimp only
    rw [e, e']
    exact fin t _ h1 _ hg'
  | next t =>
    dsimp only [mstep, absM_src, absM_sss, absM_sets]
    rw [mgetH_absM]
    rcases getOne use (mgetH st t) with ⟨c, h1⟩
    obtain ⟨o, h', s', e, e', hg'⟩ := onerow_refines R false st.sss (capHandle st.sets h1.view c) hg
    dsimp only
    rw [e, e']
    obtain _ | _ | _ := o <;> exact fin t _ h1 _ hg'
  | fetchmany t n =>
    revert hz
    dsimp only [mstep, absM_src, absM_sss, absM_sets, absM_yp]
    rw [mgetH_absM]
    rcases getMany use (mgetH st t) st.yp with ⟨c, h1⟩
    dsimp only
    intro hz
    have heff : effSize n c.yp ≠ some 0 := by
      split at hz <;> exact beq_eq_false_iff_ne.1 hz
    obtain ⟨o, h', s', e, e', hg'⟩ := manyrows_refines R st.sss c.yp (capHandle st.sets h1.view c) n hg heff
    rw [e, e']
    cases o <;> exact fin t _ h1 _ hg'
  | fetchall t =>
    dsimp only [mstep, absM_src, absM_sss, absM_sets]
    rw [mgetH_absM]
    rcases getAll use (mgetH st t) with ⟨c, h1⟩
    obtain ⟨o, h', s', e, e', hg'⟩ := allrows_refines R st.sss (capHandle st.sets h1.view c) hg
    dsimp only
    rw [e, e']
    exact fin t _ h1 _ hg'
  | iter t k =>
    dsimp only [mstep, absM_src, absM_sss, absM_sets]
    rw [mgetH_absM]
    rcases getIter use (mgetH st t) with ⟨c, h1⟩
    obtain ⟨o, h', s', e, e', hg'⟩ := iterLoop_refines R st.sss k (capHandle st.sets h1.view c) hg
    dsimp only
    rw [e, e']
    cases o <;> exact fin t _ h1 _ hg'
  | partitions t n k =>
    revert hz
    dsimp only [mstep, absM_src, absM_sss, absM_sets, absM_yp]
    rw [mgetH_absM]
    rcases getMany use (mgetH st t) st.yp with ⟨c, h1⟩
    dsimp only
    intro hz
    have heff : effSize n c.yp ≠ some 0 := by
      split at hz <;> exact beq_eq_false_iff_ne.1 hz
    obtain ⟨o, h', s', e, e', hg'⟩ :=
      partLoop_refines R st.sss c.yp n heff k (capHandle st.sets h1.view c) hg
    rw [e, e']
    cases o <;> exact fin t _ h1 _ hg'
  | first t => exact only_refines R use st t false false false hg hz
  | one t => exact only_refines R use st t true true false hg hz
  | oneOrNone t => exact only_refines R use st t true false false hg hz
  | scalar => exact only_refines R use st .r false false true hg hz
  | scalarOne => exact only_refines R use st .r true true true hg hz
  | scalarOneOrNone => exact only_refines R use st .r true false true hg hz
  | close t =>
    exact ⟨congrArg (fun p => ((Out.unit, false), ({ absM abs st with src := p } : MSt Plain)))
      (R.softClose true st.src hg).1.symm, (R.softClose true st.src hg).2⟩
  | closed t => exact ⟨congrArg (fun b => ((Out.bool b, false), absM abs st)) (R.isHard st.src).symm, hg⟩
  | freeze =>
    dsimp only [mstep]
    rw [absM_src, absM_sss, absM_width, absM_r, absM_sets]
    by_cases hc : st.sss = true
    · rw [if_pos hc, if_pos hc]
      rw [R.drainRaw_fst hg]
      exact ⟨congrArg (fun p => ((Out.unit, false), ({ absM abs st with
          src := p, yp := none, ypKind := 0, sets := [], r := MHandle.init, v := none } : MSt Plain)))
        (R.ofList _).1.symm, (R.ofList _).2⟩
    · rw [if_neg hc, if_neg hc]
      rcases getAll use st.r with ⟨c, h1⟩
      obtain ⟨o, h', s', e, e', hg'⟩ := allrows_refines R false (capHandle st.sets View.rows c) hg
      dsimp only
      rw [e, e']
      cases o with
      | items l =>
        exact ⟨congrArg (fun p => ((Out.unit, false), ({
            src := p, sss := false, width := _, yp := none, ypKind := 0, sets := [], r := MHandle.init,
            v := none } : MSt Plain)))
          (R.ofList _).1.symm, (R.ofList _).2⟩
      | _ => exact ⟨rfl, hg'⟩

end Generic

/-- what any getter built *now* would capture -/
def capOf (h : MHandle) (yp : Option Nat) : Cap := { cols := h.cols, uq := h.uq, yp := yp }

def MHandle.fresh (h : MHandle) (yp : Option Nat) : Prop :=
  (∀ c, h.memo.rowG = some c → c = h.cols) ∧ (∀ u, h.memo.us = some u → h.uq = some u) ∧
  (∀ c, h.memo.one = some c → c = capOf h none) ∧ (∀ c, h.memo.iter = some c → c = capOf h none) ∧
  (∀ c, h.memo.many = some c → c = capOf h yp)

theorem MHandle.fresh.intro {h : MHandle} {yp : Option Nat} (rowG : ∀ c, h.memo.rowG = some c → c = h.cols)
    (us : ∀ u, h.memo.us = some u → h.uq = some u) (one : ∀ c, h.memo.one = some c → c = capOf h none)
    (iter : ∀ c, h.memo.iter = some c → c = capOf h none) (many : ∀ c, h.memo.many = some c → c = capOf h yp) :
    h.fresh yp :=
  ⟨rowG, us, one, iter, many⟩

section
variable {h : MHandle} {yp : Option Nat} (hf : h.fresh yp)
include hf
theorem MHandle.fresh.rowG : ∀ c, h.memo.rowG = some c → c = h.cols := hf.1
theorem MHandle.fresh.us : ∀ u, h.memo.us = some u → h.uq = some u := hf.2.1
theorem MHandle.fresh.one : ∀ c, h.memo.one = some c → c = capOf h none := hf.2.2.1
theorem MHandle.fresh.iter : ∀ c, h.memo.iter = some c → c = capOf h none := hf.2.2.2.1
theorem MHandle.fresh.many : ∀ c, h.memo.many = some c → c = capOf h yp := hf.2.2.2.2
end

def MHandle.core (h : MHandle) : MHandle := { h with memo := Memo.empty }

theorem core_core (h : MHandle) : h.core.core = h.core := rfl

theorem capOf_core (h : MHandle) (y : Option Nat) : capOf h.core y = capOf h y := rfl

theorem empty_fresh (h : MHandle) (yp : Option Nat) (he : h.memo = Memo.empty) : h.fresh yp := by
  simp only [MHandle.fresh, he, Memo.empty, reduceCtorEq, false_imp_iff, implies_true, and_self]

theorem core_fresh (h : MHandle) (yp : Option Nat) : h.core.fresh yp := empty_fresh _ _ rfl

theorem core_eq_fields {a b : MHandle} (h : a.core = b.core) :
    a.view = b.view ∧ a.cols = b.cols ∧ a.uq = b.uq :=
  ⟨(congrArg MHandle.view h :), (congrArg MHandle.cols h :), (congrArg MHandle.uq h :)⟩

theorem fresh_set_memo {h : MHandle} {yp : Option Nat} (hf : h.fresh yp) (m : Memo)
    (h1 : ∀ c, m.rowG = some c → c = h.cols) (h2 : ∀ u, m.us = some u → h.uq = some u)
    (h3 : ∀ c, m.one = some c → c = capOf h none) (h4 : ∀ c, m.iter = some c → c = capOf h none)
    (h5 : ∀ c, m.many = some c → c = capOf h yp) : ({ h with memo := m } : MHandle).fresh yp :=
  .intro h1 h2 h3 h4 h5

/-- `yp`: the state's `yield_per`; `y`: the one `get` captures -/
def Reads (yp : Option Nat) (get : MHandle → Cap × MHandle) (y : Option Nat) : Prop :=
  ∀ {h : MHandle}, h.fresh yp → ∃ h', get h = (capOf h y, h') ∧ h'.core = h.core ∧ h'.fresh yp

theorem getRowG_reads {h : MHandle} {yp : Option Nat} (hf : h.fresh yp) :
    ∃ h', getRowG true h = (h.cols, h') ∧ h'.core = h.core ∧ h'.fresh yp := by
  unfold getRowG
  rw [if_pos rfl]
  cases hr : h.memo.rowG with
  | some c => exact ⟨h, by rw [hf.rowG c hr], rfl, hf⟩
  | none => exact ⟨_, rfl, rfl, .intro (rowG := fun c hc => (Option.some.inj hc).symm) hf.us hf.one hf.iter hf.many⟩

theorem getUS_reads {h : MHandle} {yp : Option Nat} (hf : h.fresh yp) :
    ∃ h', getUS true h = (h.uq, h') ∧ h'.core = h.core ∧ h'.fresh yp := by
  unfold getUS
  rw [if_pos rfl]
  cases hr : h.memo.us with
  | some u => exact ⟨h, by rw [hf.us u hr], rfl, hf⟩
  | none => exact ⟨_, rfl, rfl, .intro (us := fun u hu => hu) hf.rowG hf.one hf.iter hf.many⟩

theorem getUS_fresh {h : MHandle} {yp : Option Nat} (hf : h.fresh yp) :
    (getUS true h).1 = h.uq ∨ (∃ u, h.memo.us = some u ∧ (getUS true h).1 = some u ∧ h.uq = some u) := by
  obtain ⟨h', e, -⟩ := getUS_reads hf
  exact .inl (congrArg Prod.fst e)

theorem mkCap_reads {yp0 : Option Nat} (yp : Option Nat) : Reads yp0 (mkCap true · yp) yp := by
  intro h hf
  obtain ⟨h1, e1, c1, f1⟩ := getRowG_reads hf
  dsimp only [mkCap, capOf]
  rw [e1]
  dsimp only
  cases hu : h.uq with
  | none => exact ⟨h1, rfl, c1, f1⟩
  | some u =>
    obtain ⟨h2, e2, c2, f2⟩ := getUS_reads f1
    rw [e2, (core_eq_fields c1).2.2, hu]
    exact ⟨h2, rfl, c2.trans c1, f2⟩

/-- The `match` is the common body of `getOne`, `getIter` and `getMany` once `if use` is decided, with
    `m` the getter's memo field and `set` the update that stores into it. -/
theorem memo_reads {yp0 yp : Option Nat} {h : MHandle} (hf : h.fresh yp0) (m : Option Cap)
    (hm : ∀ c, m = some c → c = capOf h yp) (set : MHandle → Cap → MHandle)
    (hset : ∀ h' : MHandle, h'.core = h.core → h'.fresh yp0 →
      (set h' (capOf h yp)).core = h.core ∧ (set h' (capOf h yp)).fresh yp0) :
    ∃ h', (match m with
        | some c => (c, h)
        | none => match mkCap true h yp with
          | (c, h') => (c, set h' c)) = (capOf h yp, h') ∧ h'.core = h.core ∧ h'.fresh yp0 := by
  cases m with
  | some c => exact ⟨h, by rw [hm c rfl], rfl, hf⟩
  | none =>
    obtain ⟨h', e, c', f'⟩ := mkCap_reads yp hf
    dsimp only at e ⊢
    rw [e]
    exact ⟨_, rfl, hset h' c' f'⟩

theorem capOf_congr {a b : MHandle} (h : a.core = b.core) (y : Option Nat) : capOf a y = capOf b y :=
  (congrArg (capOf · y) h :)

theorem getOne_reads {yp0 : Option Nat} : Reads yp0 (getOne true) none := fun {h} hf => by
  unfold getOne
  rw [if_pos rfl]
  exact memo_reads hf h.memo.one hf.one (fun h' c => { h' with memo := { h'.memo with one := some c } })
    fun h' c' f' => ⟨c', .intro (one := fun c hc => (Option.some.inj hc).symm.trans (capOf_congr c' none).symm)
      f'.rowG f'.us f'.iter f'.many⟩

theorem getIter_reads {yp0 : Option Nat} : Reads yp0 (getIter true) none := fun {h} hf => by
  unfold getIter
  rw [if_pos rfl]
  exact memo_reads hf h.memo.iter hf.iter (fun h' c => { h' with memo := { h'.memo with iter := some c } })
    fun h' c' f' => ⟨c', .intro (iter := fun c hc => (Option.some.inj hc).symm.trans (capOf_congr c' none).symm)
      f'.rowG f'.us f'.one f'.many⟩

theorem getMany_reads {yp0 : Option Nat} : Reads yp0 (getMany true · yp0) yp0 := fun {h} hf => by
  dsimp only [getMany]
  rw [if_pos rfl]
  exact memo_reads hf h.memo.many hf.many (fun h' c => { h' with memo := { h'.memo with many := some c } })
    fun h' c' f' => ⟨c', .intro (many := fun c hc => (Option.some.inj hc).symm.trans (capOf_congr c' yp0).symm)
      f'.rowG f'.us f'.one f'.iter⟩

theorem getAll_reads {yp0 : Option Nat} : Reads yp0 (getAll true) none := mkCap_reads none

section Transparent
variable {σ : Type} (O : SrcOps σ)

def forget (st : MSt σ) : MSt σ := { st with r := st.r.core, v := st.v.map MHandle.core }

def MSt.fresh (st : MSt σ) : Prop := st.r.fresh st.yp ∧ ∀ hv, st.v = some hv → hv.fresh st.yp

theorem forget_src (st : MSt σ) : (forget st).src = st.src := rfl
theorem forget_sss (st : MSt σ) : (forget st).sss = st.sss := rfl
theorem forget_width (st : MSt σ) : (forget st).width = st.width := rfl
theorem forget_yp (st : MSt σ) : (forget st).yp = st.yp := rfl
theorem forget_sets (st : MSt σ) : (forget st).sets = st.sets := rfl
theorem forget_r (st : MSt σ) : (forget st).r = st.r.core := rfl

theorem mgetH_forget (st : MSt σ) (t : Tgt) : mgetH (forget st) t = (mgetH st t).core := by
  cases t with
  | r => rfl
  | v => unfold mgetH forget; cases st.v <;> rfl

theorem isR_forget (st : MSt σ) (t : Tgt) : isR (forget st) t = isR st t := by
  cases t with
  | r => rfl
  | v => unfold isR forget; cases st.v <;> rfl

theorem mgetH_fresh {st : MSt σ} (hf : st.fresh) (t : Tgt) : (mgetH st t).fresh st.yp := by
  cases t with
  | r => exact hf.1
  | v =>
    unfold mgetH
    cases hv : st.v with
    | none => exact hf.1
    | some h => exact hf.2 h hv

theorem forget_msetH (st : MSt σ) (t : Tgt) {a b : MHandle} (hab : a.core = b.core) :
    forget (msetH st t a) = forget (msetH (forget st) t b) := by
  cases t with
  | r =>
    unfold msetH forget
    dsimp only
    rw [hab, Option.map_map]
    rfl
  | v =>
    unfold msetH forget
    cases st.v with
    | none =>
      dsimp only
      rw [hab]
      rfl
    | some x =>
      dsimp only [Option.map]
      rw [hab]
      rfl

theorem fresh_msetH {st : MSt σ} (hf : st.fresh) (t : Tgt) {a : MHandle} (ha : a.fresh st.yp) :
    (msetH st t a).fresh := by
  cases t with
  | r => exact ⟨ha, hf.2⟩
  | v =>
    unfold msetH
    cases hv : st.v with
    | none => exact ⟨ha, fun x hx => nomatch (hx : none = some x)⟩
    | some h => exact ⟨hf.1, fun x hx => Option.some.inj hx ▸ ha⟩

theorem reset_core (h : MHandle) (b : Bool) : (h.reset b).core = h.core := by
  cases b <;> rfl

theorem reset_core_congr {a b : MHandle} (h : a.core = b.core) (x y : Bool) :
    (a.reset x).core = (b.reset y).core :=
  (reset_core a x).trans (h.trans (reset_core b y).symm)

theorem reset_memo {h : MHandle} {b : Bool} (hs : (!b && h.memo != Memo.empty) = false) :
    (h.reset b).memo = Memo.empty := by
  cases b with
  | true => rfl
  | false => exact bne_eq_false_iff_eq.1 hs

theorem fresh_yp {h : MHandle} {yp yp' : Option Nat} (hf : h.fresh yp) (hm : h.memo.many = none) : h.fresh yp' :=
  .intro (many := fun _ hc => nomatch hm.symm.trans hc) hf.rowG hf.us hf.one hf.iter

theorem Reads.transparent {get : MHandle → Cap × MHandle} {y : Option Nat} {st : MSt σ}
    (hget : Reads st.yp get y) (hf : st.fresh) (t : Tgt) :
    ∃ a b, get (mgetH st t) = (capOf (mgetH st t) y, a) ∧ get (mgetH (forget st) t) = (capOf (mgetH st t) y, b) ∧
      a.view = (mgetH st t).view ∧ b.view = (mgetH st t).view ∧ a.core = b.core ∧ a.fresh st.yp := by
  obtain ⟨a, ea, ca, fa⟩ := hget (mgetH_fresh hf t)
  obtain ⟨b, eb, cb, -⟩ := hget (core_fresh (mgetH st t) st.yp)
  rw [mgetH_forget]
  exact ⟨a, b, ea, eb, (core_eq_fields ca).1, (core_eq_fields cb).1, ca.trans cb.symm, fa⟩

theorem reset_fresh_yp {h : MHandle} {yp yp' : Option Nat} {b : Bool} (hf : h.fresh yp)
    (hs : (!b && h.memo.many.isSome) = false) : (h.reset b).fresh yp' := by
  cases b with
  | true => exact empty_fresh _ _ rfl
  | false =>
    cases hm : h.memo.many with
    | none => exact fresh_yp hf hm
    | some c => rw [hm] at hs; exact nomatch hs

theorem only_transparent (st : MSt σ) (t : Tgt) (second rnone scalar : Bool) (hf : st.fresh) :
    (mstep.only O true st t second rnone scalar).1.1 =
      (mstep.only O true (forget st) t second rnone scalar).1.1 ∧
    forget (mstep.only O true st t second rnone scalar).2 =
      forget (mstep.only O true (forget st) t second rnone scalar).2 ∧
    (mstep.only O true st t second rnone scalar).2.fresh := by
  obtain ⟨x, y, ex, ey, vx, vy, hc, fx⟩ := getAll_reads.transparent hf t
  dsimp only [mstep.only, forget_sss, forget_sets, forget_src]
  rw [ex, ey]
  dsimp only
  rw [vx, vy]
  rcases onlyOne O st.sss (capHandle st.sets (mgetH st t).view (capOf (mgetH st t) none)) second rnone
    scalar st.src with ⟨o, s'⟩
  exact ⟨rfl, congrArg (fun z : MSt σ => ({ z with src := s' } : MSt σ)) (forget_msetH st t hc),
    fresh_msetH hf t fx⟩

theorem forget_forget (st : MSt σ) : forget (forget st) = forget st := by
  unfold forget
  cases st.v <;> rfl

theorem mstep_transparent (pol : Policy) (st : MSt σ) (op : Op) (hf : st.fresh)
    (hz : (mstep O pol true st op).1.2 = false) :
    (mstep O pol true st op).1.1 = (mstep O pol true (forget st) op).1.1 ∧
    forget (mstep O pol true st op).2 = forget (mstep O pol true (forget st) op).2 ∧
    (mstep O pol true st op).2.fresh := by
  -- `out = out` gives `fin` the shape of the goal in every case that hands out rows
  have fin : ∀ (t : Tgt) {a b : MHandle} (out : Out) (s' : σ) (ss : List (List Key)), a.core = b.core →
      a.fresh st.yp → out = out ∧
        forget ({ msetH st t a with src := s', sets := ss } : MSt σ) =
          forget ({ msetH (forget st) t b with src := s', sets := ss } : MSt σ) ∧
        ({ msetH st t a with src := s', sets := ss } : MSt σ).fresh :=
    fun t _ _ _ s' ss hc fa =>
      ⟨rfl, congrArg (fun z : MSt σ => ({ z with src := s', sets := ss } : MSt σ)) (forget_msetH st t hc),
        fresh_msetH hf t fa⟩
  have hinit : (MHandle.init).fresh none := empty_fresh _ _ rfl
  cases op with
  | unique t u =>
    dsimp only [mstep, forget_sets]
    rw [mgetH_forget, isR_forget]
    exact ⟨rfl, congrArg (fun z : MSt σ => ({ z with sets := st.sets ++ [[]] } : MSt σ))
      (forget_msetH st t (reset_core_congr (by rfl) _ _)),
      fresh_msetH hf t (empty_fresh _ _ (reset_memo hz))⟩
  | columns t idxs =>
    revert hz
    dsimp only [mstep]
    rw [forget_sss, forget_width, mgetH_forget]
    have hcore : ((mgetH st t).reset pol.columnSlices).core = ((mgetH st t).core.reset pol.columnSlices).core :=
      reset_core_congr (by rfl) _ _
    by_cases hc : (st.sss && idxs.length == 1) = true
    · rw [if_pos hc, if_pos hc]
      exact fun hz => ⟨rfl, forget_msetH st t hcore, fresh_msetH hf t (empty_fresh _ _ (reset_memo hz))⟩
    · rw [if_neg hc, if_neg hc]
      rw [show (mgetH st t).core.cols = (mgetH st t).cols from rfl]
      cases reduceCols st.width (mgetH st t).cols idxs with
      | none =>
        exact fun hz => ⟨rfl, forget_msetH st t hcore, fresh_msetH hf t (empty_fresh _ _ (reset_memo hz))⟩
      | some c =>
        refine fun hz => ⟨rfl, forget_msetH st t ?_, fresh_msetH hf t (empty_fresh _ _ (reset_memo hz))⟩
        cases pol.columnSlices <;> rfl
  | yieldPer t n =>
    dsimp only [mstep] at hz ⊢
    rw [isR_forget]
    simp only [Bool.or_eq_false_iff] at hz
    obtain ⟨⟨-, hsr⟩, hsv⟩ := hz
    refine ⟨rfl, ?_, reset_fresh_yp hf.1 hsr, ?_⟩
    · unfold forget
      dsimp only
      rw [reset_core_congr (a := st.r) (b := st.r.core) rfl]
      cases st.v with
      | none => rfl
      | some h0 => dsimp only [Option.map]; rw [reset_core_congr (a := h0) (b := h0.core) rfl]
    · revert hsv
      cases hv : st.v with
      | none => exact fun _ x hx => nomatch (hx : none = some x)
      | some h0 =>
        intro hsv x hx
        obtain rfl := Option.some.inj hx
        exact reset_fresh_yp (hf.2 h0 hv) hsv
  | scalars i =>
    dsimp only [mstep]
    rw [forget_sss, forget_width, forget_r, show st.r.core.cols = st.r.cols from rfl,
      show st.r.core.uq = st.r.uq from rfl]
    have hnew : ∀ (c : Option (List Nat)) (x : MHandle),
        some ({ view := View.scalars, cols := c, uq := st.r.uq, memo := Memo.empty } : MHandle) = some x →
        x.fresh st.yp := fun c x hx => Option.some.inj hx ▸ empty_fresh _ _ rfl
    by_cases hc : st.sss = true
    · rw [if_pos hc, if_pos hc]; exact ⟨rfl, rfl, hf.1, hnew _⟩
    · rw [if_neg hc, if_neg hc]
      cases reduceCols st.width st.r.cols [i] with
      | none => exact ⟨rfl, (forget_forget st).symm, hf⟩
      | some c => exact ⟨rfl, rfl, hf.1, hnew _⟩
  | mappings => exact ⟨rfl, rfl, hf.1, fun x hx => Option.some.inj hx ▸ empty_fresh _ _ rfl⟩
  | fetchone t =>
    obtain ⟨a, b, ea, eb, va, vb, hc, fa⟩ := getOne_reads.transparent hf t
    dsimp only [mstep, forget_sss, forget_sets, forget_src]
    rw [ea, eb]
    dsimp only
    rw [va, vb]
    exact fin t _ _ _ hc fa
  | next t =>
    obtain ⟨a, b, ea, eb, va, vb, hc, fa⟩ := getOne_reads.transparent hf t
    dsimp only [mstep, forget_sss, forget_sets, forget_src]
    rw [ea, eb]
    dsimp only
    rw [va, vb]
    rcases onerow O false st.sss (capHandle st.sets (mgetH st t).view (capOf (mgetH st t) none)) st.src
      with ⟨_ | _ | _, h', s'⟩ <;> exact fin t _ s' _ hc fa
  | fetchmany t n =>
    obtain ⟨a, b, ea, eb, va, vb, hc, fa⟩ := getMany_reads.transparent hf t
    dsimp only [mstep, forget_sss, forget_sets, forget_src, forget_yp]
    rw [ea, eb]
    dsimp only
    rw [va, vb]
    rcases manyrows O st.sss (capOf (mgetH st t) st.yp).yp (capHandle st.sets (mgetH st t).view (capOf (mgetH st t) st.yp)) n st.src
      with ⟨_ | _, h', s'⟩ <;> exact fin t _ s' _ hc fa
  | fetchall t =>
    obtain ⟨a, b, ea, eb, va, vb, hc, fa⟩ := getAll_reads.transparent hf t
    dsimp only [mstep, forget_sss, forget_sets, forget_src]
    rw [ea, eb]
    dsimp only
    rw [va, vb]
    exact fin t _ _ _ hc fa
  | iter t k =>
    obtain ⟨a, b, ea, eb, va, vb, hc, fa⟩ := getIter_reads.transparent hf t
    dsimp only [mstep, forget_sss, forget_sets, forget_src]
    rw [ea, eb]
    dsimp only
    rw [va, vb]
    rcases iterLoop O st.sss k (capHandle st.sets (mgetH st t).view (capOf (mgetH st t) none)) st.src
      with ⟨_ | _, h', s'⟩ <;> exact fin t _ s' _ hc fa
  | partitions t n k =>
    obtain ⟨a, b, ea, eb, va, vb, hc, fa⟩ := getMany_reads.transparent hf t
    dsimp only [mstep, forget_sss, forget_sets, forget_src, forget_yp]
    rw [ea, eb]
    dsimp only
    rw [va, vb]
    rcases partLoop O st.sss (capOf (mgetH st t) st.yp).yp n k (capHandle st.sets (mgetH st t).view (capOf (mgetH st t) st.yp)) st.src
      with ⟨_ | _, h', s'⟩ <;> exact fin t _ s' _ hc fa
  | first t => exact only_transparent O st t false false false hf
  | one t => exact only_transparent O st t true true false hf
  | oneOrNone t => exact only_transparent O st t true false false hf
  | scalar => exact only_transparent O st .r false false true hf
  | scalarOne => exact only_transparent O st .r true true true hf
  | scalarOneOrNone => exact only_transparent O st .r true false true hf
  | close t => exact ⟨rfl, congrArg (fun z : MSt σ => ({ z with src := O.softClose true st.src } : MSt σ))
      (forget_forget st).symm, hf⟩
  | closed t => exact ⟨rfl, (forget_forget st).symm, hf⟩
  | freeze =>
    dsimp only [mstep]
    rw [forget_sss, forget_sets, forget_src, forget_width, forget_r]
    by_cases hc : st.sss = true
    · rw [if_pos hc, if_pos hc]; exact ⟨rfl, rfl, hinit, fun _ hx => nomatch (hx : none = some _)⟩
    · rw [if_neg hc, if_neg hc]
      obtain ⟨a, ea, ca, fa⟩ := getAll_reads hf.1
      obtain ⟨b, eb, cb, -⟩ := getAll_reads (core_fresh st.r st.yp)
      rw [ea, eb, capOf_core]
      dsimp only
      rcases allrows O false (capHandle st.sets View.rows (capOf st.r none)) st.src with ⟨o, h', s'⟩
      have key : ∀ ss, forget ({ st with r := a, src := s', sets := ss } : MSt σ) =
          forget ({ forget st with r := b, src := s', sets := ss } : MSt σ) := fun ss => by
        unfold forget
        dsimp only
        rw [ca, cb, Option.map_map]
        rfl
      cases o with
      | items l => exact ⟨rfl, rfl, hinit, fun _ hx => nomatch (hx : none = some _)⟩
      | _ => exact ⟨rfl, key _, fa, hf.2⟩

end Transparent
end SaVerif.Result
