import SaVerif.Lemmas.ExprTree
import SaVerif.Model.ExprGrammar
/-!
The grammar side: `coreCompat g` in the form the proofs use (`Compat`, `compat_of_bool`), and `Disc.ok`:
the binding powers of a compatible grammar order the operators as the table does, so a `Disc` tree is
`Pratt.ok`; tightness and `allExp` come from `Exp`.  No `SaExpr` here.
-/
namespace SaVerif.Expr
open SaVerif.Expr.Gen SaVerif.Pratt

structure LikeFacts (g : Grammar) : Prop where
  tern : ∀ o, likeOp o = true → ∃ bp3, g.ternBp (symOf o) = some (.escape, bp3, false)
  esc_none : g.infixBp .escape = none
  same_i : g.infixBp .ilike = g.infixBp .like
  same_t : g.ternBp .ilike = g.ternBp .like
  same_ni : g.infixBp .notIlike = g.infixBp .notLike
  same_nt : g.ternBp .notIlike = g.ternBp .notLike

theorem like_of_bool (g : Grammar) (h : likeCompat g = true) : LikeFacts g := by
  simp only [likeCompat, Bool.and_eq_true, List.all_eq_true, decide_eq_true_eq, Option.isNone_iff_eq_none] at h
  obtain ⟨⟨⟨⟨⟨h1, h2⟩, h3⟩, h4⟩, h5⟩, h6⟩ := h
  refine ⟨fun o ho => ?_, h2, h3, h4, h5, h6⟩
  have := h1 o (likeOp_mem_likeOps ho)
  split at this
  next bp3 hq => exact ⟨bp3, hq⟩
  next => cases this

structure BtwFacts (g : Grammar) : Prop where
  tern : ∀ o, btwOp o = true → ∃ bp3, g.ternBp (symOf o) = some (.and_, bp3, true)
  stop : ∀ o, btwOp o = true → ∀ lbp rbp, g.infixBp (symOf o) = some (lbp, rbp) →
    stops g rbp (some .and_) = true
  hi_inf : ∀ o, btwOp o = true → ∀ bp3, g.ternBp (symOf o) = some (.and_, bp3, true) →
    ∀ o' ∈ coreInfix, precOf .between_op < precOf o' → bp3 ≤ infBase g o'
  hi_pre : ∀ o, btwOp o = true → ∀ bp3, g.ternBp (symOf o) = some (.and_, bp3, true) →
    ∀ u ∈ corePrefix, precOf .between_op < precOf u → bp3 ≤ preBase g u

theorem btw_of_bool (g : Grammar) (h : btwCompat g = true) : BtwFacts g := by
  simp only [btwCompat, List.all_eq_true] at h
  have key : ∀ o, btwOp o = true → ∃ lbp rbp bp3, g.infixBp (symOf o) = some (lbp, rbp) ∧
      g.ternBp (symOf o) = some (.and_, bp3, true) ∧ stops g rbp (some .and_) = true ∧
      (∀ o' ∈ coreInfix, precOf .between_op < precOf o' → bp3 ≤ infBase g o') ∧
      (∀ u ∈ corePrefix, precOf .between_op < precOf u → bp3 ≤ preBase g u) := by
    intro o ho
    have := h o (btwOp_mem_btwOps ho)
    split at this
    next lbp rbp bp3 hb hq =>
      simp only [Bool.and_eq_true, List.all_eq_true, Bool.or_eq_true, Bool.not_eq_eq_eq_not, Bool.not_true,
        decide_eq_false_iff_not, Int.not_lt, decide_eq_true_eq] at this
      obtain ⟨⟨hstop, hinf⟩, hpre⟩ := this
      exact ⟨lbp, rbp, bp3, hb, hq, hstop,
        fun o' ho' hlt => (hinf o' ho').resolve_left (Int.not_le.2 hlt),
        fun u hu hlt => (hpre u hu).resolve_left (Int.not_le.2 hlt)⟩
    next => cases this
  refine ⟨fun o ho => ?_, fun o ho lbp rbp hb => ?_, fun o ho bp3 hq => ?_, fun o ho bp3 hq => ?_⟩
  all_goals obtain ⟨l', r', b3, hb', hq', hs, h1, h2⟩ := key o ho
  · exact ⟨b3, hq'⟩
  · cases hb'.symm.trans hb; exact hs
  · cases hq'.symm.trans hq; exact h1
  · cases hq'.symm.trans hq; exact h2

/-- the `Bool` `coreCompat g` is what `decide` settles once per grammar, the fields that mention `g` are
    what is applied to an operator at hand; likewise `LikeFacts` for `likeCompat` and `BtwFacts` for `btwCompat` -/
structure Compat (g : Grammar) : Prop where
  inf_known : ∀ o ∈ coreInfix, ∃ lbp rbp, g.infixBp (symOf o) = some (lbp, rbp) ∧
    (ternOp o = false → g.ternBp (symOf o) = none) ∧ (precedence o).isSome = true
  pre_known : ∀ u ∈ corePrefix, ∃ bp, g.prefixBp (symOf u) = some bp ∧ (precedence u).isSome = true
  inf_inf : ∀ p ∈ coreInfix, p ≠ .concat_op → ∀ o ∈ coreInfix, ∀ lbp rbp,
    g.infixBp (symOf p) = some (lbp, rbp) →
    precOf p < precOf o → lbp + 1 ≤ infBase g o ∧ rbp ≤ infBase g o
  inf_pre : ∀ p ∈ coreInfix, ∀ u ∈ corePrefix, ∀ lbp rbp, g.infixBp (symOf p) = some (lbp, rbp) →
    precOf p < precOf u → lbp + 1 ≤ preBase g u ∧ rbp ≤ preBase g u
  pre_inf : ∀ u ∈ corePrefix, ∀ o ∈ coreInfix, precOf u < precOf o → preBase g u ≤ infBase g o
  pre_pre : ∀ u ∈ corePrefix, ∀ v ∈ corePrefix, precOf u < precOf v → preBase g u ≤ preBase g v
  nsp_assoc : ∀ o ∈ coreInfix, naturalSelfPrecedent o = true →
    G.assocSym (symOf o) = true ∧ ∃ lbp rbp, g.infixBp (symOf o) = some (lbp, rbp) ∧ lbp < rbp
  assoc_nsp : ∀ o ∈ coreInfix, G.assocSym (symOf o) = true → naturalSelfPrecedent o = true
  pre_not_nsp : ∀ u ∈ corePrefix, naturalSelfPrecedent u = false
  sep : ∃ sl sr, sl < sr ∧
    (∀ s, s.isSep = true → g.infixBp s = some (sl, sr) ∧ g.ternBp s = none) ∧
    (∀ o ∈ coreInfix, sr ≤ infBase g o) ∧ (∀ u ∈ corePrefix, sr ≤ preBase g u)
  bottom : (∀ o ∈ coreInfix, opSmallest - 1 < precOf o) ∧ (∀ u ∈ corePrefix, opSmallest - 1 < precOf u)
  add_div : precOf .add ≤ precOf .truediv
  like : LikeFacts g
  btw : BtwFacts g

theorem concatFull_spec (g : Grammar) (h : concatFull g = true) :
    ∀ o ∈ coreInfix, ∀ lbp rbp, g.infixBp .concat = some (lbp, rbp) →
      precOf .concat_op < precOf o → lbp + 1 ≤ infBase g o ∧ rbp ≤ infBase g o := by
  intro o ho lbp rbp hb hlt
  simp only [concatFull, hb, List.all_eq_true] at h
  simpa [hlt] using h o ho

theorem compat_of_bool (g : Grammar) (h : coreCompat g = true) : Compat g := by
  simp only [coreCompat, Bool.and_eq_true, List.all_eq_true] at h
  obtain ⟨⟨⟨⟨⟨⟨⟨hsep, hinf⟩, hpre⟩, hpar⟩, hun⟩, hnsp⟩, hassoc⟩, hpnsp⟩ := h
  unfold sepCompat at hsep
  split at hsep
  next => cases hsep
  next sl sr _ =>
    simp only [Bool.and_eq_true, List.all_eq_true, decide_eq_true_eq, beq_iff_eq] at hsep
    obtain ⟨⟨⟨⟨⟨⟨⟨⟨hlt, hsyms⟩, hsi⟩, hsp⟩, hbi⟩, hbp⟩, hdiv⟩, hlike⟩, hbtw⟩ := hsep
    exact {
      inf_known := fun o ho => by
        obtain ⟨⟨hb, ht⟩, hp⟩ := hinf o ho
        obtain ⟨⟨lbp, rbp⟩, hb⟩ := Option.isSome_iff_exists.1 hb
        exact ⟨lbp, rbp, hb, fun hl => by simpa [hl] using ht, hp⟩
      pre_known := fun u hu => by
        obtain ⟨bp, hb⟩ := Option.isSome_iff_exists.1 (hpre u hu).1
        exact ⟨bp, hb, (hpre u hu).2⟩
      inf_inf := fun p hp hpc o ho lbp rbp hb hlt => by
        have := hpar p hp
        simp only [hb, Bool.and_eq_true, List.all_eq_true] at this
        simpa [hlt, hpc] using this.1 o ho
      inf_pre := fun p hp u hu lbp rbp hb hlt => by
        have := hpar p hp
        simp only [hb, Bool.and_eq_true, List.all_eq_true] at this
        simpa [hlt] using this.2 u hu
      pre_inf := fun u hu o ho hlt => by simpa [hlt] using (hun u hu).1 o ho
      pre_pre := fun u hu v hv hlt => by simpa [hlt] using (hun u hu).2 v hv
      nsp_assoc := fun o ho hn => by
        obtain ⟨ha, hm⟩ : _ ∧ _ := by simpa [hn] using hnsp o ho
        split at hm
        next lbp rbp hb => exact ⟨ha, lbp, rbp, hb, of_decide_eq_true hm⟩
        next => cases hm
      assoc_nsp := fun o ho ha => by simpa [ha] using hassoc o ho
      pre_not_nsp := fun u hu => by simpa using hpnsp u hu
      sep := ⟨sl, sr, hlt, fun s hs => by
        have := hsyms s (by cases s <;> first | decide | cases hs)
        exact ⟨this.1, Option.isNone_iff_eq_none.1 this.2⟩, hsi, hsp⟩
      bottom := ⟨hbi, hbp⟩
      add_div := hdiv
      like := like_of_bool g hlike
      btw := btw_of_bool g hbtw }

theorem tight_closed (g : Grammar) (k : Nat) {x : G} (h : closedG x = true) : tight g k x = true := by
  cases x <;> first | rfl | cases h

theorem allExp_closed (P : Sym → Bool) {x : G} (h : closedG x = true) : allExp P x = true := by
  cases x <;> first | rfl | cases h

theorem le_of_le_infBase {g : Grammar} {o : Op} {lbp rbp k : Nat}
    (hb : g.infixBp (symOf o) = some (lbp, rbp)) (h : k ≤ infBase g o) : k ≤ lbp ∧ k ≤ rbp := by
  simp only [infBase, hb] at h
  split at h <;> omega

theorem le3_of_le_infBase {g : Grammar} {o : Op} {lbp rbp k bp3 : Nat} {m : Sym} {fl : Bool}
    (hb : g.infixBp (symOf o) = some (lbp, rbp)) (hq : g.ternBp (symOf o) = some (m, bp3, fl))
    (h : k ≤ infBase g o) : k ≤ lbp ∧ k ≤ rbp ∧ k ≤ bp3 := by
  simp only [infBase, hb, hq] at h
  omega

theorem tern_known {g : Grammar} (C : Compat g) {o : Op} (h : ternOp o = true) :
    ∃ m bp3 fl, g.ternBp (symOf o) = some (m, bp3, fl) := by
  rcases Bool.or_eq_true _ _ ▸ h with h | h
  · exact (C.like.tern o h).elim fun _ hq => ⟨_, _, _, hq⟩
  · exact (C.btw.tern o h).elim fun _ hq => ⟨_, _, _, hq⟩

/-- true of the modelled grammars (`prefixNoTern_sqlite` … in `Props/C01`); a hypothesis of `ok_renderList`,
    `sepOpnd_renderAll` and the C01 read-back theorems, which no proof reads -/
def prefixNoTern (g : Grammar) : Prop := ∀ u ∈ corePrefix, g.ternBp (symOf u) = none

theorem sep_not_assoc (s : Sym) (h : s.isSep = true) : G.assocSym s = false := by
  cases s <;> simp [Sym.isSep] at h <;> rfl

structure SepFacts (g : Grammar) (sl sr : Nat) : Prop where
  lt : sl < sr
  bp : ∀ s, s.isSep = true → g.infixBp s = some (sl, sr) ∧ g.ternBp s = none

def SepOpnd (g : Grammar) (sr : Nat) (x : G) : Prop :=
  ok g x = true ∧ tight g sr x = true ∧ ∀ s, s.isSep = true → allExp (notMidOf g (some s)) x = true

structure SepAcc (g : Grammar) (sl : Nat) (acc : G) : Prop where
  ok : ok g acc = true
  left : ∀ s, s.isSep = true →
    (tight g (sl + 1) acc = true ∧ allExp (notMidOf g (some s)) acc = true) ∨ sepLeft g s sl acc = true

theorem SepAcc.of_opnd {g : Grammar} {sl sr : Nat} (F : SepFacts g sl sr) {x : G} (h : SepOpnd g sr x) :
    SepAcc g sl x :=
  { ok := h.1, left := fun s hs => .inl ⟨tight_mono g (by have := F.lt; omega) x h.2.1, h.2.2 s hs⟩ }

theorem SepAcc.step {g : Grammar} {sl sr : Nat} (F : SepFacts g sl sr) {acc x : G} (s : Sym) (t : String)
    (hs : s.isSep = true) (ha : SepAcc g sl acc) (hx : SepOpnd g sr x) :
    SepAcc g sl (G.inf s t acc x) := by
  obtain ⟨hb, hq⟩ := F.bp s hs
  exact {
    ok := ok_inf hb (sep_not_assoc s hs) (.inl hq) ha.ok hx.1 (ha.left s hs) hx.2.1
    left := fun s' hs' => .inr (sepLeft_inf hs' hs (sep_not_assoc s hs) hb F.lt hq
      (tight_mono g (by have := F.lt; omega) x hx.2.1) (hx.2.2 s' hs')) }

theorem Exp.allExp {p : Int} (P : Sym → Bool)
    (hP : ∀ o ∈ coreInfix, btwOp o = false → P (symOf o) = true) {x : G} (h : Exp p x) :
    Pratt.allExp P x = true := by
  induction h with
  | closed hx => exact allExp_closed P hx
  | pre _ _ _ _ tc => exact tc
  | inf _ ho hb _ _ _ tl tr => exact allExp_inf.2 ⟨hP _ ho hb, tl, tr⟩
  | tern _ _ _ _ _ _ _ _ _ ta tb tc => exact allExp_tern.2 ⟨ta, tb, tc⟩

theorem SepAcc.of_sepOpnds {g : Grammar} {sl sr : Nat} (F : SepFacts g sl sr) :
    ∀ b : G, (∀ x ∈ sepOpnds b, SepOpnd g sr x) → SepAcc g sl b := by
  intro b
  induction b with
  | inf s t acc x iha _ =>
    intro h
    unfold sepOpnds at h
    split at h
    next hs =>
      exact SepAcc.step F s t hs (iha fun y hy => h y (by simp [hy])) (h x (by simp))
    next => exact SepAcc.of_opnd F (h _ (by simp))
  | _ => intro h; exact SepAcc.of_opnd F (h _ (by simp [sepOpnds]))

section Grammar
variable {full : Prop} {g : Grammar} (C : Compat g)
include C

theorem Exp.tight {p : Int} {k : Nat} (H : ∀ o ∈ coreInfix, p < precOf o → k ≤ infBase g o)
    (H' : ∀ u ∈ corePrefix, p < precOf u → k ≤ preBase g u) {x : G} (h : Exp p x) :
    tight g k x = true := by
  induction h with
  | closed hx => exact tight_closed g k hx
  | pre t hu hp _ tc =>
    obtain ⟨bp, hb, _⟩ := C.pre_known _ hu
    have h1 := H' _ hu hp
    simp only [preBase, hb, Option.getD_some] at h1
    exact tight_pre hb h1 tc
  | inf t ho _ hp _ _ tl tr =>
    obtain ⟨lbp, rbp, hb, _, _⟩ := C.inf_known _ ho
    obtain ⟨h1, h2⟩ := le_of_le_infBase hb (H _ ho hp)
    exact tight_inf hb h1 h2 tl tr
  | tern t m mt ho ht hp _ _ _ ta tb tc =>
    obtain ⟨lbp, rbp, hb, _, _⟩ := C.inf_known _ ho
    obtain ⟨m', bp3, fl, hq⟩ := tern_known C ht
    obtain ⟨h1, h2, h3⟩ := le3_of_le_infBase hb hq (H _ ho hp)
    exact tight_tern hb hq h1 h2 h3 ta tb tc

theorem Exp.notMid {p : Int} {s : Sym} (hs : s ≠ .escape) {x : G} (h : Exp p x) :
    Pratt.allExp (notMidOf g (some s)) x = true := by
  refine h.allExp _ fun o ho hnb => ?_
  obtain ⟨_, _, _, hq, _⟩ := C.inf_known o ho
  by_cases hl : likeOp o = true
  · obtain ⟨bp3, ht⟩ := C.like.tern o hl
    simp [notMidOf, ht, hs]
  · have hl' : likeOp o = false := by simpa using hl
    have ht : ternOp o = false := by simp [ternOp, hnb, hl']
    simp [notMidOf, hq ht]

/-- what `ok` asks of the operands of `o`, from `Opnd` -/
theorem Opnd.fits (hfull : full → concatFull g = true) {o : Op} (ho : o ∈ coreInfix)
    {lbp rbp : Nat} (hb : g.infixBp (symOf o) = some (lbp, rbp)) {c : G} (h : Opnd full o c) :
    (naturalSelfPrecedent o = true ∧ rootIs (symOf o) c = true) ∨
      (tight g (lbp + 1) c = true ∧ tight g rbp c = true ∧
        allExp (notMidOf g (some (symOf o))) c = true) := by
  rcases h with ⟨he, hcc⟩ | h
  · -- under `||`, where F1 is excluded, the operand may be closed instead
    have hII : (∀ o' ∈ coreInfix, precOf o < precOf o' → lbp + 1 ≤ infBase g o' ∧ rbp ≤ infBase g o') ∨
        closedG c = true := by
      by_cases hne : o = .concat_op
      · subst hne
        exact (hcc.resolve_left (absurd rfl)).imp_left fun h' o' ho' =>
          concatFull_spec g (hfull h') o' ho' lbp rbp hb
      · exact .inl fun o' ho' => C.inf_inf o ho hne o' ho' lbp rbp hb
    rcases hII with hII | hcl
    · exact .inr ⟨he.tight C (fun o' ho' h => (hII o' ho' h).1)
          (fun u hu h => (C.inf_pre o ho u hu lbp rbp hb h).1),
        he.tight C (fun o' ho' h => (hII o' ho' h).2)
          (fun u hu h => (C.inf_pre o ho u hu lbp rbp hb h).2), he.notMid C (symOf_ne_escape o)⟩
    · exact .inr ⟨tight_closed g _ hcl, tight_closed g _ hcl, allExp_closed _ hcl⟩
  · exact .inl h

theorem Disc.ok (hfull : full → concatFull g = true) {x : G} (h : Disc full x) :
    ok g x = true := by
  obtain ⟨sl, sr, hlt, hbp, hsi, hsp⟩ := C.sep
  have F : SepFacts g sl sr := ⟨hlt, hbp⟩
  induction h with
  | atom a => rfl
  | br k hx ih =>
    exact (SepAcc.of_sepOpnds F _ fun x hm => ⟨ih x hm,
      (hx x hm).exp.tight C (fun o ho _ => hsi o ho) (fun u hu _ => hsp u hu),
      fun s hs => (hx x hm).exp.notMid C (by rintro rfl; cases hs)⟩).ok
  | @pre u t c hu hc _ ih =>
    obtain ⟨bp, hb, _⟩ := C.pre_known u hu
    have hpb : preBase g u = bp := by simp [preBase, hb]
    exact ok_pre hb ih (hc.tight C (fun o ho h => hpb ▸ C.pre_inf _ hu o ho h)
      (fun v hv h => hpb ▸ C.pre_pre _ hu v hv h))
  | @inf o t l r ho hnb hl hr _ _ ihl ihr =>
    obtain ⟨lbp, rbp, hb, hq', _⟩ := C.inf_known o ho
    have fl := hl.fits C hfull ho hb
    have fr := hr.fits C hfull ho hb
    cases ha : G.assocSym (symOf o) with
    | true =>
      obtain ⟨_, lbp', rbp', hb', hlt⟩ := C.nsp_assoc o ho ((nsp_assoc_tbl o ho).trans ha)
      rw [hb] at hb'; cases hb'
      exact ok_inf_chain hb ha hlt (hq' (by simp [ternOp, assoc_not_like ha, hnb])) ihl ihr
        (fl.imp (·.2) (·.2)) (fr.imp (·.2) (·.2))
    | false =>
      have nn := (nsp_assoc_tbl o ho).trans ha
      have fl := fl.resolve_left (by simp [nn])
      have fr := fr.resolve_left (by simp [nn])
      refine ok_inf hb ha ?_ ihl ihr (.inl ⟨fl.1, fl.2.2⟩) fr.2.1
      cases hl' : likeOp o with
      | false => exact .inl (hq' (by simp [ternOp, hl', hnb]))
      | true => exact .inr ((C.like.tern o hl').elim fun b hq => ⟨_, b, hq⟩)
  | @esc o t mt a b c hl ca cb _ _ iha ihb =>
    obtain ⟨lbp, rbp, hb, _, _⟩ := C.inf_known o (likeOp_mem hl)
    obtain ⟨bp3, hq⟩ := C.like.tern o hl
    exact ok_tern hb hq iha ihb rfl (tight_closed g _ ca) (allExp_closed _ ca) (tight_closed g _ cb)
      (allExp_closed _ cb) (by simp [stops, C.like.esc_none]) rfl
  | @btw o t mt a lo hi hop ea elo ehi _ _ _ iha ihlo ihhi =>
    have ho := btwOp_mem hop
    obtain ⟨lbp, rbp, hb, _, _⟩ := C.inf_known o ho
    obtain ⟨bp3, hq⟩ := C.btw.tern o hop
    have hnc : o ≠ .concat_op := by rcases btwOp_cases hop with rfl | rfl <;> decide
    have hpo := btwOp_prec hop
    exact ok_tern hb hq iha ihlo ihhi
      (ea.tight C (fun o' ho' h => (C.inf_inf o ho hnc o' ho' lbp rbp hb h).1)
        (fun u hu h => (C.inf_pre o ho u hu lbp rbp hb h).1))
      (ea.notMid C (symOf_ne_escape o))
      (elo.tight C (fun o' ho' h => (C.inf_inf o ho hnc o' ho' lbp rbp hb h).2)
        (fun u hu h => (C.inf_pre o ho u hu lbp rbp hb h).2))
      (elo.notMid C (by decide)) (C.btw.stop o hop lbp rbp hb)
      (ehi.tight C (fun o' ho' h => C.btw.hi_inf o hop bp3 hq o' ho' (hpo ▸ h))
        (fun u hu h => C.btw.hi_pre o hop bp3 hq u hu (hpo ▸ h)))

end Grammar

end SaVerif.Expr
