import SaVerif.Model.OrderingList
import SaVerif.Lemmas.ListFacts
/-! M-ORDLIST: every operation keeps `Good` (no duplicates, positions equal to
`ordering_func(index)`), given the hypotheses that C50 turns into its guards. -/
namespace SaVerif.OrderingList

/-- the property: every element's position attribute is `ordering_func(index)` -/
def Sync (st : St) : Prop :=
  ∀ (i : Nat) (h : i < st.items.length), st.pos (st.items[i]) = some ((i : Int) + st.start)

theorem reorderFrom_not_mem (s : Int) : ∀ (l : List Nat) (k : Nat) (pos : Nat → Option Int) (x : Nat),
    x ∉ l → reorderFrom s k l pos x = pos x
  | [], _, _, _, _ => rfl
  | e :: es, k, pos, x, h => by
    simp only [List.mem_cons, not_or] at h
    simp only [reorderFrom]
    rw [reorderFrom_not_mem s es (k + 1) _ x h.2]
    simp [h.1]

theorem reorderFrom_spec (s : Int) : ∀ (l : List Nat) (k : Nat) (pos : Nat → Option Int),
    l.Nodup → ∀ (i : Nat) (h : i < l.length), reorderFrom s k l pos (l[i]) = some (((k + i : Nat) : Int) + s)
  | [], _, _, _, i, h => by simp at h
  | e :: es, k, pos, hn, i, h => by
    have hn' := List.nodup_cons.1 hn
    simp only [reorderFrom]
    cases i with
    | zero =>
      simp only [List.getElem_cons_zero, Nat.add_zero]
      rw [reorderFrom_not_mem s es (k + 1) _ e hn'.1]
      simp
    | succ j =>
      simp only [List.getElem_cons_succ]
      have hj : j < es.length := by simpa using h
      rw [reorderFrom_spec s es (k + 1) _ hn'.2 j hj]
      congr 2
      omega

theorem reorder_items (st : St) : (reorder st).items = st.items := rfl
theorem reorder_start (st : St) : (reorder st).start = st.start := rfl
theorem reorder_roa (st : St) : (reorder st).roa = st.roa := rfl

theorem reorder_sync (st : St) (hn : st.items.Nodup) : Sync (reorder st) := by
  intro i h
  simp only [reorder] at h ⊢
  rw [reorderFrom_spec st.start st.items 0 st.pos hn i h]
  simp

theorem orderEntity_items (st : St) (i : Int) (e : Nat) (r : Bool) :
    (orderEntity st i e r).items = st.items := by
  unfold orderEntity; split <;> rfl

theorem orderEntity_start (st : St) (i : Int) (e : Nat) (r : Bool) :
    (orderEntity st i e r).start = st.start := by
  unfold orderEntity; split <;> rfl

theorem orderEntity_roa (st : St) (i : Int) (e : Nat) (r : Bool) :
    (orderEntity st i e r).roa = st.roa := by
  unfold orderEntity; split <;> rfl

theorem orderEntity_pos_of_ne (st : St) (i : Int) (r : Bool) {e x : Nat} (h : x ≠ e) :
    (orderEntity st i e r).pos x = st.pos x := by
  unfold orderEntity
  split
  · rfl
  · exact if_neg h

theorem orderEntity_pos_self (st : St) (i : Int) {e : Nat} {r : Bool}
    (h : st.pos e = none ∨ r = true) : (orderEntity st i e r).pos e = some (i + st.start) := by
  have hc : ((st.pos e).isSome && !r) = false := by
    rcases h with h | h <;> simp [h]
  unfold orderEntity
  rw [hc]
  exact if_pos rfl

theorem append_items (st : St) (e : Nat) : (append st e).items = st.items ++ [e] :=
  orderEntity_items ..

theorem append_start (st : St) (e : Nat) : (append st e).start = st.start :=
  orderEntity_start ..

theorem append_roa (st : St) (e : Nat) : (append st e).roa = st.roa :=
  orderEntity_roa ..

theorem append_pos_of_ne (st : St) {e x : Nat} (h : x ≠ e) : (append st e).pos x = st.pos x :=
  orderEntity_pos_of_ne _ _ _ h

theorem insertAt_perm (l : List Nat) (k e : Nat) : (insertAt l k e).Perm (e :: l) := by
  unfold insertAt
  rw [List.append_assoc, List.singleton_append]
  refine List.perm_middle.trans (List.Perm.cons e ?_)
  rw [List.take_append_drop]

theorem insertAt_nodup {l : List Nat} {k e : Nat} (hn : l.Nodup) (he : e ∉ l) :
    (insertAt l k e).Nodup :=
  (insertAt_perm l k e).nodup_iff.2 (List.nodup_cons.2 ⟨he, hn⟩)

theorem mem_insertAt {l : List Nat} {k e x : Nat} : x ∈ insertAt l k e ↔ x = e ∨ x ∈ l :=
  (insertAt_perm l k e).mem_iff.trans List.mem_cons

theorem kept_sublist (l : List Nat) (idxs : List Nat) :
    ((l.zipIdx.filter (fun p => !idxs.contains p.2)).map (·.1)).Sublist l := by
  have := (List.filter_sublist (p := fun p => !idxs.contains p.2) (l := l.zipIdx)).map (·.1)
  rwa [List.zipIdx_map_fst] at this

def Good (st : St) : Prop := st.items.Nodup ∧ Sync st

theorem reorder_good (st : St) (l : List Nat) (hn : l.Nodup) :
    Good (reorder { st with items := l }) :=
  ⟨hn, reorder_sync _ hn⟩

theorem clear_good (st : St) : Good (clear st) :=
  ⟨List.nodup_nil, fun _ h => absurd h (Nat.not_lt_zero _)⟩

theorem delItem_good {st st' : St} (h : Good st) (i : Int) (hd : delItem st i = .ok st') :
    Good st' ∧ ∀ x, x ∈ st'.items → x ∈ st.items := by
  unfold delItem at hd
  split at hd
  · cases hd
  · rename_i k _
    cases hd
    exact ⟨reorder_good st _ ((List.eraseIdx_sublist _ _).nodup h.1),
      fun x hx => (List.eraseIdx_sublist _ _).subset hx⟩

theorem insert_good {st : St} (h : Good st) (i : Int) (e : Nat) (he : e ∉ st.items) :
    Good (insert st i e) ∧ ∀ x, x ∈ (insert st i e).items ↔ x = e ∨ x ∈ st.items :=
  ⟨reorder_good st _ (insertAt_nodup h.1 he), fun _ => mem_insertAt⟩

theorem delLoop_good : ∀ (n : Nat) (st : St) (s : Nat), Good st →
    Good (delLoop st s n) ∧ (∀ x, x ∈ (delLoop st s n).items → x ∈ st.items)
  | 0, st, _, h => ⟨h, fun _ hx => hx⟩
  | n + 1, st, s, h => by
    unfold delLoop
    split
    · split
      · rename_i st1 hd
        have h1 := delItem_good h s hd
        have ih := delLoop_good n st1 s h1.1
        exact ⟨ih.1, fun x hx => h1.2 x (ih.2 x hx)⟩
      · exact ⟨h, fun _ hx => hx⟩
    · exact delLoop_good n st s h

theorem insLoop_good : ∀ (vals : List Nat) (st : St) (s : Nat), Good st → vals.Nodup →
    (∀ e, e ∈ vals → e ∉ st.items) → Good (insLoop st s vals)
  | [], _, _, h, _, _ => h
  | e :: es, st, s, h, hn, hf => by
    have hn' := List.nodup_cons.1 hn
    have h1 := insert_good h s e (hf e (List.mem_cons_self ..))
    unfold insLoop
    refine insLoop_good es _ (s + 1) h1.1 hn'.2 ?_
    intro x hx hm
    rcases (h1.2 x).1 hm with rfl | hm
    · exact hn'.1 hx
    · exact hf x (List.mem_cons_of_mem _ hx) hm

theorem setItem_good {st st' : St} (h : Good st) (i : Int) (e : Nat)
    (he : e ∉ st.items) (hs : setItem st i e = .ok st') :
    Good st' ∧ (∀ x, x ∈ st'.items → x = e ∨ x ∈ st.items) := by
  unfold setItem at hs
  split at hs
  · cases hs
  · rename_i k hk
    cases hs
    refine ⟨⟨?_, ?_⟩, ?_⟩
    · show ((orderEntity st k e true).items.set k e).Nodup
      rw [orderEntity_items]
      exact ListFacts.nodup_set h.1 he k
    · intro j hj
      show (orderEntity st k e true).pos (((orderEntity st k e true).items.set k e)[j]) =
        some (j + (orderEntity st k e true).start)
      have hj' : j < st.items.length := by
        rw [← List.length_set (i := k) (a := e), ← orderEntity_items st k e true]; exact hj
      simp only [orderEntity_items, orderEntity_start]
      by_cases hjk : k = j
      · subst hjk
        rw [List.getElem_set_self, orderEntity_pos_self st k (Or.inr rfl)]
      · have hne : st.items[j] ≠ e := fun hh => he (hh ▸ List.getElem_mem hj')
        rw [List.getElem_set_ne hjk, orderEntity_pos_of_ne _ _ _ hne]
        exact h.2 j hj'
    · intro x hx
      have hx' : x ∈ st.items.set k e := orderEntity_items st k e true ▸ hx
      exact (List.mem_or_eq_of_mem_set hx').symm

theorem setLoop_good : ∀ (ps : List (Int × Nat)) (st st' : St), Good st →
    (ps.map (·.2)).Nodup → (∀ p, p ∈ ps → p.2 ∉ st.items) →
    setLoop st ps = .ok st' → Good st'
  | [], st, st', h, _, _, hs => by
    cases hs; exact h
  | (i, e) :: rest, st, st', h, hn, hf, hs => by
    unfold setLoop at hs
    split at hs
    · rename_i st1 h1
      simp only [List.map_cons] at hn
      have hn' := List.nodup_cons.1 hn
      have g1 := setItem_good h i e (hf (i, e) (List.mem_cons_self ..)) h1
      refine setLoop_good rest st1 st' g1.1 hn'.2 ?_ hs
      intro p hp hm
      rcases g1.2 p.2 hm with hm | hm
      · exact hn'.1 (hm ▸ List.mem_map_of_mem hp)
      · exact hf p (List.mem_cons_of_mem _ hp) hm
    · cases hs

theorem append_good {st : St} (h : Good st) (e : Nat) (he : e ∉ st.items)
    (hp : st.pos e = none ∨ st.roa = true) : Good (append st e) := by
  constructor
  · rw [append_items]
    exact ListFacts.nodup_snoc h.1 he
  · intro i hi
    have hi' : i < (st.items ++ [e]).length := append_items st e ▸ hi
    simp only [append_items, append_start]
    by_cases hlt : i < st.items.length
    · have hne : st.items[i] ≠ e := fun hh => he (hh ▸ List.getElem_mem hlt)
      rw [List.getElem_append_left hlt, append_pos_of_ne st hne]
      exact h.2 i hlt
    · have hil : i = st.items.length := by
        rw [List.length_append, List.length_singleton] at hi'; omega
      subst hil
      rw [List.getElem_concat_length rfl]
      refine (orderEntity_pos_self { st with items := st.items ++ [e] } _ hp).trans ?_
      show some (((st.items ++ [e]).length : Int) - 1 + st.start) = _
      rw [List.length_append, List.length_singleton]
      exact congrArg some (by omega)

theorem extend_good : ∀ (es : List Nat) (st : St), Good st → es.Nodup →
    (∀ e, e ∈ es → e ∉ st.items ∧ (st.pos e = none ∨ st.roa = true)) → Good (extend st es)
  | [], _, h, _, _ => h
  | e :: es, st, h, hn, hf => by
    have hn' := List.nodup_cons.1 hn
    have he := hf e (List.mem_cons_self ..)
    show Good (extend (append st e) es)
    refine extend_good es _ (append_good h e he.1 he.2) hn'.2 ?_
    intro x hx
    have hxe : x ≠ e := fun hh => hn'.1 (hh ▸ hx)
    have hx' := hf x (List.mem_cons_of_mem _ hx)
    rw [append_items, append_pos_of_ne st hxe, append_roa, List.mem_append, List.mem_singleton]
    exact ⟨fun hm => hm.elim hx'.1 hxe, hx'.2⟩

/-- for `(start, stop, step) = slice.indices(len)` (which has `0 ≤ start` and `-1 ≤ stop`, the
    latter used for a negative step only) no index of the range is negative: `setLoop`'s `setItem`
    reads none from the end -/
theorem pyRange_nonneg (start stop step : Int) (h0 : 0 ≤ start) (h1 : -1 ≤ stop) :
    ∀ x, x ∈ pyRange start stop step → 0 ≤ x := by
  intro x hx
  unfold pyRange at hx
  by_cases hpos : step > 0
  · rw [if_pos hpos] at hx
    split at hx
    · cases hx
    · obtain ⟨k, _, rfl⟩ := List.mem_map.1 hx
      exact Int.add_nonneg h0 (Int.mul_nonneg (Int.le_of_lt hpos) (Int.natCast_nonneg k))
  · rw [if_neg hpos] at hx
    split at hx
    · split at hx
      · cases hx
      · obtain ⟨k, hk, rfl⟩ := List.mem_map.1 hx
        -- `k + 1 ≤ ⌈(start - stop) / -step⌉` gives `start + step * k > stop ≥ -1`
        have hk' : (k : Int) + 1 ≤ (start - stop + -step - 1) / -step :=
          Int.lt_toNat.1 (List.mem_range.1 hk)
        have := (Int.le_ediv_iff_mul_le (by omega)).1 hk'
        rw [Int.add_mul, Int.one_mul, Int.mul_neg, Int.mul_comm] at this
        omega
    · cases hx

end SaVerif.OrderingList
