import SaVerif.Model.Pratt
/-!
The parser round trip on which `Props/C01.lean` rests: a well-bracketed tree is read back from its printed
form (`parse_print`), and re-association of associative chains changes neither the text nor
the value (`print_norm`, `evalG_norm`).
-/

namespace SaVerif.Pratt

theorem parseLoop_stop (g : Grammar) {m : Nat} {lhs : G} {rest : List Tok}
    (h : stops g m (follower rest) = true) (f : Nat) (hf : 1 ≤ f) :
    parseLoop g f m lhs rest = some (lhs, rest) := by
  obtain ⟨f, rfl⟩ : ∃ f', f = f' + 1 := ⟨f - 1, by omega⟩
  cases rest with
  | nil => simp [parseLoop]
  | cons tk ts =>
    cases tk with
    | inf s t =>
      simp only [follower, stops] at h
      simp only [parseLoop]
      split
      · rfl
      next hb =>
        rw [hb] at h
        exact if_pos (by simpa using h)
    | _ => simp [parseLoop]

/-- fuel that suffices for `parseExpr` on the printed form of a tree, beyond what the loop continuing
    after it needs (`ReadsBack`): an atom takes the call of `parseExpr` and that of `parseNud`; a prefix
    operator or bracket takes these two and one for the loop that stops after the inner expression; an
    infix or ternary node takes one step of `parseLoop` and one for the loop that stops after an operand
    (the operands are added up although they are parsed with the same fuel) -/
def cost : G → Nat
  | G.atom _ => 2
  | G.pre _ _ c => cost c + 3
  | G.inf _ _ l r => cost l + cost r + 2
  | G.tern _ _ _ _ a b c => cost a + cost b + cost c + 2
  | G.br _ c => cost c + 3

theorem cost_le (t : G) : cost t ≤ 3 * t.print.length := by
  induction t with
  | atom a => simp [cost, G.print]
  | _ => simp [cost, G.print]; omega

theorem wb_pre_inv {g : Grammar} {s : Sym} {t : String} {c : G} (h : wb g (G.pre s t c) = true) :
    ∃ bp, g.prefixBp s = some bp ∧ wb g c = true ∧ leftOK g bp c = true := by
  simp only [wb] at h
  cases hb : g.prefixBp s with
  | none => simp [hb] at h
  | some bp =>
    simp only [hb, Bool.and_eq_true] at h
    exact ⟨bp, rfl, h.1, h.2⟩

theorem wb_inf_inv {g : Grammar} {s : Sym} {t : String} {l r : G}
    (h : wb g (G.inf s t l r) = true) :
    ∃ lbp rbp, g.infixBp s = some (lbp, rbp) ∧
      (∀ mid bp3, g.ternBp s ≠ some (mid, bp3, true)) ∧
      wb g l = true ∧ wb g r = true ∧ rightOK g (some s) l = true ∧ leftOK g rbp r = true := by
  simp only [wb] at h
  cases hb : g.infixBp s with
  | none => simp [hb] at h
  | some p =>
    obtain ⟨lbp, rbp⟩ := p
    simp only [hb, Bool.and_eq_true, and_assoc] at h
    obtain ⟨hopt, hrest⟩ := h
    refine ⟨lbp, rbp, rfl, ?_, hrest⟩
    intro mid bp3 hc
    rw [hc] at hopt
    simp at hopt

theorem wb_tern_inv {g : Grammar} {s m : Sym} {t mt : String} {a b c : G}
    (h : wb g (G.tern s t m mt a b c) = true) :
    ∃ lbp rbp bp3 mand, g.infixBp s = some (lbp, rbp) ∧ g.ternBp s = some (m, bp3, mand) ∧
      wb g a = true ∧ wb g b = true ∧ wb g c = true ∧
      rightOK g (some s) a = true ∧ leftOK g rbp b = true ∧ rightOK g (some m) b = true ∧
      stops g rbp (some m) = true ∧ leftOK g bp3 c = true := by
  simp only [wb] at h
  cases hb : g.infixBp s with
  | none => simp [hb] at h
  | some p =>
    obtain ⟨lbp, rbp⟩ := p
    cases ht : g.ternBp s with
    | none => simp [hb, ht] at h
    | some q =>
      obtain ⟨mid, bp3, mand⟩ := q
      simp only [hb, ht, Bool.and_eq_true, decide_eq_true_eq, and_assoc] at h
      obtain ⟨rfl, h⟩ := h
      exact ⟨lbp, rbp, bp3, mand, rfl, rfl, h⟩

theorem rightOK_pre {g : Grammar} {f : Option Sym} {s : Sym} {t : String} {c : G} {bp : Nat}
    (hb : g.prefixBp s = some bp) :
    rightOK g f (G.pre s t c) = true ↔ stops g bp f = true ∧ rightOK g f c = true := by
  simp only [rightOK, hb, Bool.and_eq_true]

theorem rightOK_inf_inv {g : Grammar} {f : Option Sym} {s : Sym} {t : String} {l r : G}
    (h : rightOK g f (G.inf s t l r) = true) {lbp rbp : Nat} (hb : g.infixBp s = some (lbp, rbp)) :
    stops g rbp f = true ∧ rightOK g f r = true ∧
      (∀ mid bp3 mand, g.ternBp s = some (mid, bp3, mand) → f ≠ some mid) := by
  simp only [rightOK, hb, Bool.and_eq_true] at h
  refine ⟨h.1.1, h.1.2, ?_⟩
  intro mid bp3 mand ht
  have h3 := h.2
  rw [ht] at h3
  simpa using h3

theorem rightOK_tern {g : Grammar} {f : Option Sym} {s m : Sym} {t mt : String} {a b c : G}
    {mid : Sym} {bp3 : Nat} {mand : Bool} (ht : g.ternBp s = some (mid, bp3, mand)) :
    rightOK g f (G.tern s t m mt a b c) = true ↔ stops g bp3 f = true ∧ rightOK g f c = true := by
  simp only [rightOK, ht, Bool.and_eq_true]

theorem leftOK_inf {g : Grammar} {m : Nat} {s : Sym} {t : String} {l r : G} {lbp rbp : Nat}
    (hb : g.infixBp s = some (lbp, rbp)) :
    leftOK g m (G.inf s t l r) = true ↔ m ≤ lbp ∧ leftOK g m l = true := by
  simp only [leftOK, hb, Bool.and_eq_true, decide_eq_true_eq]

theorem leftOK_tern {g : Grammar} {m : Nat} {s mid : Sym} {t mt : String} {a b c : G} {lbp rbp : Nat}
    (hb : g.infixBp s = some (lbp, rbp)) :
    leftOK g m (G.tern s t mid mt a b c) = true ↔ m ≤ lbp ∧ leftOK g m a = true := by
  simp only [leftOK, hb, Bool.and_eq_true, decide_eq_true_eq]

theorem wb_leftOK_zero (g : Grammar) : ∀ t : G, wb g t = true → leftOK g 0 t = true := by
  intro t
  induction t with
  | inf s t l r ihl ihr =>
    intro h
    obtain ⟨lbp, rbp, hb, _, hl, _⟩ := wb_inf_inv h
    exact (leftOK_inf hb).2 ⟨Nat.zero_le _, ihl hl⟩
  | tern s t m mt a b c iha ihb ihc =>
    intro h
    obtain ⟨lbp, rbp, _, _, hb, _, ha, _⟩ := wb_tern_inv h
    exact (leftOK_tern hb).2 ⟨Nat.zero_le _, iha ha⟩
  | _ => intro _; rfl

theorem wb_rightOK_none (g : Grammar) : ∀ t : G, wb g t = true → rightOK g none t = true := by
  intro t
  induction t with
  | atom a => intro _; simp [rightOK]
  | br k c ih => intro _; simp [rightOK]
  | pre s t c ih =>
    intro h
    obtain ⟨bp, hb, hc, _⟩ := wb_pre_inv h
    exact (rightOK_pre hb).2 ⟨rfl, ih hc⟩
  | inf s t l r ihl ihr =>
    intro h
    obtain ⟨lbp, rbp, hb, _, _, hr, _, _⟩ := wb_inf_inv h
    simp only [rightOK, hb, stops, ihr hr, Bool.true_and]
    cases g.ternBp s with
    | none => rfl
    | some q => simp
  | tern s t m mt a b c iha ihb ihc =>
    intro h
    obtain ⟨lbp, rbp, bp3, mand, hb, ht, _, _, hc, _⟩ := wb_tern_inv h
    exact (rightOK_tern ht).2 ⟨rfl, ihc hc⟩

/-- Parsing the printed form of `t` at level `m`, followed by any `rest` whose first token `t`
    does not capture, behaves like the operator loop started with `t` already built, given
    `cost t` more fuel.  The three parser functions pass the same fuel to calls that need
    different amounts, so both sides are stated for all fuel from a bound on. -/
def ReadsBack (g : Grammar) (t : G) : Prop :=
  ∀ (m : Nat) (rest : List Tok) (k : Nat) (r : G × List Tok),
    leftOK g m t = true → rightOK g (follower rest) t = true →
    (∀ f, k ≤ f → parseLoop g f m t rest = some r) →
    ∀ f, k + cost t ≤ f → parseExpr g f m (t.print ++ rest) = some r

theorem ReadsBack.operand {g : Grammar} {t : G} (h : ReadsBack g t) {m : Nat} {rest : List Tok}
    (hl : leftOK g m t = true) (hr : rightOK g (follower rest) t = true)
    (hs : stops g m (follower rest) = true) :
    ∀ f, 1 + cost t ≤ f → parseExpr g f m (t.print ++ rest) = some (t, rest) :=
  h m rest 1 (t, rest) hl hr (parseLoop_stop g hs)

theorem parse_print_aux (g : Grammar) : ∀ t : G, wb g t = true → ReadsBack g t := by
  intro t
  induction t with
  | atom a =>
    intro _ m rest k r _ _ hloop f hf
    simp only [cost] at hf
    obtain ⟨f, rfl⟩ : ∃ f', f = f' + 2 := ⟨f - 2, by omega⟩
    simp only [parseExpr, G.print, List.cons_append, List.nil_append, parseNud]
    exact hloop _ (by omega)
  | pre s t c ih =>
    intro hwb m rest k r _ hright hloop f hf
    obtain ⟨bp, hb, hc, hlc⟩ := wb_pre_inv hwb
    obtain ⟨hstop, hrc⟩ := (rightOK_pre hb).1 hright
    simp only [cost] at hf
    obtain ⟨f, rfl⟩ : ∃ f', f = f' + 2 := ⟨f - 2, by omega⟩
    simp only [parseExpr, G.print, List.cons_append, parseNud, hb,
      (ih hc).operand hlc hrc hstop f (by omega)]
    exact hloop _ (by omega)
  | br kd c ih =>
    intro hwb m rest k r _ _ hloop f hf
    have hc : wb g c = true := hwb
    simp only [cost] at hf
    obtain ⟨f, rfl⟩ : ∃ f', f = f' + 2 := ⟨f - 2, by omega⟩
    have hinner := (ih hc).operand (rest := Tok.close kd :: rest) (wb_leftOK_zero g c hc)
      (wb_rightOK_none g c hc) rfl f (by omega)
    simp only [parseExpr, G.print, List.cons_append, List.append_assoc, List.nil_append, parseNud,
      hinner, if_true]
    exact hloop _ (by omega)
  | inf s t l r ihl ihr =>
    intro hwb m rest k res hleft hright hloop f hf
    obtain ⟨lbp, rbp, hb, hnomand, hl, hr, hrl, hlr⟩ := wb_inf_inv hwb
    obtain ⟨hm, hll⟩ := (leftOK_inf hb).1 hleft
    obtain ⟨hstop, hrr, hmid⟩ := rightOK_inf_inv hright hb
    simp only [cost] at hf
    simp only [G.print, List.append_assoc, List.cons_append]
    refine ihl hl m (Tok.inf s t :: (r.print ++ rest)) (k + cost r + 2) res hll hrl ?_ f (by omega)
    -- the loop started with `l` in front of `s` builds the node and continues
    intro f hf
    obtain ⟨f, rfl⟩ : ∃ f', f = f' + 1 := ⟨f - 1, by omega⟩
    have : ¬ lbp < m := by omega
    simp only [parseLoop, hb, this, if_false, (ihr hr).operand hlr hrr hstop f (by omega)]
    have hloop' := hloop f (by omega)
    cases ht : g.ternBp s with
    | none => exact hloop'
    | some q =>
      obtain ⟨mid, bp3, mand⟩ := q
      cases mand with
      | true => exact absurd ht (hnomand mid bp3)
      | false =>
        have hne := hmid mid bp3 false ht
        simp only
        split
        · rename_i s2 t2 ts
          have : s2 ≠ mid := fun e => hne (by simp [follower, e])
          simpa [this] using hloop'
        · simpa using hloop'
  | tern s t mid mt a b c iha ihb ihc =>
    intro hwb m rest k res hleft hright hloop f hf
    obtain ⟨lbp, rbp, bp3, mand, hb, ht, ha, hbw, hc, hra, hlb, hrb, hstopmid, hlc⟩ := wb_tern_inv hwb
    obtain ⟨hm, hla⟩ := (leftOK_tern hb).1 hleft
    obtain ⟨hstop, hrc⟩ := (rightOK_tern ht).1 hright
    simp only [cost] at hf
    simp only [G.print, List.append_assoc, List.cons_append]
    refine iha ha m (Tok.inf s t :: (b.print ++ Tok.inf mid mt :: (c.print ++ rest)))
      (k + cost b + cost c + 2) res hla hra ?_ f (by omega)
    intro f hf
    obtain ⟨f, rfl⟩ : ∃ f', f = f' + 1 := ⟨f - 1, by omega⟩
    have : ¬ lbp < m := by omega
    simp only [parseLoop, hb, this, if_false, ht, if_true,
      (ihb hbw).operand (rest := Tok.inf mid mt :: (c.print ++ rest)) hlb hrb hstopmid f (by omega),
      (ihc hc).operand hlc hrc hstop f (by omega)]
    exact hloop f (by omega)

theorem parse_print (g : Grammar) (t : G) (h : wb g t = true) : parse g t.print = some t := by
  have h2 := (parse_print_aux g t h).operand (rest := []) (wb_leftOK_zero g t h)
    (wb_rightOK_none g t h) rfl (fuelFor t.print)
    (by have := cost_le t; simp only [fuelFor]; omega)
  rw [List.append_nil] at h2
  simp [parse, h2]

/-- `a s r` with the chain of `s` at the root of `r` re-attached to the left:
    `a s (r₁ s r₂)` ↦ `(a s r₁) s r₂`.  This is what `norm` makes of an associative node. -/
def G.graft (s : Sym) (t : String) (a r : G) : G :=
  (G.lspine s r).2.foldl (fun acc x => G.inf s x.1 acc x.2) (G.inf s t a (G.lspine s r).1)

theorem norm_inf (s : Sym) (t : String) (l r : G) :
    (G.inf s t l r).norm =
      if G.assocSym s then G.graft s t l.norm r.norm else G.inf s t l.norm r.norm :=
  rfl

theorem graft_induction {s : Sym} {t : String} {a : G} {P : G → G → Prop}
    (leaf : ∀ x, G.lspine s x = (x, []) → P x (G.inf s t a x))
    (chain : ∀ t' r₁ r₂ y, P r₁ y → P (G.inf s t' r₁ r₂) (G.inf s t' y r₂)) :
    ∀ r, P r (G.graft s t a r) := by
  intro r
  induction r with
  | inf s' t' r₁ r₂ ih _ =>
    by_cases hc : s' = s
    · subst hc
      have e : G.graft s' t a (G.inf s' t' r₁ r₂) = G.inf s' t' (G.graft s' t a r₁) r₂ := by
        simp [G.graft, G.lspine]
      rw [e]
      exact chain _ _ _ _ ih
    · have h : G.lspine s (G.inf s' t' r₁ r₂) = (G.inf s' t' r₁ r₂, []) := by simp [G.lspine, hc]
      rw [G.graft, h]
      exact leaf _ h
  | _ => exact leaf _ rfl

theorem print_graft (s : Sym) (t : String) (a r : G) :
    (G.graft s t a r).print = a.print ++ Tok.inf s t :: r.print :=
  graft_induction (P := fun r y => y.print = a.print ++ Tok.inf s t :: r.print)
    (fun _ _ => rfl) (fun t' r₁ r₂ y ih => by simp [G.print, ih]) r

theorem print_norm (t : G) : t.norm.print = t.print := by
  induction t with
  | inf s t l r ihl ihr =>
    rw [norm_inf]
    split
    · rw [print_graft, ihl, ihr, G.print]
    · rw [G.print, ihl, ihr, G.print]
  | _ => simp [G.norm, G.print, *]

theorem evalG_graft {V : Type} (I : Interp V) {s : Sym}
    (hassoc : ∀ a b c, I.inf s (I.inf s a b) c = I.inf s a (I.inf s b c)) (t : String) (a r : G) :
    evalG I (G.graft s t a r) = I.inf s (evalG I a) (evalG I r) :=
  graft_induction (P := fun r y => evalG I y = I.inf s (evalG I a) (evalG I r))
    (fun _ _ => rfl) (fun t' r₁ r₂ y ih => by simp only [evalG, ih, hassoc]) r

theorem evalG_norm {V : Type} (I : Interp V)
    (hassoc : ∀ s, G.assocSym s = true → ∀ a b c, I.inf s (I.inf s a b) c = I.inf s a (I.inf s b c))
    (t : G) : evalG I t.norm = evalG I t := by
  induction t with
  | inf s t l r ihl ihr =>
    rw [norm_inf]
    split
    next ha => rw [evalG_graft I (hassoc s ha), ihl, ihr, evalG]
    next => rw [evalG, ihl, ihr, evalG]
  | _ => simp [G.norm, evalG, *]

theorem evalG_fullParen {V : Type} (I : Interp V) (hparen : ∀ v, I.br .paren v = v) (t : G) :
    evalG I t.fullParen = evalG I t := by
  induction t with
  | inf s t l r ihl ihr =>
    by_cases hs : s.isSep = true
    · simp [G.fullParen, hs, evalG, ihl, ihr]
    · simp [G.fullParen, hs, evalG, ihl, ihr, hparen]
  | _ => simp [G.fullParen, evalG, *]

end SaVerif.Pratt
