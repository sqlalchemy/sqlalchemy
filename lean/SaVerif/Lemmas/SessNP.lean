import SaVerif.Lemmas.SessNew
/-! `session.new` holds pending instances only: frame relations for M-ORM/Sess. -/
namespace SaVerif.Sess

def Pend (ob : Obj) : Prop := ob.key = none ∧ ob.att = true

theorem Pend_of_flagsEq {a b : Obj} (h : flagsEq a b) (hb : Pend b) : Pend a :=
  ⟨h.1.trans hb.1, h.2.trans hb.2⟩

/-- "new is pending": every member of `session._new` is a pending instance -/
def NP (σ : Sess) : Prop := ∀ o ∈ σ.new, Pend (getO σ o)

/-- "flags except `xs`": flags change on members of `xs` only; `_new` does not grow -/
def FX (xs : List Oid) (σ τ : Sess) : Prop :=
  (∀ o ∈ τ.new, o ∈ σ.new) ∧ ∀ o, o ∉ xs → flagsEq (getO τ o) (getO σ o)

theorem NP_of_new_nil {σ : Sess} (h : σ.new = []) : NP σ := by
  intro o ho; rw [h] at ho; cases ho

theorem flags_setO (σ : Sess) (x : Oid) {f : Obj → Obj} (hf : KeepsFlags f) (o : Oid) :
    flagsEq (getO (setO σ x f) o) (getO σ o) := by
  simp only [getO, setO, List.getD_eq_getElem?_getD, List.getElem?_modify]
  cases σ.objs[o]? with
  | none => exact flagsEq.refl _
  | some ob =>
    show flagsEq (if x = o then f ob else ob) ob
    split
    · exact hf ob
    · exact flagsEq.refl _

theorem flagsEq_of_objs {σ τ : Sess} (h : τ.objs = σ.objs) (o : Oid) : flagsEq (getO τ o) (getO σ o) :=
  getO_of_objs h o ▸ flagsEq.refl _

theorem FX_of_objs_new {xs : List Oid} {σ τ : Sess} (ho : τ.objs = σ.objs) (hn : τ.new = σ.new) : FX xs σ τ :=
  ⟨fun _ h => hn ▸ h, fun o _ => flagsEq_of_objs ho o⟩

theorem frame_FX (xs : List Oid) : Frame (· ∈ xs) (FX xs) where
  refl _ := FX_of_objs_new rfl rfl
  trans h1 h2 := ⟨fun o ho => h1.1 o (h2.1 o ho), fun o ho => (h2.2 o ho).trans (h1.2 o ho)⟩
  ext ho hn _ _ _ _ := FX_of_objs_new ho hn
  setO σ x f h := ⟨fun _ h => h, fun o ho => by
    rcases h with h | h
    · rw [getO_setO_ne _ _ _ _ fun (e : x = o) => ho (e ▸ h)]; exact flagsEq.refl _
    · exact flags_setO σ x h o⟩
  imap _ _ _ := FX_of_objs_new rfl rfl

theorem FX_new (xs : List Oid) (σ : Sess) (p : Oid → Bool) : FX xs σ { σ with new := σ.new.filter p } :=
  ⟨fun _ h => (List.mem_filter.1 h).1, fun _ _ => flagsEq.refl _⟩

theorem NP_of_FX {xs : List Oid} {σ τ : Sess} (h : FX xs σ τ) (hd : ∀ o ∈ τ.new, o ∉ xs) : Keeps NP σ τ :=
  fun hn o ho => Pend_of_flagsEq (h.2 o (hd o ho)) (hn o (h.1 o ho))

theorem frame_NP : Frame (fun _ => False) (Keeps NP) where
  refl _ := id
  trans h1 h2 := h2 ∘ h1
  ext ho hn hi hd hc ht := NP_of_FX ((frame_FX []).ext ho hn hi hd hc ht) fun _ _ => List.not_mem_nil
  setO σ o f h := NP_of_FX ((frame_FX []).setO σ o f (h.imp_left False.elim)) fun _ _ => List.not_mem_nil
  imap σ l h := NP_of_FX ((frame_FX []).imap σ l h) fun _ _ => List.not_mem_nil

theorem getO_afterAttach_ne (σ : Sess) (x o : Oid) (h : o ≠ x) : getO (afterAttach σ x) o = getO σ o := by
  rw [afterAttach_eq, getO_emit, getO_setO_ne _ _ _ _ (Ne.symm h)]

theorem flags_afterAttach_self (σ : Sess) (x : Oid) (h : x < σ.objs.length) :
    (getO (afterAttach σ x) x).key = (getO σ x).key ∧ (getO (afterAttach σ x) x).att = true := by
  rw [afterAttach_eq, getO_emit, getO_setO_same _ _ _ h]
  exact ⟨rfl, rfl⟩

theorem mem_new_registerNew (σ : Sess) (x o : Oid) (h : o ∈ (registerNew σ x).new) : o ∈ σ.new ∨ o = x := by
  unfold registerNew at h
  split at h
  · exact Or.inl h
  · exact List.mem_append.1 h |>.imp_right List.mem_singleton.1

theorem mem_registerNew_self (σ : Sess) (x : Oid) : x ∈ (registerNew σ x).new := by
  unfold registerNew
  split
  · rename_i h; simpa using h
  · exact List.mem_append_right _ List.mem_cons_self

theorem flags_registerNew (σ : Sess) (x o : Oid) : flagsEq (getO (registerNew σ x) o) (getO σ o) := by
  unfold registerNew
  split
  · exact flagsEq.refl _
  · exact flags_setO { σ with new := σ.new ++ [x] } x (f := fun ob => { ob with ins := σ.new.length + 1 })
      (fun _ => ⟨rfl, rfl⟩) o

theorem NP_saveImpl (σ : Sess) (x : Oid) (hx : x < σ.objs.length) (hn : NP σ) : NP (saveImpl σ x).1 := by
  unfold saveImpl
  split
  · exact hn
  · rename_i hk
    have hk' : (getO σ x).key = none := Option.not_isSome_iff_eq_none.1 hk
    rw [beforeAttach_eq]
    simp only [ok]
    have hlen : x < (registerNew (autobegin σ) x).objs.length := by
      rw [registerNew_objs_length, autobegin_objs_length]; exact hx
    have hfl : ∀ o, flagsEq (getO (registerNew (autobegin σ) x) o) (getO σ o) := fun o =>
      getO_autobegin σ o ▸ flags_registerNew (autobegin σ) x o
    have hmem : ∀ o, o ∈ (registerNew (autobegin σ) x).new → o ∈ σ.new ∨ o = x := fun o ho =>
      frame_new.autobegin σ ▸ mem_new_registerNew (autobegin σ) x o ho
    have hold : ∀ o ∈ σ.new, Pend (getO (registerNew (autobegin σ) x) o) := fun o h =>
      Pend_of_flagsEq (hfl o) (hn o h)
    -- an old member keeps its flags; the instance itself has no key and ends attached
    intro o ho
    cases hatt : (getO σ x).att with
    | true =>
      simp only [hatt, Bool.not_true, Bool.false_eq_true, if_false] at ho ⊢
      rcases hmem o ho with h | rfl
      · exact hold o h
      · exact Pend_of_flagsEq (hfl o) ⟨hk', hatt⟩
    | false =>
      simp only [hatt, Bool.not_false, if_true] at ho ⊢
      rw [frame_new.afterAttach _ trivial] at ho
      by_cases hox : o = x
      · subst hox
        have := flags_afterAttach_self _ o hlen
        exact ⟨this.1.trans ((hfl o).1.trans hk'), this.2⟩
      · rw [getO_afterAttach_ne _ _ _ hox]
        exact hold o ((hmem o ho).resolve_right hox)

/-- a keyed `x` is not in `_new`, whose members keep their flags -/
theorem NP_of_write_keyed {σ τ : Sess} {x : Oid} (hf : FX [x] σ τ) (hn : τ.new = σ.new)
    (hk : (getO σ x).key = none → τ = σ) : Keeps NP σ τ := by
  intro h
  by_cases hx : (getO σ x).key = none
  · rw [hk hx]; exact h
  · refine NP_of_FX hf (fun o ho hox => hx ?_) h
    rw [hn] at ho
    exact List.mem_singleton.1 hox ▸ (h o ho).1

theorem frame_TK : Frame (fun _ => True) TK where
  refl _ := id
  trans h1 h2 := h2 ∘ h1
  ext _ _ _ _ _ h := h
  setO _ _ _ _ := id
  imap _ _ _ := id

theorem new_registerFinish (σ : Sess) (os : List Oid) : ∀ o ∈ (registerFinish σ os).new, o ∉ os := by
  unfold registerFinish
  simp only
  generalize List.foldl registerAlteredOne _ os = τ
  intro o ho hos
  obtain ⟨hn, hc⟩ := List.mem_filter.1 ho
  rw [frame_new.foldl _ _ (fun ρ a _ => new_emit ρ _ a) τ] at hn
  -- `o` is in `os` and in `_new`, so in `inNew`, whose members were taken out
  have hin : o ∈ os.filter fun o => τ.new.contains o := List.mem_filter.2 ⟨hos, List.contains_iff_mem.2 hn⟩
  rw [List.contains_iff_mem.2 hin] at hc
  cases hc

theorem new_flushExecute_ok (σ : Sess) (proc dels : List Oid) (h : (flushExecute σ proc dels).2 = none) :
    ∀ o ∈ (flushExecute σ proc dels).1.new, o ∉ proc := by
  unfold flushExecute at h ⊢
  simp only at h ⊢
  generalize organize _ _ = r at h ⊢
  obtain ⟨st, e⟩ := r
  cases e with
  | some e => cases h
  | none =>
    simp only at h ⊢
    have h1 := bind_ok h
    rw [bind_eq_of_ok h1.1] at h ⊢
    have h2 := bind_ok h
    rw [bind_eq_of_ok h2.1] at h ⊢
    unfold registerPersistent at h ⊢
    rw [bind_eq_of_ok (bind_ok h).1]
    exact new_registerFinish _ proc

theorem NP_restoreSnapshot (σ : Sess) (d : Bool) : Keeps NP σ (restoreSnapshot σ d).1 := by
  intro hn
  by_cases h : σ.txns = []
  · unfold restoreSnapshot; rw [h]; exact hn
  · exact NP_of_new_nil (new_restoreSnapshot σ d h)

/-- a flush that succeeds has changed the flags of the flushed instances only and taken them
    out of `_new`; one that raises ends in `_restore_snapshot`, which empties `_new` -/
theorem NP_flushCore (σ : Sess) (proc dels : List Oid) (htx : σ.txns ≠ []) :
    Keeps NP σ (flushCore σ proc dels).1 := by
  intro hn
  unfold flushCore
  have hF := (frame_FX proc).flushExecute (fun _ _ => FX_of_objs_new rfl rfl) (FX_new proc) σ dels fun _ h => h
  have hN := new_flushExecute_ok σ proc dels
  have hk := frame_TK.flushExecute (fun _ _ => id) (fun _ _ => id) σ dels (proc := proc) (fun _ _ => trivial) htx
  generalize flushExecute σ proc dels = r at hF hN hk
  obtain ⟨ρ, e⟩ := r
  cases e with
  | none => exact NP_of_FX hF (hN rfl) hn
  | some e => exact NP_of_new_nil (new_flushFailed ρ hk)

theorem NP_append (σ : Sess) (extra : List Obj) : Keeps NP σ { σ with objs := σ.objs ++ extra } := by
  intro hn o ho
  have := hn o ho
  simp only [getO, List.getD_eq_getElem?_getD] at this ⊢
  rw [List.getElem?_append_left (lt_of_att σ o this.2)]
  exact this

theorem NP_setO_notin (σ : Sess) (x : Oid) (f : Obj → Obj) (hx : x ∉ σ.new) : Keeps NP σ (setO σ x f) :=
  NP_of_FX ((frame_FX [x]).setO σ x f (Or.inl List.mem_cons_self))
    fun _ ho hox => hx (List.mem_singleton.1 hox ▸ ho)

theorem new_expungeAll (σ : Sess) : (expungeAll σ).new = [] := by
  unfold expungeAll
  exact frame_new.detachStates _ false fun _ _ => trivial

theorem opFrame_NP : OpFrame (fun _ => False) (Keeps NP) :=
  { frame_NP with
    extTxn := fun ho hn _ => NP_of_FX (FX_of_objs_new ho hn) fun _ _ => List.not_mem_nil
    append := NP_append
    saveImpl := NP_saveImpl
    updateImpl := fun σ x r => by
      refine NP_of_write_keyed ((frame_FX [x]).updateImpl σ r List.mem_cons_self) (frame_new.updateImpl σ r trivial) fun hk => ?_
      unfold updateImpl; simp [hk, fail]
    delete := fun σ x => by
      refine NP_of_write_keyed ((frame_FX [x]).delete σ List.mem_cons_self) (frame_new.delete σ trivial) fun hk => ?_
      unfold delete; simp [hk, fail]
    expungeStates := fun σ os t => by
      refine NP_of_FX ((frame_FX os).expungeStates (FX_new os) σ t fun _ h => h) fun o ho hos => ?_
      rw [new_expungeStates] at ho
      simp [hos] at ho
    expungeAll := fun σ _ => NP_of_new_nil (new_expungeAll σ)
    restoreSnapshot := NP_restoreSnapshot
    flushCore := NP_flushCore
    removeSnapshot := fun σ h _ =>
      NP_of_new_nil ((frame_new.removeSnapshot (fun _ => trivial) (fun _ _ => rfl) σ).trans h) }

theorem NP_makeTransient (σ : Sess) (o : Oid) (k : Nat) : Keeps NP σ (makeTransient σ o k) := by
  intro hn
  unfold makeTransient
  refine opFrame_NP.setPk _ o k true (NP_setO_notin _ o _ ?_ ?_)
  · split
    · rw [new_expungeStates]
      simp
    · rename_i hatt
      exact fun hm => hatt (hn o hm).2
  · exact ite_rel (Q := Keeps NP) (opFrame_NP.expungeStates σ [o] false) id hn

theorem NP_makeTransientToDetached (σ : Sess) (o : Oid) : Keeps NP σ (makeTransientToDetached σ o).1 := by
  intro hn
  unfold makeTransientToDetached
  simp only
  split
  · exact hn
  · rename_i hc
    split
    · exact hn
    · refine NP_setO_notin σ o _ (fun hm => ?_) hn
      simp [(hn o hm).2] at hc

theorem NP_step (σ : Sess) (op : Op) (hv : opValid σ op = true) (h : NP σ) : NP (step σ op).1.1 :=
  opFrame_NP.step NP_makeTransient NP_makeTransientToDetached σ op hv h

/-! Three further relations between session states, with their closure lemmas.  `NP_step` above
    needs none of them: it goes through `FX` alone. -/

/-- `_new` may grow, by pending instances only: enough to keep `NP` (`NP_of_G`) -/
def G (σ τ : Sess) : Prop :=
  ∀ o ∈ τ.new, (o ∈ σ.new ∧ flagsEq (getO τ o) (getO σ o)) ∨ Pend (getO τ o)

/-- "full frame": `_new` and the flags of every instance unchanged -/
def FF (σ τ : Sess) : Prop := τ.new = σ.new ∧ ∀ o, flagsEq (getO τ o) (getO σ o)

/-- "others as they were": only instance `x` may differ between `σ` and `τ` -/
def OO (x : Oid) (σ τ : Sess) : Prop := ∀ o, o ≠ x → getO τ o = getO σ o

theorem frame_FF : Frame (fun _ => False) FF where
  refl _ := ⟨rfl, fun _ => flagsEq.refl _⟩
  trans h1 h2 := ⟨h2.1.trans h1.1, fun o => (h2.2 o).trans (h1.2 o)⟩
  ext ho hn _ _ _ _ := ⟨hn, flagsEq_of_objs ho⟩
  setO σ x _ h := ⟨rfl, flags_setO σ x (h.resolve_left id)⟩
  imap _ _ _ := ⟨rfl, fun _ => flagsEq.refl _⟩

theorem G.trans {σ τ ρ : Sess} (h1 : G σ τ) (h2 : G τ ρ) : G σ ρ := by
  intro o ho
  rcases h2 o ho with ⟨hτ, hf⟩ | hp
  · rcases h1 o hτ with ⟨hσ, hf2⟩ | hp2
    · exact Or.inl ⟨hσ, hf.trans hf2⟩
    · exact Or.inr (Pend_of_flagsEq hf hp2)
  · exact Or.inr hp

theorem NP_of_G {σ τ : Sess} (h : G σ τ) (hn : NP σ) : NP τ := by
  intro o ho
  rcases h o ho with ⟨hσ, hf⟩ | hp
  · exact Pend_of_flagsEq hf (hn o hσ)
  · exact hp

theorem G_of_new_nil {σ τ : Sess} (h : τ.new = []) : G σ τ := by
  intro o ho; rw [h] at ho; cases ho

theorem G_bind {σ : Sess} {r : R} {f : Sess → R} (h : G σ r.1) (hf : ∀ τ, G τ (f τ).1) : G σ (r.bind f).1 := by
  unfold R.bind
  split
  · exact h
  · exact h.trans (hf _)

theorem FF_bind {σ : Sess} {r : R} {f : Sess → R} (h : FF σ r.1) (hf : ∀ τ, FF τ (f τ).1) : FF σ (r.bind f).1 :=
  frame_FF.bind h hf

theorem FF_imAdd (σ : Sess) (o : Oid) : FF σ (imAdd σ o).1 := frame_FF.imAdd σ o

theorem FF_beforeAttach (σ : Sess) (o : Oid) : FF σ (beforeAttach σ o).1 :=
  beforeAttach_eq σ o ▸ frame_FF.autobegin σ

theorem FF_db (σ : Sess) (l : List Nat) : FF σ { σ with db := l } := ⟨rfl, flagsEq_of_objs rfl⟩
theorem FF_committed (σ : Sess) (l : List Nat) : FF σ { σ with committed := l } := ⟨rfl, flagsEq_of_objs rfl⟩

theorem OO_emit (x : Oid) (σ : Sess) (e : Ev) (o : Oid) : OO x σ (emit σ e o) := fun _ _ => rfl
theorem OO_imSafeDiscard (x : Oid) (σ : Sess) (o : Oid) : OO x σ (imSafeDiscard σ o) :=
  fun a _ => getO_of_objs (imSafeDiscard_objs_log σ o).1 a

/-- after `_after_attach` the instance is pending iff it has no key, hence `hx` -/
theorem G_afterAttach (σ : Sess) (x : Oid) (hx : x ∈ σ.new → (getO σ x).key = none ∧ x < σ.objs.length) :
    G σ (afterAttach σ x) := by
  intro o ho
  rw [frame_new.afterAttach σ trivial] at ho
  by_cases hox : o = x
  · subst hox
    have ⟨hk, hl⟩ := hx ho
    have := flags_afterAttach_self σ o hl
    exact Or.inr ⟨this.1.trans hk, this.2⟩
  · exact Or.inl ⟨ho, getO_afterAttach_ne σ x o hox ▸ flagsEq.refl _⟩

end SaVerif.Sess
