import SaVerif.Lemmas.Url
/-! `quote_plus` against `parse_qsl` (`parseQsl_render`), and the query dict rebuilt pair by pair
(`foldl_addPair_entries`, `sortEntries_perm`). -/
namespace SaVerif.Url

theorem isSafe_space_of_ne {c : Char} (h : c ≠ ' ') : isSafe [' '] c = isSafe [] c := by
  simp [isSafe, h]

theorem quote_space_eq_of_no_space : ∀ {s : Str}, ' ' ∉ s → quote [' '] s = quote [] s := by
  intro s
  induction s with
  | nil => intro _; rfl
  | cons c s ih =>
    intro h
    simp only [List.mem_cons, not_or] at h
    rw [quote_cons, quote_cons, ih h.2, quoteChar, quoteChar, isSafe_space_of_ne (Ne.symm h.1)]

theorem plusToSpace_of_ne {c : Char} (h : c ≠ '+') : plusToSpace c = c := by
  simp [plusToSpace, h]

theorem plusToSpace_spaceToPlus {c : Char} (h : c ≠ '+') : plusToSpace (spaceToPlus c) = c := by
  unfold spaceToPlus
  split
  · rename_i hs
    rw [eq_of_beq hs]
    rfl
  · exact plusToSpace_of_ne h

theorem map_plusToSpace_of_no_plus {l : Str} (h : '+' ∉ l) : l.map plusToSpace = l :=
  (List.map_congr_left fun _ hc => plusToSpace_of_ne fun he => h (he ▸ hc)).trans (List.map_id l)

theorem map_plus_space_plus {l : Str} (h : '+' ∉ l) : (l.map spaceToPlus).map plusToSpace = l := by
  induction l with
  | nil => rfl
  | cons c l ih =>
    simp only [List.mem_cons, not_or] at h
    rw [List.map_cons, List.map_cons, plusToSpace_spaceToPlus (Ne.symm h.1), ih h.2]

/-- `unquote(quote_plus(s).replace('+', ' ')) = s` -/
theorem qsDecode_quotePlus (s : Str) : qsDecode (quotePlus s) = s := by
  unfold qsDecode quotePlus
  split
  · rw [map_plus_space_plus (not_mem_quote (by decide))]
    exact unquote_quote [' '] (by decide) s
  · rw [map_plusToSpace_of_no_plus (not_mem_quote (by decide))]
    exact unquote_quote [] (by decide) s

theorem mem_quotePlus {s : Str} {x : Char} (h : x ∈ quotePlus s) : qAllowed [] x = true ∨ x = '+' := by
  unfold quotePlus at h
  split at h
  · obtain ⟨y, hy, rfl⟩ := List.mem_map.1 h
    have hq := mem_quote hy
    by_cases hys : y = ' '
    · right; subst hys; decide
    · left
      simpa only [spaceToPlus, beq_false_of_ne hys, Bool.false_eq_true, if_false, qAllowed,
        isSafe_space_of_ne hys] using hq
  · exact Or.inl (mem_quote h)

theorem not_mem_quotePlus {s : Str} {x : Char} (h1 : qAllowed [] x = false) (h2 : x ≠ '+') :
    x ∉ quotePlus s := fun h => by
  rcases mem_quotePlus h with h | h
  · rw [h1] at h; cases h
  · exact h2 h

theorem splitOnChar_none {sep : Char} : ∀ {a : Str}, sep ∉ a → splitOnChar sep a = [a] := by
  intro a
  induction a with
  | nil => intro _; rfl
  | cons c a ih =>
    intro h
    simp only [List.mem_cons, not_or] at h
    have hc : (c == sep) = false := by simpa using fun he => h.1 he.symm
    simp only [splitOnChar, hc, Bool.false_eq_true, if_false, ih h.2]

theorem splitOnChar_append {sep : Char} (b : Str) : ∀ {a : Str}, sep ∉ a →
    splitOnChar sep (a ++ sep :: b) = a :: splitOnChar sep b := by
  intro a
  induction a with
  | nil => intro _; simp [splitOnChar]
  | cons c a ih =>
    intro h
    simp only [List.mem_cons, not_or] at h
    have hc : (c == sep) = false := by simpa using fun he => h.1 he.symm
    simp only [List.cons_append, splitOnChar, hc, Bool.false_eq_true, if_false, ih h.2]

theorem splitOnChar_intercalate {sep : Char} : ∀ {ps : List Str}, ps ≠ [] → (∀ p ∈ ps, sep ∉ p) →
    splitOnChar sep (intercalate [sep] ps) = ps := by
  intro ps
  induction ps with
  | nil => intro h; exact absurd rfl h
  | cons x xs ih =>
    intro _ hall
    cases xs with
    | nil => simp only [intercalate]; exact splitOnChar_none (hall x List.mem_cons_self)
    | cons y ys =>
      simp only [intercalate, List.append_assoc, List.singleton_append]
      rw [splitOnChar_append _ (hall x List.mem_cons_self),
        ih (List.cons_ne_nil _ _) (fun p hp => hall p (List.mem_cons_of_mem _ hp))]

theorem splitFirst_append {sep : Char} {a : Str} (b : Str) (h : sep ∉ a) :
    splitFirst sep (a ++ sep :: b) = (a, some b) := by
  unfold splitFirst
  rw [(takeWhile_dropWhile_ne b h).1, (takeWhile_dropWhile_ne b h).2]

theorem filterMap_eq_self {α} {f : α → Option α} : ∀ {l : List α}, (∀ x ∈ l, f x = some x) →
    l.filterMap f = l := by
  intro l
  induction l with
  | nil => intro _; rfl
  | cons a l ih =>
    intro h
    rw [List.filterMap_cons, h a List.mem_cons_self, ih (fun x hx => h x (List.mem_cons_of_mem _ hx))]

def pairStr (kv : Str × Str) : Str := quotePlus kv.1 ++ '=' :: quotePlus kv.2

theorem not_mem_pairStr {x : Char} (kv : Str × Str) (h1 : qAllowed [] x = false) (h2 : x ≠ '+')
    (h3 : x ≠ '=') : x ∉ pairStr kv := by
  simp only [pairStr, List.mem_append, List.mem_cons, not_or]
  exact ⟨not_mem_quotePlus h1 h2, h3, not_mem_quotePlus h1 h2⟩

theorem parseQsl_render : ∀ (kvs : List (Str × Str)),
    parseQsl true (intercalate ['&'] (kvs.map pairStr)) = kvs
  -- nothing renders to the empty string, which `parse_qsl` answers before it splits
  | [] => rfl
  | kv :: rest => by
    unfold parseQsl
    have hnotempty : (intercalate ['&'] ((kv :: rest).map pairStr)).isEmpty = false := by
      cases rest <;> simp [intercalate, pairStr]
    have hamp : ∀ p ∈ (kv :: rest).map pairStr, '&' ∉ p := by
      intro p hp
      obtain ⟨kv, _, rfl⟩ := List.mem_map.1 hp
      exact not_mem_pairStr kv (by decide) (by decide) (by decide)
    rw [hnotempty, if_neg Bool.false_ne_true,
      splitOnChar_intercalate (ps := (kv :: rest).map pairStr) (List.cons_ne_nil _ _) hamp, List.filterMap_map]
    refine filterMap_eq_self fun kv _ => ?_
    have h1 : (quotePlus kv.1 ++ '=' :: quotePlus kv.2).isEmpty = false := by simp
    simp only [Function.comp, pairStr]
    rw [h1, splitFirst_append _ (not_mem_quotePlus (by decide) (by decide))]
    simp [qsDecode_quotePlus]

def keysOf (q : List (Str × QVal)) : List Str := q.map (·.1)

def kvsOf (e : Str × QVal) : List (Str × Str) := e.2.toList.map (fun v => (e.1, v))

/-- a one-element tuple cannot be told from a plain string in the rendered form, an empty
    one leaves no trace at all -/
def WFVal : QVal → Prop
  | .single _ => True
  | .multi vs => 2 ≤ vs.length

theorem addPair_new {q : List (Str × QVal)} {k v : Str} (h : k ∉ keysOf q) :
    addPair q (k, v) = q ++ [(k, QVal.single v)] := by
  unfold addPair
  refine if_neg fun hany => ?_
  obtain ⟨e, he, hk⟩ := List.any_eq_true.1 hany
  exact h (List.mem_map.2 ⟨e, he, eq_of_beq hk⟩)

theorem addPair_last {acc : List (Str × QVal)} {k w : Str} {qv : QVal} (h : k ∉ keysOf acc) :
    addPair (acc ++ [(k, qv)]) (k, w) = acc ++ [(k, QVal.multi (qv.toList ++ [w]))] := by
  unfold addPair
  -- no entry of `acc` has key `k`, so the update leaves `acc` alone
  have hacc : ∀ e ∈ acc, (if e.1 == k then (e.1, QVal.multi (e.2.toList ++ [w])) else e) = id e :=
    fun e he => if_neg fun hk => h (List.mem_map.2 ⟨e, he, eq_of_beq hk⟩)
  rw [if_pos (by simp), List.map_append, List.map_congr_left hacc]
  simp

theorem foldl_addPair_more {acc : List (Str × QVal)} {k : Str} (h : k ∉ keysOf acc) :
    ∀ (vs : List Str) (qv : QVal), vs ≠ [] →
      (vs.map (fun v => (k, v))).foldl addPair (acc ++ [(k, qv)]) =
        acc ++ [(k, QVal.multi (qv.toList ++ vs))] := by
  intro vs
  induction vs with
  | nil => intro _ hne; exact absurd rfl hne
  | cons w vs ih =>
    intro qv _
    rw [List.map_cons, List.foldl_cons, addPair_last h]
    cases vs with
    | nil => rfl
    | cons w2 vs2 => rw [ih _ (List.cons_ne_nil _ _), QVal.toList, List.append_assoc]; rfl

theorem foldl_addPair_entry {acc : List (Str × QVal)} {e : Str × QVal} (h : e.1 ∉ keysOf acc)
    (hw : WFVal e.2) : (kvsOf e).foldl addPair acc = acc ++ [e] := by
  obtain ⟨k, qv⟩ := e
  cases qv with
  | single v => exact addPair_new h
  | multi vs =>
    obtain _ | ⟨v1, _ | ⟨v2, rest⟩⟩ := vs
    · exact absurd hw (Nat.not_succ_le_zero 1)
    · exact absurd hw (Nat.not_succ_le_self 1)
    · show ((v2 :: rest).map (fun v => (k, v))).foldl addPair (addPair acc (k, v1)) = _
      rw [addPair_new h]
      exact foldl_addPair_more h (v2 :: rest) (QVal.single v1) (List.cons_ne_nil _ _)

theorem foldl_addPair_entries : ∀ (E acc : List (Str × QVal)), (keysOf (acc ++ E)).Nodup →
    (∀ e ∈ E, WFVal e.2) → (E.flatMap kvsOf).foldl addPair acc = acc ++ E := by
  intro E
  induction E with
  | nil => intro acc _ _; simp
  | cons e E ih =>
    intro acc hn hw
    rw [List.flatMap_cons, List.foldl_append]
    have hk : e.1 ∉ keysOf acc := by
      intro hin
      simp only [keysOf, List.map_append, List.map_cons] at hn hin
      rw [List.nodup_append] at hn
      exact hn.2.2 _ hin _ List.mem_cons_self rfl
    rw [foldl_addPair_entry hk (hw e List.mem_cons_self), ih]
    · simp
    · simpa using hn
    · intro e' he'
      exact hw e' (List.mem_cons_of_mem _ he')

theorem sortEntries_perm_aux : ∀ (q acc : List (Str × QVal)),
    (q.foldl (fun acc e => acc.takeWhile (fun x => strLe x.1 e.1) ++ [e] ++
        acc.dropWhile (fun x => strLe x.1 e.1)) acc).Perm (acc ++ q) := by
  intro q
  induction q with
  | nil => intro acc; simp
  | cons e q ih =>
    intro acc
    rw [List.foldl_cons]
    refine (ih _).trans ?_
    conv => rhs; rw [← List.takeWhile_append_dropWhile (p := fun x => strLe x.1 e.1) (l := acc)]
    simp only [List.append_assoc, List.singleton_append]
    exact List.Perm.append_left _ List.perm_middle.symm

theorem sortEntries_perm (q : List (Str × QVal)) : (sortEntries q).Perm q := by
  simpa [sortEntries] using sortEntries_perm_aux q []

theorem renderPairs_eq (q : List (Str × QVal)) :
    renderPairs q = ((sortEntries q).flatMap kvsOf).map pairStr := by
  unfold renderPairs
  rw [List.map_flatMap]
  induction sortEntries q with
  | nil => rfl
  | cons e es ih =>
    rw [List.flatMap_cons, List.flatMap_cons, ih]
    simp [kvsOf, pairStr]

end SaVerif.Url
