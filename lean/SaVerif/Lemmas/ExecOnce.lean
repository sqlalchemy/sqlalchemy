import SaVerif.Model.ExecOnce
import SaVerif.Lemmas.ListFacts
/-! The invariant `Inv` of the exec_once LTS with atomic creation of the mutex (`trans true`):
one mutex, at most one holder, as many threads in the critical section as holders, and `runs`
counted by the threads inside the listeners until the flag is set.  It is proved over `Tr`,
the relational form of `trans true`. -/
namespace SaVerif.ExecOnce

/-- `quiet`: the steps that leave the shared state and the thread's weight in `crit` and `inRun`
    alone -/
inductive Tr (s : Shared) : Pc → Pc → Shared → Prop
  | quiet {old new : Pc} : crit new = crit old → inRun new = inRun old →
      (∀ m, mutexOf new = some m → s.mutex = some m ∨ mutexOf old = some m) → Tr s old new s
  | init : s.mutex = none →
      Tr s .chk (.have s.next) { s with mutex := some s.next, next := s.next + 1 }
  | acq (m : Nat) : m ∉ s.held → Tr s (.have m) (.locked m) { s with held := m :: s.held }
  | run (m : Nat) : s.flag = false → Tr s (.locked m) (.running m) { s with runs := s.runs + 1 }
  | setFlag (m : Nat) : Tr s (.ran m) (.unlock m) { s with flag := true }
  | rel (m : Nat) : Tr s (.unlock m) .done { s with held := s.held.erase m }

theorem Tr.of_trans {s sh : Shared} {old new : Pc} {l : Label}
    (h : trans true s old l = some (new, sh)) : Tr s old new sh := by
  unfold trans at h
  -- one goal per arm of `trans`, in its order
  split at h
  · -- `.start, .rdFlag b`
    rename_i b
    obtain ⟨_, h⟩ := Option.ite_none_right_eq_some.1 h
    cases h
    cases b <;> exact .quiet rfl rfl nofun
  · -- `.chk, .rdMutex m`
    obtain ⟨_, h⟩ := Option.ite_none_right_eq_some.1 h
    split at h <;> cases h
    exact .quiet rfl rfl nofun
  · -- `.sawSome, .rdMutexRet m`
    obtain ⟨hm, h⟩ := Option.ite_none_right_eq_some.1 h
    cases h
    exact .quiet rfl rfl fun m e => .inl (Option.some.inj e ▸ hm)
  · -- `.chk, .init m`
    obtain ⟨⟨_, hn, rfl⟩, h⟩ := Option.ite_none_right_eq_some.1 h
    cases h
    exact .init hn
  · -- `.sawNone, .mk m` asks for `true = false`
    cases (Option.ite_none_right_eq_some.1 h).1.1
  · -- `.made m, .asg`: the same
    cases h
  · -- `.have m, .acq`
    obtain ⟨hm, h⟩ := Option.ite_none_left_eq_some.1 h
    cases h
    exact .acq _ hm
  · -- `.locked m, .rdFlag2 b`
    rename_i m b
    obtain ⟨hb, h⟩ := Option.ite_none_right_eq_some.1 h
    cases b <;> cases h
    · exact .run _ hb.symm
    · exact .quiet rfl rfl fun m e => .inr e
  · -- `.running m, .ret`
    cases h
    exact .quiet rfl rfl fun m e => .inr e
  · -- `.ran m, .setFlag`
    cases h
    exact .setFlag _
  · -- `.unlock m, .rel`
    cases h
    exact .rel _
  · cases h

theorem sumMap_cons (f : Pc → Nat) (a : Pc) (l : List Pc) : sumMap f (a :: l) = f a + sumMap f l :=
  rfl

theorem sumMap_set (f : Pc → Nat) {pcs : List Pc} {t : Nat} {old : Pc} (new : Pc)
    (h : pcs[t]? = some old) : sumMap f (pcs.set t new) + f old = sumMap f pcs + f new :=
  ListFacts.sum_map_set f new h

theorem le_sumMap (f : Pc → Nat) {pcs : List Pc} {pc : Pc} (h : pc ∈ pcs) : f pc ≤ sumMap f pcs :=
  ListFacts.le_sum_map_of_mem f h

theorem sumMap_mono {f g : Pc → Nat} (h : ∀ pc, f pc ≤ g pc) (pcs : List Pc) :
    sumMap f pcs ≤ sumMap g pcs := by
  induction pcs with
  | nil => exact Nat.le_refl _
  | cons a l ih =>
    rw [sumMap_cons, sumMap_cons]
    exact Nat.add_le_add (h a) ih

theorem inRun_le_crit : ∀ pc, inRun pc ≤ crit pc
  | .running _ | .ran _ => Nat.le_refl 1
  | .locked _ | .unlock _ => Nat.zero_le 1
  | .start | .chk | .sawSome | .sawNone | .made _ | .have _ | .done => Nat.le_refl 0

theorem step_eq {a : Bool} {s s' : State} {t : Nat} {l : Label} (hs : step a s t l = some s') :
    ∃ old new sh, s.pcs[t]? = some old ∧ trans a s.toShared old l = some (new, sh) ∧
      s' = { toShared := sh, pcs := s.pcs.set t new } := by
  unfold step at hs
  split at hs
  · rename_i pc hpc
    split at hs
    · rename_i pc' sh htr
      cases hs
      exact ⟨pc, pc', sh, hpc, htr, rfl⟩
    · cases hs
  · cases hs

structure Inv (s : State) : Prop where
  inHand : ∀ pc ∈ s.pcs, ∀ m, mutexOf pc = some m → s.mutex = some m
  heldIs : ∀ x ∈ s.held, s.mutex = some x
  oneHolder : s.held.length ≤ 1
  critHeld : sumMap crit s.pcs = s.held.length
  runsUnset : s.flag = false → s.runs = sumMap inRun s.pcs
  runsSet : s.flag = true → s.runs = 1

theorem inv_init (n : Nat) : Inv (init n) := by
  have hz : ∀ f, f Pc.start = 0 → sumMap f (List.replicate n Pc.start) = 0 := fun f hf =>
    ListFacts.sum_map_eq_zero fun pc hp => (List.mem_replicate.1 hp).2 ▸ hf
  refine ⟨fun pc hp m hm => ?_, nofun, Nat.zero_le _, hz _ rfl, fun _ => (hz _ rfl).symm, nofun⟩
  cases (List.mem_replicate.1 hp).2
  cases hm

theorem inv_step {s s' : State} {t : Nat} {l : Label} (h : Inv s)
    (hs : step true s t l = some s') : Inv s' := by
  obtain ⟨old, new, sh, hold, htr, rfl⟩ := step_eq hs
  have hmem := List.mem_of_getElem? hold
  have oldInHand := h.inHand old hmem
  have hcrit := sumMap_set crit new hold
  have hrun := sumMap_set inRun new hold
  -- `inHand` after the step, for the mutex `mx` of the new shared state
  have inHand' : ∀ {mx : Option Nat}, (∀ m, mutexOf new = some m → mx = some m) →
      (∀ m, s.mutex = some m → mx = some m) →
      ∀ pc ∈ s.pcs.set t new, ∀ m, mutexOf pc = some m → mx = some m := by
    intro mx h1 h2 pc hp m e
    rcases List.mem_or_eq_of_mem_set hp with hp | rfl
    · exact h2 m (h.inHand pc hp m e)
    · exact h1 m e
  cases Tr.of_trans htr with
  | quiet hc hr hq =>
    rw [hc] at hcrit
    rw [hr] at hrun
    have critEq := Nat.add_right_cancel hcrit
    have runEq := Nat.add_right_cancel hrun
    exact ⟨inHand' (fun m e => (hq m e).elim id (oldInHand m)) (fun _ => id), h.heldIs, h.oneHolder,
      critEq ▸ h.critHeld, runEq ▸ h.runsUnset, h.runsSet⟩
  | init hn =>
    -- nobody has a mutex in hand or holds one yet
    have critEq := Nat.add_right_cancel hcrit
    have runEq := Nat.add_right_cancel hrun
    refine ⟨inHand' (fun m e => e ▸ rfl) (fun m e => (nomatch hn ▸ e)),
      fun x hx => (nomatch hn ▸ h.heldIs x hx), h.oneHolder, critEq ▸ h.critHeld, runEq ▸ h.runsUnset,
      h.runsSet⟩
  | acq m hnot =>
    have hmx := oldInHand m rfl
    have hnil : s.held = [] := List.eq_nil_iff_forall_not_mem.2 fun x hx =>
      hnot (Option.some.inj ((h.heldIs x hx).symm.trans hmx) ▸ hx)
    -- `hcrit` with `crit (.have m)`, `crit (.locked m)` evaluated to 0 and 1; likewise in the cases below
    have hcrit : sumMap crit (s.pcs.set t (.locked m)) = sumMap crit s.pcs + 1 := hcrit
    have runEq := Nat.add_right_cancel hrun
    refine ⟨inHand' (fun _ e => e ▸ hmx) (fun _ => id), ?_, ?_,
      hcrit.trans (congrArg (· + 1) h.critHeld), runEq ▸ h.runsUnset, h.runsSet⟩
    · intro x hx
      rw [hnil] at hx
      cases List.mem_singleton.1 hx
      exact hmx
    · rw [hnil]
      exact Nat.le_refl 1
  | run m hf =>
    have critEq := Nat.add_right_cancel hcrit
    have hrun : sumMap inRun (s.pcs.set t (.running m)) = sumMap inRun s.pcs + 1 := hrun
    exact ⟨inHand' (fun _ e => oldInHand _ e) (fun _ => id), h.heldIs, h.oneHolder, critEq ▸ h.critHeld,
      fun _ => (congrArg (· + 1) (h.runsUnset hf)).trans hrun.symm, fun e => nomatch hf ▸ e⟩
  | setFlag m =>
    -- the thread that leaves is the only one running, so `runs` is 1 if the flag was not set yet
    have critEq := Nat.add_right_cancel hcrit
    have h1 : 1 ≤ sumMap inRun s.pcs := le_sumMap inRun hmem
    have hone : sumMap inRun s.pcs = 1 :=
      Nat.le_antisymm (Nat.le_trans (sumMap_mono inRun_le_crit s.pcs) (h.critHeld ▸ h.oneHolder)) h1
    refine ⟨inHand' (fun _ e => oldInHand _ e) (fun _ => id), h.heldIs, h.oneHolder, critEq ▸ h.critHeld,
      nofun, fun _ => ?_⟩
    cases hf : s.flag with
    | true => exact h.runsSet hf
    | false => exact (h.runsUnset hf).trans hone
  | rel m =>
    -- the thread is counted in `crit`, so somebody holds a mutex: this one
    have runEq := Nat.add_right_cancel hrun
    have hcrit : sumMap crit (s.pcs.set t .done) + 1 = sumMap crit s.pcs := hcrit
    have h1 : 1 ≤ sumMap crit s.pcs := le_sumMap crit hmem
    obtain ⟨x, hx⟩ := List.exists_mem_of_length_pos (h.critHeld ▸ h1)
    cases (h.heldIs x hx).symm.trans (oldInHand m rfl)
    refine ⟨inHand' nofun (fun _ => id), fun y hy => h.heldIs y (List.mem_of_mem_erase hy),
      Nat.le_trans List.length_erase_le h.oneHolder, ?_, runEq ▸ h.runsUnset, h.runsSet⟩
    exact (Nat.eq_sub_of_add_eq (hcrit.trans h.critHeld)).trans (List.length_erase_of_mem hx).symm

theorem inv_reach (n : Nat) (s : State) (hr : Reach true n s) : Inv s := by
  induction hr with
  | init => exact inv_init n
  | step _ hs ih => exact inv_step ih hs

theorem reach_of_run (a : Bool) (n : Nat) :
    ∀ (ls : List (Nat × Label)) (s s' : State), Reach a n s → run a s ls = some s' → Reach a n s' := by
  intro ls
  induction ls with
  | nil => intro s s' hr h; simp [run] at h; cases h; exact hr
  | cons x rest ih =>
    intro s s' hr h
    obtain ⟨t, l⟩ := x
    simp only [run] at h
    split at h
    · rename_i s1 hs; exact ih s1 s' (Reach.step hr hs) h
    · cases h

end SaVerif.ExecOnce
