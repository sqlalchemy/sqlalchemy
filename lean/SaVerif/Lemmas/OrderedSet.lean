import SaVerif.Model.OrderedSet
import SaVerif.Model.IdentitySet
import SaVerif.Lemmas.ListFacts
/-! The order specification: folding append-if-absent (`dictUpdate l xs`, the key list of `dict.update`;
`uniqueList` and `OrderedSet.update` on `_list` are the same fold) has the closed form
`l ++ (firstOcc xs).filter (· ∉ l)` (`dictUpdate_eq`), from which the iteration order of
`update`, `union`, both symmetric differences and `unique_list` is read off. -/
namespace SaVerif.Coll

theorem mem_setAdd {st : List Elem} {x y : Elem} : y ∈ setAdd st x ↔ y = x ∨ y ∈ st := by
  unfold setAdd
  split
  next h => exact ⟨Or.inr, fun h' => h'.elim (fun e => e ▸ List.contains_iff_mem.1 h) id⟩
  · exact List.mem_cons

theorem nodup_setAdd {st : List Elem} {x : Elem} (h : st.Nodup) : (setAdd st x).Nodup := by
  unfold setAdd
  split
  · exact h
  next hx => exact List.nodup_cons.2 ⟨fun hm => hx (List.contains_iff_mem.2 hm), h⟩

theorem mem_setRemove {st : List Elem} {x y : Elem} : y ∈ setRemove st x ↔ y ∈ st ∧ y ≠ x := by
  unfold setRemove
  simp [List.mem_filter]

theorem nodup_setRemove {st : List Elem} {x : Elem} (h : st.Nodup) : (setRemove st x).Nodup :=
  h.filter _

theorem mem_setUpdate {l st : List Elem} {y : Elem} : y ∈ setUpdate st l ↔ y ∈ st ∨ y ∈ l := by
  unfold setUpdate
  induction l generalizing st with
  | nil => simp
  | cons a l ih => rw [List.foldl_cons, ih, mem_setAdd, List.mem_cons, or_comm (a := y = a), or_assoc]

theorem nodup_setUpdate {l st : List Elem} (h : st.Nodup) : (setUpdate st l).Nodup :=
  List.foldlRecOn l _ h fun _ hb _ _ => nodup_setAdd hb

theorem mem_setInter {st : List Elem} {os : List (List Elem)} {y : Elem} :
    y ∈ setInter st os ↔ y ∈ st ∧ ∀ o ∈ os, y ∈ o := by
  unfold setInter
  simp [List.mem_filter]

theorem mem_setDiff {st : List Elem} {os : List (List Elem)} {y : Elem} :
    y ∈ setDiff st os ↔ y ∈ st ∧ ∀ o ∈ os, y ∉ o := by
  unfold setDiff
  simp [List.mem_filter]

theorem not_mem_of_mem_filter_new {l l2 : List Elem} {x : Elem}
    (hx : x ∈ l2.filter (fun a => !l.contains a)) : x ∉ l :=
  ListFacts.not_contains_iff.1 (List.mem_filter.1 hx).2

theorem mem_append_new {l l2 : List Elem} {x : Elem} :
    x ∈ l ++ l2.filter (fun a => !l.contains a) ↔ x ∈ l ∨ x ∈ l2 := by
  rw [List.mem_append, List.mem_filter]
  refine ⟨Or.imp_right And.left, fun h => ?_⟩
  by_cases hx : x ∈ l
  · exact Or.inl hx
  · exact Or.inr ⟨h.resolve_left hx, ListFacts.not_contains_iff.2 hx⟩

theorem nodup_append_new {l l1 l2 : List Elem} (h1 : l1.Nodup) (h2 : l2.Nodup)
    (hs : ∀ x ∈ l1, x ∈ l) : (l1 ++ l2.filter (fun a => !l.contains a)).Nodup :=
  List.nodup_append.2 ⟨h1, h2.filter _,
    fun a ha _ hb hab => not_mem_of_mem_filter_new (hab ▸ hb) (hs a ha)⟩

theorem filter_ne_of_not_mem {l : List Elem} {x : Elem} (h : x ∉ l) : l.filter (fun y => y != x) = l :=
  List.filter_eq_self.2 fun _ hy => bne_iff_ne.2 fun e => h (e ▸ hy)

theorem filter_ne_concat {l : List Elem} {v : Elem} (h : (l ++ [v]).Nodup) :
    (l ++ [v]).filter (fun y => y != v) = l := by
  have hv : v ∉ l := fun hm => (List.nodup_append.1 h).2.2 v hm v List.mem_cons_self rfl
  rw [List.filter_append, filter_ne_of_not_mem hv, List.filter_cons_of_neg (by simp), List.filter_nil,
    List.append_nil]

theorem filter_contains_congr {l st : List Elem} {p : Elem → Bool}
    (h : ∀ y ∈ l, y ∈ st ↔ p y = true) : l.filter (fun a => st.contains a) = l.filter p :=
  List.filter_congr fun y hy => by rw [Bool.eq_iff_iff, List.contains_iff_mem]; exact h y hy

theorem mem_setSymDiff {st c : List Elem} {y : Elem} :
    y ∈ setSymDiff st c ↔ (y ∈ st ∧ y ∉ c) ∨ (y ∈ c ∧ y ∉ st) := by
  unfold setSymDiff
  simp [List.mem_filter, mem_setUpdate]

theorem nodup_setSymDiff {st c : List Elem} (h : st.Nodup) : (setSymDiff st c).Nodup :=
  nodup_append_new (h.filter _) (nodup_setUpdate List.nodup_nil)
    fun _ hx => (List.mem_filter.1 hx).1

def firstOcc : List Elem → List Elem
  | [] => []
  | x :: xs => x :: (firstOcc xs).filter (fun y => y != x)

theorem mem_firstOcc {l : List Elem} {y : Elem} : y ∈ firstOcc l ↔ y ∈ l := by
  induction l with
  | nil => exact Iff.rfl
  | cons a l ih =>
    simp only [firstOcc, List.mem_cons, List.mem_filter, ih, bne_iff_ne]
    by_cases hy : y = a
    · simp only [hy, true_or]
    · simp only [hy, false_or, ne_eq, not_false_eq_true, and_true]

theorem nodup_firstOcc (l : List Elem) : (firstOcc l).Nodup := by
  induction l with
  | nil => exact List.nodup_nil
  | cons a l ih =>
    refine List.nodup_cons.2 ⟨fun h => ?_, ih.filter _⟩
    exact bne_iff_ne.1 (List.mem_filter.1 h).2 rfl

theorem firstOcc_of_nodup {l : List Elem} (h : l.Nodup) : firstOcc l = l := by
  induction l with
  | nil => rfl
  | cons a l ih =>
    rw [List.nodup_cons] at h
    rw [firstOcc, ih h.2, filter_ne_of_not_mem h.1]

theorem firstOcc_filter (p : Elem → Bool) (l : List Elem) :
    firstOcc (l.filter p) = (firstOcc l).filter p := by
  induction l with
  | nil => rfl
  | cons x xs ih =>
    rw [List.filter_cons, firstOcc, List.filter_cons, List.filter_filter]
    cases hp : p x
    · -- `x` goes, and so does every later copy of it, by `p` alone
      rw [if_neg Bool.false_ne_true, if_neg Bool.false_ne_true, ih]
      refine List.filter_congr fun y _ => ?_
      by_cases hy : y = x
      · rw [hy, hp]; rfl
      · rw [bne_iff_ne.2 hy, Bool.and_true]
    · rw [if_pos rfl, if_pos rfl, firstOcc, ih, List.filter_filter]
      exact congrArg (x :: ·) (List.filter_congr fun y _ => Bool.and_comm _ _)

theorem dictUpdate_eq (l xs : List Elem) :
    dictUpdate l xs = l ++ (firstOcc xs).filter (fun y => !l.contains y) := by
  induction xs generalizing l with
  | nil => exact (List.append_nil l).symm
  | cons x xs ih =>
    show dictUpdate (dictSet l x) xs = _
    rw [ih, firstOcc, List.filter_cons, List.filter_filter]
    unfold dictSet
    cases hx : l.contains x
    · -- `x` is new: it is appended, and later copies of it are dropped
      rw [if_neg Bool.false_ne_true, if_pos (show (!false) = true from rfl), List.append_assoc]
      refine congrArg (l ++ x :: ·) (List.filter_congr fun y _ => ?_)
      rw [List.contains_append, List.contains_cons, List.contains_nil, Bool.or_false, Bool.not_or, bne]
    · -- `x` is old: nothing is added, and dropping copies of `x` changes nothing
      rw [if_pos rfl, if_neg (show ¬(!true) = true from Bool.false_ne_true)]
      refine congrArg (l ++ ·) (List.filter_congr fun y _ => ?_)
      by_cases hy : y = x
      · rw [hy, hx]; rfl
      · rw [bne_iff_ne.2 hy, Bool.and_true]

/-- both symmetric differences: `c1` is the form of `c` the code tests against, `c2` the one it
    iterates -/
theorem dictUpdate_symDiff {l c c1 c2 : List Elem} (h1 : ∀ y, y ∈ c1 ↔ y ∈ c)
    (h2 : firstOcc c2 = firstOcc c) :
    dictUpdate (l.filter (fun a => !c1.contains a)) (c2.filter (fun a => !l.contains a))
      = l.filter (fun a => !c.contains a) ++ (firstOcc c).filter (fun a => !l.contains a) := by
  have hl : l.filter (fun a => !c1.contains a) = l.filter (fun a => !c.contains a) :=
    List.filter_congr fun y _ => congrArg (!·) <| by
      rw [Bool.eq_iff_iff, List.contains_iff_mem, List.contains_iff_mem, h1]
  rw [dictUpdate_eq, firstOcc_filter, h2, List.filter_filter, hl]
  refine congrArg (_ ++ ·) (List.filter_congr fun y hy => ?_)
  -- `y` occurs in `c`, so it is not among the survivors
  have : (l.filter (fun a => !c.contains a)).contains y = false := Bool.eq_false_iff.2 fun hm =>
    not_mem_of_mem_filter_new (List.contains_iff_mem.1 hm) (mem_firstOcc.1 hy)
  rw [this]
  rfl

theorem mem_dictUpdate {l xs : List Elem} {y : Elem} : y ∈ dictUpdate l xs ↔ y ∈ l ∨ y ∈ xs := by
  rw [dictUpdate_eq, mem_append_new, mem_firstOcc]

theorem nodup_dictUpdate {l : List Elem} (h : l.Nodup) (xs : List Elem) : (dictUpdate l xs).Nodup := by
  rw [dictUpdate_eq]
  exact nodup_append_new h (nodup_firstOcc xs) fun _ hx => hx

theorem mem_dictSet {l : List Elem} {x y : Elem} : y ∈ dictSet l x ↔ y ∈ l ∨ y = x :=
  (mem_dictUpdate (xs := [x])).trans (or_congr_right List.mem_singleton)

theorem nodup_dictSet {l : List Elem} (h : l.Nodup) (x : Elem) : (dictSet l x).Nodup :=
  nodup_dictUpdate h [x]

theorem dictUpdate_nil (xs : List Elem) : dictUpdate [] xs = firstOcc xs :=
  (dictUpdate_eq [] xs).trans (List.filter_eq_self.2 fun _ _ => rfl)

theorem dictUpdate_nil_of_nodup {l : List Elem} (h : l.Nodup) : dictUpdate [] l = l :=
  (dictUpdate_nil l).trans (firstOcc_of_nodup h)

/-- `uniqueList seq` unfolds to the fold `dictUpdate [] seq` -/
theorem uniqueList_eq_firstOcc (seq : List Elem) : uniqueList seq = firstOcc seq := dictUpdate_nil seq

theorem mem_uniqueList {l : List Elem} {y : Elem} : y ∈ uniqueList l ↔ y ∈ l := by
  rw [uniqueList_eq_firstOcc]; exact mem_firstOcc

theorem nodup_uniqueList (l : List Elem) : (uniqueList l).Nodup := by
  rw [uniqueList_eq_firstOcc]; exact nodup_firstOcc l

end SaVerif.Coll
