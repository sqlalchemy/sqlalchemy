import SaVerif.Model.Like
/-! On the pattern the compiler renders around an escaped operand, both LIKE matchers decide
    prefix / suffix / infix up to the character comparison `ceq nc` (`Raw`): `sqlite_Lit` for SQLite's
    `patternCompare`, whose own comparison `eqv` is the same function (`eqv_eq_ceq`), on any pattern
    that spells the operand with escapes (`Lit`); `std_lit` for the standard matcher, on the one
    spelling `lit esc p` that autoescape produces. -/
namespace SaVerif.Like
open SaVerif.Gen.LikeDefaults

/-- the regenerated constants have the shape the lemmas below are about; a source edit
    that changes the escaped set makes this `decide` (and so every theorem built on it) fail -/
theorem gen_table : escapedChars = ['%', '_'] ∧ escapesEscape = true := by
  decide +kernel

/-- the regenerated default escape is neither `%` nor `_` nor an ASCII letter
    (`C08.autoescape_default_correct` uses the first and the last); a source edit that makes it one of
    these fails this `decide` -/
theorem gen_default :
    defaultEscape ≠ '%' ∧ defaultEscape ≠ '_' ∧
      ¬ (65 ≤ defaultEscape.toNat ∧ defaultEscape.toNat ≤ 90) ∧
      ¬ (97 ≤ defaultEscape.toNat ∧ defaultEscape.toNat ≤ 122) := by
  decide +kernel

/-- what autoescape is meant to produce: every `%`, `_` and escape character is
    preceded by one escape character, in a single pass -/
def lit (esc : Char) : List Char → List Char
  | [] => []
  | c :: cs => if c = esc ∨ c = '%' ∨ c = '_' then esc :: c :: lit esc cs else c :: lit esc cs

theorem escapeLike_eq_lit (esc : Char) (p : List Char) : escapeLike esc p = lit esc p := by
  induction p with
  | nil => rfl
  | cons c cs ih =>
    rw [escapeLike, ih, gen_table.1, gen_table.2, lit]
    -- `lit` names the escape first, `escapeLike` tests it last: `or_comm` brings the conditions together
    simp only [List.contains_cons, List.contains_nil, Bool.or_false, Bool.true_and, Bool.or_eq_true,
      beq_iff_eq, or_comm]

def stripPrefix (r : Char → Char → Bool) : List Char → List Char → Option (List Char)
  | [], s => some s
  | _ :: _, [] => none
  | a :: p, b :: s => if r a b then stripPrefix r p s else none

theorem stripPrefix_eq_some_iff (p s t : List Char) :
    stripPrefix (· == ·) p s = some t ↔ s = p ++ t := by
  induction p generalizing s with
  | nil => simp [stripPrefix, eq_comm]
  | cons a p ih =>
    cases s with
    | nil => simp [stripPrefix]
    | cons b s =>
      simp only [stripPrefix, List.cons_append, List.cons.injEq]
      by_cases hab : a = b
      · subst hab; simp [ih]
      · have : ¬ b = a := fun h => hab h.symm
        simp [hab, this]

theorem stripPrefix_isSome_iff (p s : List Char) :
    (stripPrefix (· == ·) p s).isSome = true ↔ p <+: s := by
  rw [Option.isSome_iff_exists]
  exact exists_congr fun t => (stripPrefix_eq_some_iff p s t).trans eq_comm

/-- prefix / suffix / infix up to a character relation `r`: the shape in which both matchers
    decide the three operators -/
def Raw (r : Char → Char → Bool) : Kind → List Char → List Char → Prop
  | .startswith, p, s => (stripPrefix r p s).isSome = true
  | .endswith, p, s => ∃ post, post <:+ s ∧ stripPrefix r p post = some []
  | .contains, p, s => ∃ post, post <:+ s ∧ (stripPrefix r p post).isSome = true

def onHead (nc : Bool) (c : Char) (f : List Char → R) : List Char → R
  | [] => .no
  | c2 :: s => if eqv nc c c2 then f s else .no

theorem search_yes_iff (nc : Bool) (f : List Char → R) (hf : ∀ t, f t ≠ .abort) (c : Char)
    (s : List Char) : search nc f c s = .yes ↔ ∃ post, post <:+ s ∧ onHead nc c f post = .yes := by
  induction s with
  | nil => simp [search, onHead]
  | cons c2 s ih =>
    -- a suffix of `c2 :: s` is the whole or a suffix of `s`; `← ih` turns the latter case into `search nc f c s = .yes`
    simp only [List.suffix_cons_iff, or_and_right, exists_or, exists_eq_left, ← ih, search]
    by_cases he : eqv nc c c2 = true
    · simp only [onHead, he, if_true]
      cases hfs : f s with
      | yes => simp
      | no => simp
      | abort => exact absurd hfs (hf s)
    · simp [onHead, he]

theorem mOne_ne (E : Option Char) {c : Char} (h : c ≠ '_') : (mOne E == some c) = false := by
  have h' : ¬ '_' = c := fun hh => h hh.symm
  unfold mOne; split <;> simp [h']

theorem mOne_esc (E : Option Char) {e : Char} (h : E = some e) : (mOne E == some e) = false := by
  by_cases he : e = '_'
  · subst he; subst h; simp [mOne]
  · exact mOne_ne E he

/-- `Lit E p P`: under escape setting `E` the pattern `P` spells the literal text `p` -/
inductive Lit (E : Option Char) : List Char → List Char → Prop
  | nil : Lit E [] []
  | plain {c : Char} {p P : List Char} : c ≠ '%' → c ≠ '_' → E ≠ some c → Lit E p P →
      Lit E (c :: p) (c :: P)
  | esc {e c : Char} {p P : List Char} : E = some e → Lit E p P → Lit E (c :: p) (e :: c :: P)

theorem mAll_eq_percent (E : Option Char) : mAll E = some '%' ↔ E ≠ some '%' := by
  unfold mAll; split <;> simp_all

theorem mAll_some (e : Char) : mAll (some e) = some '%' ↔ e ≠ '%' := by
  rw [mAll_eq_percent, ne_eq, Option.some.injEq]

theorem star_nil (nc : Bool) (E : Option Char) (s : List Char) : star nc E [] s = .yes := by
  rw [star.eq_def]

section
variable (nc : Bool) (E : Option Char) (hA : mAll E = some '%')
include hA

theorem Lit_cons {c : Char} {p P : List Char} (h : Lit E (c :: p) P) :
    ∃ P', Lit E p P' ∧
      (∀ rest s, mtch nc E (P ++ rest) s = onHead nc c (mtch nc E (P' ++ rest)) s) ∧
      ∀ rest s, star nc E (P ++ rest) s = search nc (mtch nc E (P' ++ rest)) c s := by
  cases h with
  | @plain _ _ P' hpct hund hesc hl =>
    have hp : (some '%' == some c) = false := by simp [Ne.symm hpct]
    have hu : (mOne E == some c) = false := mOne_ne E hund
    have he : (E == some c) = false := by simp [hesc]
    refine ⟨P', hl, fun rest s => ?_, fun rest s => ?_⟩
    · rw [List.cons_append, mtch.eq_def]
      simp only [hA, hp, he, Bool.false_eq_true, ↓reduceIte]
      cases s with
      | nil => rfl
      | cons c2 s' => simp only [hu, Bool.or_false, onHead]
    · rw [List.cons_append, star.eq_def]
      simp only [hA, hp, hu, he, Bool.false_eq_true, ↓reduceIte]
  | @esc e _ _ P' hE hl =>
    have hp : (some '%' == some e) = false := by simp [Ne.symm ((mAll_some e).1 (hE ▸ hA))]
    have hu : (mOne E == some e) = false := mOne_esc E hE
    have he : (E == some e) = true := by simp [hE]
    refine ⟨P', hl, fun rest s => ?_, fun rest s => ?_⟩
    · rw [List.cons_append, List.cons_append, mtch.eq_def]
      simp only [hA, hp, he, Bool.false_eq_true, ↓reduceIte]
      cases s <;> rfl
    · rw [List.cons_append, List.cons_append, star.eq_def]
      -- `star` asks for `_` before the escape, hence `hu`
      simp only [hA, hp, hu, he, Bool.false_eq_true, ↓reduceIte]

theorem mtch_Lit {p P : List Char} (h : Lit E p P) (rest s : List Char) :
    mtch nc E (P ++ rest) s =
      match stripPrefix (eqv nc) p s with
      | some t => mtch nc E rest t
      | none => .no := by
  induction p generalizing P s with
  | nil => cases h; rfl
  | cons c p ih =>
    obtain ⟨P', hl, hm, _⟩ := Lit_cons nc E hA h
    rw [hm]
    cases s with
    | nil => rfl
    | cons c2 s =>
      simp only [onHead, stripPrefix]
      split
      · exact ih hl s
      · rfl

theorem star_percent (s : List Char) : star nc E ['%'] s = .yes := by
  rw [star.eq_def]; simp [hA, star_nil]

theorem mtch_percent (p s : List Char) : mtch nc E ('%' :: p) s = star nc E p s := by
  rw [mtch.eq_def]; simp [hA]

theorem mtch_Lit_end {p P : List Char} (h : Lit E p P) (s : List Char) :
    mtch nc E P s = .yes ↔ stripPrefix (eqv nc) p s = some [] := by
  rw [← List.append_nil P, mtch_Lit nc E hA h]
  cases stripPrefix (eqv nc) p s with
  | none => simp
  | some t => cases t <;> simp [mtch]

theorem mtch_Lit_percent {p P : List Char} (h : Lit E p P) (s : List Char) :
    mtch nc E (P ++ ['%']) s = .yes ↔ (stripPrefix (eqv nc) p s).isSome = true := by
  rw [mtch_Lit nc E hA h]
  cases stripPrefix (eqv nc) p s with
  | none => simp
  | some t => simp [mtch_percent nc E hA, star_nil nc E]

/-- after a `%`, a pattern that begins with a literal character is tried at every suffix -/
theorem star_Lit {c : Char} {p P : List Char} (h : Lit E (c :: p) P) (rest : List Char)
    (hna : ∀ t, mtch nc E rest t ≠ .abort) (s : List Char) :
    star nc E (P ++ rest) s = .yes ↔ ∃ post, post <:+ s ∧ mtch nc E (P ++ rest) post = .yes := by
  obtain ⟨P', hl, hm, hstar⟩ := Lit_cons nc E hA h
  have hna' : ∀ t, mtch nc E (P' ++ rest) t ≠ .abort := by
    intro t
    rw [mtch_Lit nc E hA hl]
    split
    · exact hna _
    · simp
  simp only [hstar, search_yes_iff nc _ hna', hm]

end

theorem lit_Lit (esc : Char) (p : List Char) : Lit (some esc) p (lit esc p) := by
  induction p with
  | nil => exact .nil
  | cons c p ih =>
    by_cases hc : c = esc ∨ c = '%' ∨ c = '_'
    · simp only [lit, if_pos hc]; exact .esc rfl ih
    · simp only [lit, if_neg hc]
      refine .plain (fun h => hc (Or.inr (Or.inl h))) (fun h => hc (Or.inr (Or.inr h))) ?_ ih
      intro h; exact hc (Or.inl (Option.some.inj h).symm)

theorem Lit_escapeLike (esc : Char) (p : List Char) : Lit (some esc) p (escapeLike esc p) :=
  escapeLike_eq_lit esc p ▸ lit_Lit esc p

theorem toNat_ofNat_small (n : Nat) (h : n < 0xd800) : (Char.ofNat n).toNat = n := by
  have hv : n.isValidChar := Or.inl h
  unfold Char.ofNat
  rw [dif_pos hv]
  simp [Char.ofNatAux, Char.toNat, UInt32.toNat]

theorem toNat_lowerAscii (c : Char) :
    (lowerAscii c).toNat = if 65 ≤ c.toNat ∧ c.toNat ≤ 90 then c.toNat + 32 else c.toNat := by
  unfold lowerAscii
  split
  · exact toNat_ofNat_small _ (by omega)
  · rfl

theorem lowerAscii_idem (c : Char) : lowerAscii (lowerAscii c) = lowerAscii c := by
  have h := toNat_lowerAscii c
  rw [lowerAscii, if_neg (by split at h <;> omega)]

-- reducible, so that a hypothesis `Caseless esc` serves `simp only` as the rewrite rule it unfolds to
@[reducible] def Caseless (e : Char) : Prop := ∀ c, lowerAscii c = e ↔ c = e

theorem caseless_of_not_letter (e : Char) (h : ¬ (65 ≤ e.toNat ∧ e.toNat ≤ 90))
    (h' : ¬ (97 ≤ e.toNat ∧ e.toNat ≤ 122)) : Caseless e := by
  intro c
  constructor
  · intro he
    have := toNat_lowerAscii c
    rw [he] at this
    rw [← he, lowerAscii, if_neg (by split at this <;> omega)]
  · intro he; rw [he, lowerAscii, if_neg h]

theorem lowerS_idem (s : List Char) : lowerS (lowerS s) = lowerS s := by
  simp [lowerS, lowerAscii_idem]

theorem lowerS_lit (esc : Char) (hesc : Caseless esc) (p : List Char) :
    lowerS (lit esc p) = lit esc (lowerS p) := by
  have hp := caseless_of_not_letter '%' (by decide) (by decide)
  have hu := caseless_of_not_letter '_' (by decide) (by decide)
  have he : lowerAscii esc = esc := (hesc esc).2 rfl
  induction p with
  | nil => rfl
  | cons c p ih =>
    simp only [lowerS] at ih
    by_cases hc : c = esc ∨ c = '%' ∨ c = '_'
    · simp only [lit, lowerS, List.map_cons, hesc, hp, hu, if_pos hc, he, ih]
    · simp only [lit, lowerS, List.map_cons, hesc, hp, hu, if_neg hc, ih]

theorem anySuffix_iff (f : List Char → Bool) (s : List Char) :
    anySuffix f s = true ↔ ∃ post, post <:+ s ∧ f post = true := by
  induction s with
  | nil => simp [anySuffix]
  | cons c s ih =>
    simp only [anySuffix, Bool.or_eq_true, ih, List.suffix_cons_iff, or_and_right, exists_or,
      exists_eq_left]

theorem likeStd_lit (nc : Bool) (esc : Char) (p rest s : List Char) :
    likeStd nc (some esc) (lit esc p ++ rest) s =
      match stripPrefix (ceq nc) p s with
      | some t => likeStd nc (some esc) rest t
      | none => false := by
  induction p generalizing s with
  | nil => simp [lit, stripPrefix]
  | cons c p ih =>
    rw [lit]
    split
    · rw [List.cons_append, List.cons_append, likeStd.eq_def]
      cases s with
      | nil => simp [stripPrefix]
      | cons c2 s' =>
        simp only [beq_self_eq_true, if_true, stripPrefix, ih]
        cases ceq nc c c2 <;> rfl
    · rename_i hc
      simp only [not_or] at hc
      rw [List.cons_append, likeStd.eq_def]
      cases s with
      | nil => simp [stripPrefix, hc, Ne.symm hc.1]
      | cons c2 s' => cases h : ceq nc c c2 <;> simp [stripPrefix, ih, hc, Ne.symm hc.1, h]

theorem likeStd_percent (nc : Bool) (esc : Char) (h1 : esc ≠ '%') (pat s : List Char) :
    likeStd nc (some esc) ('%' :: pat) s = anySuffix (likeStd nc (some esc) pat) s := by
  rw [likeStd.eq_def]
  simp [h1]

theorem likeStd_lit_end (nc : Bool) (esc : Char) (p s : List Char) :
    likeStd nc (some esc) (lit esc p) s = true ↔ stripPrefix (ceq nc) p s = some [] := by
  rw [← List.append_nil (lit esc p), likeStd_lit]
  cases hsp : stripPrefix (ceq nc) p s with
  | none => simp
  | some t => cases t <;> simp [likeStd]

theorem ceq_false : ceq false = (· == ·) := by
  funext a b; simp [ceq]

theorem stripPrefix_ceq_true (p s : List Char) :
    (stripPrefix (ceq true) p s).map lowerS = stripPrefix (· == ·) (lowerS p) (lowerS s) := by
  induction p generalizing s with
  | nil => rfl
  | cons a p ih =>
    cases s with
    | nil => rfl
    | cons b s =>
      simp only [stripPrefix, lowerS, List.map_cons, ceq, if_true]
      by_cases h : (lowerAscii a == lowerAscii b) = true
      · simp only [h, if_true]; exact ih s
      · simp [h]

theorem stripPrefix_ceq_true_isSome (p s : List Char) :
    (stripPrefix (ceq true) p s).isSome = (stripPrefix (· == ·) (lowerS p) (lowerS s)).isSome := by
  rw [← stripPrefix_ceq_true, Option.isSome_map]

theorem stripPrefix_ceq_true_nil (p s : List Char) :
    stripPrefix (ceq true) p s = some [] ↔
      stripPrefix (· == ·) (lowerS p) (lowerS s) = some [] := by
  rw [← stripPrefix_ceq_true]
  cases stripPrefix (ceq true) p s with
  | none => simp
  | some t => cases t <;> simp [lowerS]

theorem exists_suffix_lowerS (Q Q' : List Char → Prop) (h : ∀ post, Q post ↔ Q' (lowerS post))
    (s : List Char) : (∃ post, post <:+ s ∧ Q post) ↔ ∃ post, post <:+ lowerS s ∧ Q' post := by
  constructor
  · rintro ⟨post, hsuf, hq⟩
    exact ⟨lowerS post, hsuf.map _, (h post).1 hq⟩
  · rintro ⟨post', ⟨pre', e⟩, hq⟩
    obtain ⟨pre, post, e1, rfl, rfl⟩ := List.map_eq_append_iff.1 e.symm
    exact ⟨post, ⟨pre, e1.symm⟩, (h post).2 hq⟩

theorem eqv_eq_ceq (nc : Bool) : eqv nc = ceq nc := by
  funext a b
  cases nc
  · simp [eqv, ceq]
  by_cases hl : lowerAscii a = lowerAscii b
  · -- two different characters with the same lower-case form are ASCII letters
    have key : a = b ∨ (a.toNat < 128 ∧ b.toNat < 128) := by
      have h := congrArg Char.toNat hl
      rw [toNat_lowerAscii, toNat_lowerAscii] at h
      by_cases hab : a.toNat = b.toNat
      · exact .inl (Char.toNat_inj.1 hab)
      · right; split at h <;> split at h <;> omega
    rcases key with rfl | key
    · simp [eqv, ceq]
    · simp [eqv, ceq, hl, key.1, key.2]
  · have hab : a ≠ b := fun h => hl (h ▸ rfl)
    simp only [eqv, ceq, beq_eq_false_iff_ne.2 hab, beq_eq_false_iff_ne.2 hl]
    rfl

theorem sqlite_Lit (nc : Bool) (E : Option Char) (hA : mAll E = some '%') {p P : List Char}
    (h : Lit E p P) (k : Kind) (s : List Char) :
    likeSqlite nc E (wrap k P) s = true ↔ Raw (ceq nc) k p s := by
  rw [← eqv_eq_ceq]
  cases k with
  | startswith => simp only [likeSqlite, wrap, beq_iff_eq, mtch_Lit_percent nc E hA h, Raw]
  | endswith =>
    simp only [likeSqlite, wrap, mtch_percent nc E hA, beq_iff_eq, Raw]
    cases p with
    | nil =>
      cases h
      simp only [star_nil nc E, true_iff]
      exact ⟨[], List.nil_suffix, rfl⟩
    | cons c p =>
      have := star_Lit nc E hA h [] (fun t => by cases t <;> simp [mtch]) s
      simp only [List.append_nil] at this
      simp only [this, mtch_Lit_end nc E hA h]
  | contains =>
    simp only [likeSqlite, wrap, mtch_percent nc E hA, beq_iff_eq, Raw]
    cases p with
    | nil =>
      cases h
      simp only [List.nil_append, star_percent nc E hA, true_iff]
      exact ⟨s, List.suffix_refl s, rfl⟩
    | cons c p =>
      have hna : ∀ t, mtch nc E ['%'] t ≠ .abort := fun t => by
        rw [mtch_percent nc E hA, star_nil nc E]; simp
      simp only [star_Lit nc E hA h ['%'] hna, mtch_Lit_percent nc E hA h]

theorem std_lit (nc : Bool) (esc : Char) (h1 : esc ≠ '%') (k : Kind) (p s : List Char) :
    likeStd nc (some esc) (wrap k (lit esc p)) s = true ↔ Raw (ceq nc) k p s := by
  have hs : ∀ s, likeStd nc (some esc) (lit esc p ++ ['%']) s = (stripPrefix (ceq nc) p s).isSome := by
    intro s
    rw [likeStd_lit]
    cases stripPrefix (ceq nc) p s with
    | none => rfl
    | some t =>
      simp only [Option.isSome_some, likeStd_percent nc esc h1]
      exact (anySuffix_iff _ t).2 ⟨[], List.nil_suffix, by simp [likeStd]⟩
  cases k with
  | startswith => rw [wrap, hs]; rfl
  | endswith => simp only [Raw, wrap, likeStd_percent nc esc h1, anySuffix_iff, likeStd_lit_end]
  | contains => simp only [Raw, wrap, likeStd_percent nc esc h1, anySuffix_iff, hs]

theorem raw_beq (k : Kind) (p s : List Char) : Raw (· == ·) k p s ↔ pyTest k p s = true := by
  cases k with
  | startswith => simp only [Raw, pyTest, stripPrefix_isSome_iff, List.isPrefixOf_iff_prefix]
  | endswith =>
    simp only [Raw, pyTest, stripPrefix_eq_some_iff, List.append_nil, exists_eq_right,
      List.isSuffixOf_iff_suffix]
  | contains =>
    simp only [Raw, pyTest, anySuffix_iff, stripPrefix_isSome_iff, List.isPrefixOf_iff_prefix]

theorem raw_ceq_true (k : Kind) (p s : List Char) :
    Raw (ceq true) k p s ↔ Raw (· == ·) k (lowerS p) (lowerS s) := by
  cases k with
  | startswith => simp only [Raw, stripPrefix_ceq_true_isSome]
  | endswith => exact exists_suffix_lowerS _ _ (stripPrefix_ceq_true_nil p) s
  | contains => exact exists_suffix_lowerS _ _ (fun post => by rw [stripPrefix_ceq_true_isSome]) s

theorem raw_ceq_lower (nc : Bool) (k : Kind) (p s : List Char) :
    Raw (ceq nc) k (lowerS p) (lowerS s) ↔ Raw (· == ·) k (lowerS p) (lowerS s) := by
  cases nc
  · rw [ceq_false]
  · rw [raw_ceq_true, lowerS_idem, lowerS_idem]

theorem sqlite_Lit_pyTest (E : Option Char) (hA : mAll E = some '%') {p P : List Char}
    (h : Lit E p P) (k : Kind) (s : List Char) : likeSqlite false E (wrap k P) s = pyTest k p s := by
  rw [Bool.eq_iff_iff, sqlite_Lit false E hA h, ceq_false]
  exact raw_beq k p s

theorem evalSqlite_Lit (op : Op) (escape : Option Char) (auto : Bool) (other s : List Char)
    {q : List Char} (hc : op.icase = false) (hA : mAll (effective escape auto other).2 = some '%')
    (h : Lit (effective escape auto other).2 q (effective escape auto other).1) :
    evalSqlite false op escape auto other s = (pyTest op.kind q s != op.neg) := by
  simp only [evalSqlite, hc, Bool.false_eq_true, if_false, sqlite_Lit_pyTest _ hA h]
  cases op.neg <;> simp

end SaVerif.Like
